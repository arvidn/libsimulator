/-
  SimVerif.ResolverSys — one `basic_resolver` as an OPEN system: the program chooses the
  calls (`async_resolve` of literals and of host names with arbitrary oracle answers,
  `cancel()`), at arbitrary instants — including from inside a lookup handler that
  `on_lookup` is invoking inline; the kernel chooses when the timer callback runs. What
  C02/C03 guarantee about the kernel is the side condition `RS.ok` on each label:

    * time never decreases (C02_monotone);
    * the resolver's timer, armed at instant `a` with expiry `e` (the code may arm an expiry
      in the past), completes with success at exactly `max e a` (C03_fires_exactly: a
      successful timer completion runs at max(expiry, wait start)), and nothing later than
      that instant happens before it does (C02: the clock only moves to the next expiry);
    * completing means: the kernel POSTS `on_lookup(success)` (label `timerExpires`); it runs
      later at that same instant (label `timerFires`; the clock does not move while something
      is posted) — other handlers due at that instant may run in between and call into the
      resolver. Re-arming the timer then does NOT take the posted completion back;
    * re-arming a wait that has not completed replaces it: its callback runs with
      `operation_aborted`, for which `on_lookup` returns at once (modelled as nothing);
    * handlers posted by `cancel()` run at the instant they were posted
      (C02_runs_when_posted): their completion is logged at that instant.

  The mechanism functions are those of SimVerif/Resolver.lean, unchanged. Ghost logs record
  requests and completions; the theorems (Props/C14) are stated on the logs.
-/
import SimVerif.Resolver

namespace SimVerif

/-- A call a handler makes on this resolver while `on_lookup` is invoking it inline. -/
inductive RCall where
  | lit (addr : String) (port h : Nat)
  | name (err : Ec) (ips : List String) (lat : Int) (port h : Nat)
  | cancel
  deriving Repr

inductive RLbl where
  | resolveLit (t : Int) (addr : String) (port h : Nat)
  | resolveName (t : Int) (err : Ec) (ips : List String) (lat : Int) (port h : Nat)
  | cancel (t : Int)
  | timerExpires (t : Int)                   -- the kernel posts `on_lookup(success)`
  | timerFires (t : Int) (re : List RCall)   -- `on_lookup(success)` runs; `re` = what the
                                             -- handler it invokes does to this resolver
  deriving Repr

/-- Ghost: one `async_resolve` call. For a literal the "answer" is fixed by the call itself
    (success, the address); for a host name it is the oracle's. `nominal` is the C14
    recurrence, computed on the requests alone (see `RS.doName`). -/
structure RReq where
  t       : Int
  h       : Nat
  port    : Nat
  literal : Bool
  err     : Ec
  ips     : List String
  lat     : Int
  nominal : Int
  deriving Repr

def RReq.ofLit (t : Int) (addr : String) (port h : Nat) : RReq :=
  { t := t, h := h, port := port, literal := true, err := .ok, ips := [addr], lat := 0
    nominal := t + 1000 }

def RReq.ofName (t : Int) (err : Ec) (ips : List String) (lat : Int) (port h : Nat) (nom : Int) :
    RReq :=
  { t := t, h := h, port := port, literal := false, err := err, ips := ips, lat := lat
    nominal := nom }

/-- what the handler must be given when the lookup is not aborted -/
def RReq.expected (q : RReq) : Ec × List (String × Nat) := (q.err, q.ips.map (fun a => (a, q.port)))

/-- Ghost: one handler invocation at instant `t`. `inline` = called from `on_lookup` (as
    opposed to posted by `cancel`); `literal`, `sched` = ghost copies of the queue entry's
    flag and of its `completion_time`. -/
structure RComp where
  t       : Int
  h       : Nat
  ec      : Ec
  res     : List (String × Nat)
  inline  : Bool
  literal : Bool
  sched   : Int
  deriving Repr, DecidableEq

def RComp.ofEntry (t : Int) (inline : Bool) (ec : Ec) (e : REntry) : RComp :=
  { t := t, h := e.h, ec := ec, res := e.res, inline := inline, literal := e.literal
    sched := e.completion }

/-- the effect a logged completion stands for -/
def RComp.eff (c : RComp) : REff := if c.inline then .invoke c.h c.ec c.res else .post c.h c.ec c.res

structure RS where
  r       : R := {}
  timer   : Option (Int × Int) := none   -- pending wait: (expiry, instant it was armed)
  posted  : Bool := false                -- `on_lookup(success)` sits in the io_context queue
  now     : Int := 0                     -- instant of the last label
  ub      : Bool := false                -- `front()` of an empty vector was evaluated
  -- ghosts
  reqLog  : List RReq := []
  compLog : List RComp := []
  lastNom : Option Int := none           -- nominal completion of the last host-name request
                                         -- since the last `cancel()`
  deriving Repr

/-- Interpret the timer effects of a mechanism function (the handler effects are logged by
    the steps themselves, see `cancel_logs_effects`, `fire_logs_effects`). -/
def RS.applyEff (s : RS) : List REff → RS
  | [] => s
  | .armTimer e :: rest => ({ s with timer := some (e, s.now) }).applyEff rest
  | .ub :: rest => ({ s with ub := true }).applyEff rest
  | _ :: rest => s.applyEff rest

def RS.doLit (s : RS) (addr : String) (port h : Nat) : RS :=
  let x := s.r.resolveLiteral s.now addr port h
  ({ s with r := x.1, reqLog := s.reqLog ++ [RReq.ofLit s.now addr port h] }).applyEff x.2

/-- C14's recurrence, on the requests alone: nominal = max(request instant, nominal of the
    previous host-name request) + latency; `cancel()` completes everything, the chain restarts. -/
def RS.nominal (s : RS) (lat : Int) : Int := max s.now (s.lastNom.getD s.now) + lat

def RS.doName (p : RParams) (s : RS) (err : Ec) (ips : List String) (lat : Int) (port h : Nat) : RS :=
  let x := s.r.resolveName p s.now err ips lat port h
  ({ s with r := x.1
            reqLog := s.reqLog ++ [RReq.ofName s.now err ips lat port h (s.nominal lat)]
            lastNom := some (s.nominal lat) }).applyEff x.2

def RS.doCancel (s : RS) : RS :=
  let x := s.r.cancel
  ({ s with r := x.1
            compLog := s.compLog ++ s.r.queue.map (RComp.ofEntry s.now false .aborted)
            lastNom := none }).applyEff x.2

def RS.doCall (p : RParams) (s : RS) : RCall → RS
  | .lit addr port h => s.doLit addr port h
  | .name err ips lat port h => s.doName p err ips lat port h
  | .cancel => s.doCancel

def RS.doFire (p : RParams) (s : RS) (re : List RCall) : RS :=
  let s : RS := { s with posted := false }
  match s.r.onLookupGuard p s.now with
  | some effs => s.applyEff effs
  | none =>
    match s.r.onLookupPop with
    | (_, none) => s
    | (r1, some (v, empty)) =>
      let s : RS := { s with r := r1, compLog := s.compLog ++ [RComp.ofEntry s.now true v.err v] }
      let s := re.foldl (RS.doCall p) s
      let f := s.r.onLookupFinish p empty
      ({ s with r := f.1 }).applyEff f.2

def RS.step (p : RParams) (s : RS) : RLbl → RS
  | .resolveLit t addr port h => ({ s with now := t }).doLit addr port h
  | .resolveName t err ips lat port h => ({ s with now := t }).doName p err ips lat port h
  | .cancel t => ({ s with now := t }).doCancel
  | .timerExpires t => { s with now := t, timer := none, posted := true }
  | .timerFires t re => ({ s with now := t }).doFire p re

/-- nothing happens after the instant the pending wait completes, before it completes; the
    clock does not move while `on_lookup` is posted -/
def RS.notAfterDue (s : RS) (t : Int) : Prop :=
  (match s.timer with
   | none => True
   | some (e, a) => t ≤ max e a) ∧ (s.posted = true → t = s.now)

/-- the pending wait completes at `max expiry armInstant` -/
def RS.dueAt (s : RS) (t : Int) : Prop :=
  match s.timer with
  | none => False
  | some (e, a) => t = max e a

def RCall.ok : RCall → Prop
  | .name _ _ lat _ _ => 0 ≤ lat
  | _ => True

instance RCall.decOk : (c : RCall) → Decidable c.ok
  | .name _ _ lat _ _ => inferInstanceAs (Decidable (0 ≤ lat))
  | .lit _ _ _ => isTrue trivial
  | .cancel => isTrue trivial

instance RS.decNotAfterDue (s : RS) (t : Int) : Decidable (s.notAfterDue t) := by
  unfold RS.notAfterDue; split <;> infer_instance

instance RS.decDueAt (s : RS) (t : Int) : Decidable (s.dueAt t) := by
  unfold RS.dueAt; split <;> infer_instance

/-- What the kernel guarantees about when a label can occur (see the header); latencies the
    configuration returns are non-negative. -/
def RS.ok (s : RS) : RLbl → Prop
  | .resolveLit t _ _ _ => s.now ≤ t ∧ s.notAfterDue t
  | .resolveName t _ _ lat _ _ => s.now ≤ t ∧ s.notAfterDue t ∧ 0 ≤ lat
  | .cancel t => s.now ≤ t ∧ s.notAfterDue t
  | .timerExpires t => s.now ≤ t ∧ s.dueAt t ∧ s.posted = false
  | .timerFires t re => t = s.now ∧ s.posted = true ∧ ∀ c ∈ re, c.ok

instance RS.decOk (s : RS) : (l : RLbl) → Decidable (s.ok l)
  | .resolveLit t _ _ _ => inferInstanceAs (Decidable (s.now ≤ t ∧ s.notAfterDue t))
  | .resolveName t _ _ lat _ _ => inferInstanceAs (Decidable (s.now ≤ t ∧ s.notAfterDue t ∧ 0 ≤ lat))
  | .cancel t => inferInstanceAs (Decidable (s.now ≤ t ∧ s.notAfterDue t))
  | .timerExpires t => inferInstanceAs (Decidable (s.now ≤ t ∧ s.dueAt t ∧ s.posted = false))
  | .timerFires t re => inferInstanceAs (Decidable (t = s.now ∧ s.posted = true ∧ ∀ c ∈ re, c.ok))

/-- A well-timed history from a given state. -/
def RS.okRun (p : RParams) : RS → List RLbl → Prop
  | _, [] => True
  | s, l :: rest => s.ok l ∧ RS.okRun p (s.step p l) rest

instance RS.decOkRun (p : RParams) : (s : RS) → (ls : List RLbl) → Decidable (RS.okRun p s ls)
  | _, [] => isTrue trivial
  | s, l :: rest =>
    have := RS.decOkRun p (s.step p l) rest
    inferInstanceAs (Decidable (s.ok l ∧ RS.okRun p (s.step p l) rest))

def RS.run (p : RParams) (s : RS) (ls : List RLbl) : RS := ls.foldl (RS.step p) s

/-- the repaired tree -/
def RParams.fixed : RParams := {}
/-- the pinned tree -/
def RParams.pinned : RParams := { chainBack := false, recheckEmpty := false, dueCheck := false }
/-- everything repaired except that `on_lookup` pops the front whatever its time -/
def RParams.noDueCheck : RParams := { dueCheck := false }
/-- `start = m_queue.back().completion_time`: the obvious but wrong repair -/
def RParams.naiveBack : RParams := { clampNow := false }

/-- handler ids are fresh: no two `async_resolve` calls of the history share one -/
def RS.fresh (s : RS) : Prop := (s.reqLog.map RReq.h).Nodup

instance (s : RS) : Decidable s.fresh := inferInstanceAs (Decidable (s.reqLog.map RReq.h).Nodup)

/-- some literal requested so far has its deadline (request + 1 µs) at `a` -/
def LitDl (reqLog : List RReq) (a : Int) : Prop :=
  ∃ l ∈ reqLog, l.literal = true ∧ a = l.t + 1000

end SimVerif
