/-
  SimVerif.Tcp — mechanism model of `tcp::socket` (src/tcp_socket.cpp), `tcp::acceptor`
  (src/acceptor.cpp) and `simulation::internal_connect` (src/simulation.cpp:257-305),
  transcribed at statement granularity on the shared network state `NetSt`.
  Same conventions as SimVerif/Net.lean: pure functions returning effects.

  Repaired defects are parameters (`TParams`) so that the behaviour of the pinned tree
  stays expressible for the negation theorems:
    * `wakeWriterFixed` : the ACK path wakes a pending writer whenever the window has room
      (pinned tree: only when `in flight + mss > cwnd` did NOT hold before the ACK, so a
      blocked writer was only woken by an ACK that arrived when it was no longer blocked);
    * `wakeReaderFixed` : `maybe_wakeup_reader` wakes whenever data is queued (pinned tree:
      only when the queue length became exactly 1);
    * `releaseOnDrop`   : `packet_dropped` releases the segment's in-flight bytes;
    * `rearmDrop`       : a segment queued for retransmission gets its drop callback back.
-/
import SimVerif.Net

namespace SimVerif

structure TParams where
  wakeWriterFixed : Bool := true
  wakeReaderFixed : Bool := true
  releaseOnDrop   : Bool := true
  rearmDrop       : Bool := true
  deriving Repr, DecidableEq

def NetSt.chan? (n : NetSt) (c : Nat) : Option Chan := n.chans[c]?
def NetSt.setChan (n : NetSt) (c : Nat) (ch : Chan) : NetSt :=
  { n with chans := n.chans.mapIdx (fun i x => if i = c then ch else x) }

/-- `channel::remote_idx(self)` (0 or 1; the C++ returns -1 for a foreign endpoint, which no
    call site produces) -/
def Chan.remoteIdx (c : Chan) (self : Ep) : Nat := if c.ep0 == self then 1 else 0
def Chan.selfIdx (c : Chan) (self : Ep) : Nat := if c.ep0 == self then 0 else 1
def Chan.hops (c : Chan) (i : Nat) : List String := if i = 0 then c.hops0 else c.hops1
def Chan.ep (c : Chan) (i : Nat) : Ep := if i = 0 then c.ep0 else c.ep1
def Chan.vis (c : Chan) (i : Nat) : Ep := if i = 0 then c.vis0 else c.vis1

/-- `send_packet(p)`: in-flight account, byte counter, capture, forward. -/
def NetSt.tcpSendPacket (n : NetSt) (now : Int) (name : String) (p : Pkt) : NetSt × List NEff :=
  match n.tcp? name with
  | none => (n, [])
  | some s =>
    match s.chan.bind n.chan? with
    | none => (n, [])          -- null channel dereference in the C++ (see Props/C12)
    | some ch =>
      let cid := s.chan.getD 0
      let len := p.payload.length
      let s := { s with inFlight := s.inFlight + len,
                        outstanding := (s.outstanding.filter (fun e => e.1 != p.id)) ++ [(p.id, len)] }
      let idx := ch.selfIdx s.bound
      let bc := if idx = 0 then ch.sent0 else ch.sent1
      let ch := if idx = 0 then { ch with sent0 := (ch.sent0 + len) % 4294967296 }
                else { ch with sent1 := (ch.sent1 + len) % 4294967296 }
      let p := { p with bc := bc }
      let cap := if n.cfg.pcap then [NEff.pcapTcp now s.bound (ch.ep (ch.remoteIdx s.bound)) bc p.payload] else []
      ((n.setChan cid ch).setTcp name s, cap ++ [.forward p])

def readExtra (data : List UInt8) : String := "n=" ++ toString data.length ++ " " ++ dataDesc data

/-- `abort_recv_handlers()` -/
def TcpSock.abortRecv (s : TcpSock) : TcpSock × List NEff :=
  let e1 := match s.recvH with
    | some op => [NEff.post { h := op.h, ec := .aborted, extra := "n=0 data=-" }]
    | none => []
  let e2 := match s.waitRecvH with
    | some h => [NEff.post { h := h, ec := .aborted }]
    | none => []
  ({ s with recvH := none, waitRecvH := none, recvNull := false }, e1 ++ e2)

def writeExtra (n : Nat) (op : WriteOp) : String :=
  "n=" ++ toString n ++ " stream=" ++ toString op.stream ++ " off=" ++ toString op.off

/-- `abort_send_handlers()` -/
def TcpSock.abortSend (s : TcpSock) : TcpSock × List NEff :=
  let e := match s.sendH with
    | some op => [NEff.post { h := op.h, ec := .aborted, extra := writeExtra 0 op }]
    | none => []
  ({ s with sendH := none }, e)

/-- `tcp::socket::cancel(ec)` -/
def TcpSock.cancel (s : TcpSock) : TcpSock × List NEff :=
  let (s, e1) := s.abortRecv
  let (s, e2) := s.abortSend
  match s.connectH with
  | some h => ({ s with connectH := none }, e1 ++ e2 ++ [.post { h := h, ec := .aborted }])
  | none => (s, e1 ++ e2)

/-- `tcp::socket::close(ec)` -/
def NetSt.tcpClose (n : NetSt) (now : Int) (name : String) : NetSt × List NEff :=
  match n.tcp? name with
  | none => (n, [])
  | some s0 =>
    -- an established connection announces the end of the stream
    let (n, e0) :=
      match s0.chan.bind n.chan? with
      | none => (n, [])
      | some ch =>
        let hops := ch.hops (ch.remoteIdx s0.bound)
        if !hops.isEmpty && s0.connectH.isNone then
          let p : Pkt := { id := s0.nextOut, ty := .err, ec := .eof, len := 0, ovh := 40, hops := hops,
                           src := s0.bound.toString }
          let n := n.setTcp name { s0 with nextOut := s0.nextOut + 1 }
          n.tcpSendPacket now name p
        else (n, [])
    match n.tcp? name with
    | none => (n, e0)
    | some s =>
      let n := if !s.bound.isDefault then { n with reg := { n.reg with tcp := simUnbind n.reg.tcp name s.bound } } else n
      let n := match s.fwd with | some f => n.setFwd f none | none => n
      let s := { s with chan := none, bound := {}, isOpen := false, fwd := none,
                        mss := 1475, cwnd := 2950, inFlight := 0, outstanding := [],
                        inq := [], reorder := [], resend := [], recvNull := false,
                        nextIn := 0, nextOut := 0, lastDrop := 0 }
      let (s, e1) := s.cancel
      (n.setTcp name s, e0 ++ e1)

/-- `open(protocol, ec)` -/
def NetSt.tcpOpen (n : NetSt) (now : Int) (name : String) (v4 : Bool) : NetSt × List NEff :=
  let (n, effs) := n.tcpClose now name
  match n.tcp? name with
  | none => (n, effs)
  | some s =>
    let (n, fid) := n.newFwd name
    (n.setTcp name { s with isOpen := true, isV4 := v4, fwd := some fid }, effs)

/-- `bind(ep, ec)` -/
def NetSt.tcpBind (n : NetSt) (name : String) (ep : Ep) : NetSt × Ec :=
  match n.tcp? name with
  | none => (n, .other)
  | some s =>
    if !s.isOpen then (n, .badDesc)
    else if ep.isV4 != s.isV4 then (n, .afNoSupport)
    else if !s.bound.isDefault then (n, .invalid)
    else
      match ioResolve (n.cfg.ipsOf s.node) ep with
      | .error e => (n, e)
      | .ok ep1 =>
        let (tbl, np, r) := simBind n.reg.tcp n.reg.nextPort name ep1
        let n := { n with reg := { n.reg with tcp := tbl, nextPort := np } }
        match r with
        | .error e => (n, e)
        | .ok ep2 => (n.setTcp name { s with bound := ep2 }, .ok)

def TcpSock.isListening (s : TcpSock) : Bool :=
  match s.acc with
  | some a => decide (0 < a.queueLimit)
  | none => false

/-- `simulation::internal_connect(s, target, ec)`: returns the new channel's id or refusal. -/
def NetSt.internalConnect (n : NetSt) (name : String) (target : Ep) : NetSt × List NEff × Option Nat :=
  match n.tcp? name with
  | none => (n, [], none)
  | some s =>
    match n.reg.tcp.lookup target with
    | none => (n, [], none)
    | some rname =>
      match n.tcp? rname with
      | none => (n, [], none)
      | some r =>
        if !r.isListening then (n, [], none)
        else
          let net := n.cfg.netRoute s.bound.addr target.addr
          let ch : Chan := {
            hops0 := n.cfg.outRoute r.bound.addr ++ net ++ n.incomingRoute s.bound s.fwd
            hops1 := n.cfg.outRoute s.bound.addr ++ net ++ n.incomingRoute r.bound r.fwd
            ep0 := s.bound, ep1 := r.bound, vis0 := s.bound, vis1 := r.bound }
          let cid := n.chans.length
          let n := { n with chans := n.chans ++ [ch] }
          let syn : Pkt := { id := 0, ty := .syn, len := 0, ovh := 28, src := s.bound.toString,
                             chan := some cid, hops := ch.hops1 }
          (n, [.forward syn], some cid)

/-- `async_connect(target, h)` -/
def NetSt.tcpConnect (n : NetSt) (now : Int) (name : String) (target : Ep) (h : Nat) : NetSt × List NEff :=
  match n.tcp? name with
  | none => (n, [])
  | some s0 =>
    let (n, e0) := if !s0.isOpen then n.tcpOpen now name target.isV4 else (n, [])
    match n.tcp? name with
    | none => (n, e0)
    | some s =>
      -- implicit bind to the wildcard of the target's family, ephemeral port
      let (n, ecb) :=
        if s.bound.addr == "0.0.0.0" then
          let anyEp : Ep := { addr := if target.isV4 then "0.0.0.0" else "::", port := 0 }
          match ioResolve (n.cfg.ipsOf s.node) anyEp with
          | .error e => (n, e)
          | .ok ep1 =>
            let (tbl, np, r) := simBind n.reg.tcp n.reg.nextPort name ep1
            let n := { n with reg := { n.reg with tcp := tbl, nextPort := np } }
            match r with
            | .error e => (n, e)
            | .ok ep2 => (n.setTcp name { s with bound := ep2 }, .ok)
        else (n, .ok)
      if ecb != .ok then (n, e0 ++ [.post { h := h, ec := ecb }]) else
      match n.tcp? name with
      | none => (n, e0)
      | some s =>
        if s.bound.isV4 != target.isV4 then (n, e0 ++ [.post { h := h, ec := .afNoSupport }])
        else
          let (n, e1, cid) := n.internalConnect name target
          let mss := n.cfg.pathMtu s.bound.addr target.addr
          match n.tcp? name with
          | none => (n, e0)
          | some s =>
            let s := { s with mss := mss, cwnd := mss * 2 }
            match cid with
            | none =>
              -- refused: delivered by the connect timer after 50 ms
              (n.setTcp name { s with chan := none },
                e0 ++ e1 ++ [.armAfter name 0 50000000 (.tcpConnectRefused name h)])
            | some c => (n.setTcp name { s with chan := some c, connectH := some h }, e0 ++ e1)

/-- cut one buffer into MSS-sized payload packets -/
def cutBuf (mss : Nat) : Nat → List UInt8 → List (List UInt8)
  | 0, _ => []
  | f + 1, b => if b.isEmpty then [] else
      let k := if mss = 0 then 1 else mss
      b.take k :: cutBuf mss f (b.drop k)

/-- `write_some_impl(bufs, ec)`, the checks before the segmentation loop: the route to the
    peer and the segments (each buffer is cut separately: segments never span two buffers) -/
def NetSt.tcpWritePrep (n : NetSt) (name : String) (bufs : List (List UInt8)) :
    Except Ec (List String × List (List UInt8)) :=
  match n.tcp? name with
  | none => .error .other
  | some s =>
    if !s.isOpen then .error .badDesc
    else match s.chan.bind n.chan? with
      | none => .error .notConn
      | some ch =>
        if s.connectH.isSome then .error .wouldBlock
        else
          let hops := ch.hops (ch.remoteIdx s.bound)
          if hops.isEmpty then .error .notConn
          else if s.inFlight + s.mss > s.cwnd then .error .wouldBlock
          else .ok (hops, (bufs.map (fun b => cutBuf s.mss (b.length + 1) b)).flatten)

/-- one iteration of the segmentation loop: build the segment and `send_packet` it -/
def NetSt.tcpSendSeg (n : NetSt) (now : Int) (name : String) (hops : List String) (seg : List UInt8) :
    NetSt × List NEff :=
  match n.tcp? name with
  | none => (n, [])
  | some s =>
    let p : Pkt := { id := s.nextOut, ty := .payload, len := seg.length, ovh := 40, hops := hops,
                     src := s.bound.toString, payload := seg, hasDrop := true, dropFwd := s.fwd }
    (n.setTcp name { s with nextOut := s.nextOut + 1 }).tcpSendPacket now name p

/-- the loop's exit test `m_bytes_in_flight + m_mss > m_cwnd`, evaluated after the packet was
    forwarded (and possibly handed back by the first hop) -/
def NetSt.tcpWindowFull (n : NetSt) (name : String) : Bool :=
  match n.tcp? name with
  | none => true
  | some s => decide (s.inFlight + s.mss > s.cwnd)

/-- `async_write_some_impl`: what happens with the handler once `write_some_impl` returned -/
def NetSt.tcpWriteFinish (n : NetSt) (name : String) (op : WriteOp) (r : Except Ec Nat) : NetSt × List NEff :=
  match n.tcp? name with
  | none => (n, [])
  | some s =>
    match r with
    | .error .wouldBlock => (n.setTcp name { s with sendH := some op }, [])
    | .error ec => (n.setTcp name { s with sendH := none }, [.post { h := op.h, ec := ec, extra := writeExtra 0 op }])
    | .ok k => (n.setTcp name { s with sendH := none }, [.post { h := op.h, ec := .ok, extra := writeExtra k op }])

/-- `async_write_some(bufs, handler)`: abort the previous write, then run the loop (effect) -/
def NetSt.tcpAsyncWrite (n : NetSt) (name : String) (op : WriteOp) : NetSt × List NEff :=
  match n.tcp? name with
  | none => (n, [])
  | some s =>
    let (s, e0) := s.abortSend
    -- the write is parked in the slot; `.tcpWrite` takes it out again and runs it
    (n.setTcp name { s with sendH := some op }, e0 ++ [.tcpWrite name op.h])

/-- copy queued payload into `cap` bytes of buffer space: whole packets while they fit, a
    partial packet keeps its remainder at the head of the queue; stops before an error packet -/
def takeQueued : Nat → Nat → List Pkt → List UInt8 × List Pkt
  | 0, _, q => ([], q)
  | _, 0, q => ([], q)
  | f + 1, cap, q =>
    match q with
    | [] => ([], [])
    | p :: rest =>
      if p.ty == .err then ([], q)
      else if p.payload.length ≤ cap then
        let (d, q') := takeQueued f (cap - p.payload.length) rest
        (p.payload ++ d, q')
      else (p.payload.take cap, { p with payload := p.payload.drop cap } :: rest)

/-- `read_some_impl(bufs, ec)` -/
def TcpSock.readSome (s : TcpSock) (hasChan : Bool) (caps : List Nat) : TcpSock × Except Ec (List UInt8) :=
  if !s.isOpen then (s, .error .badDesc)
  else if !hasChan then (s, .error .notConn)
  else if s.connectH.isSome then (s, .error .wouldBlock)
  else match s.inq with
    | [] => (s, .error .wouldBlock)
    | p :: rest =>
      if p.ty == .err then
        -- nothing received before it: report the error, the connection is over
        ({ s with inq := rest, chan := none }, .error p.ec)
      else
        let total := caps.foldl (· + ·) 0
        let (data, q) := takeQueued (s.inq.length + 1) total s.inq
        ({ s with inq := q }, .ok data)

/-- `available(ec)` as used by `async_wait_read_impl` -/
def TcpSock.available (s : TcpSock) (hasChan : Bool) : Except Ec Nat :=
  if !s.isOpen then .error .badDesc
  else if !hasChan then .error .notConn
  else
    let rec go : List Pkt → Nat → Except Ec Nat
      | [], acc => .ok acc
      | p :: rest, acc =>
        if p.ty == .err then (if acc > 0 then .ok acc else .error p.ec)
        else go rest (acc + p.payload.length)
    go s.inq 0

/-- `async_read_some_impl(bufs, handler)` -/
def TcpSock.asyncReadImpl (s : TcpSock) (op : ReadOp) : TcpSock × List NEff :=
  let (s1, r) := s.readSome s.chan.isSome op.caps
  match r with
  | .error .wouldBlock => ({ s with recvH := some op, recvNull := false }, [])
  | .error e => ({ s1 with recvH := none }, [.post { h := op.h, ec := e, extra := "n=0 data=-" }])
  | .ok data => ({ s1 with recvH := none }, [.post { h := op.h, ec := .ok, extra := readExtra data, data := data }])

/-- `async_wait_read_impl(handler)` -/
def TcpSock.asyncWaitReadImpl (s : TcpSock) (h : Nat) : TcpSock × List NEff :=
  match s.available s.chan.isSome with
  | .error e => ({ s with recvH := none }, [.post { h := h, ec := e }])
  | .ok k =>
    if k > 0 then ({ s with recvH := none }, [.post { h := h, ec := .ok }])
    else ({ s with waitRecvH := some h, recvNull := true }, [])

/-- `maybe_wakeup_reader()` -/
def TcpSock.maybeWakeupReader (tp : TParams) (s : TcpSock) : TcpSock × List NEff :=
  let skip := if tp.wakeReaderFixed then s.inq.isEmpty else s.inq.length != 1
  if skip || (s.recvH.isNone && s.waitRecvH.isNone) then (s, [])
  else if s.recvNull then
    match s.waitRecvH with
    | some h => ({ s with waitRecvH := none }).asyncWaitReadImpl h
    | none => (s, [])
  else
    match s.recvH with
    | some op => ({ s with recvH := none }).asyncReadImpl op
    | none => (s, [])

/-- one iteration of the ACK path's retransmission loop: `some` when the head of the list
    fits the window and was sent -/
def NetSt.tcpResendOne (n : NetSt) (now : Int) (name : String) : Option (NetSt × List NEff) :=
  match n.tcp? name with
  | none => none
  | some s =>
    match s.resend with
    | [] => none
    | p :: rest =>
      if s.chan.isNone then none
      else if s.inFlight + p.payload.length ≤ s.cwnd then
        some ((n.setTcp name { s with resend := rest }).tcpSendPacket now name p)
      else none

/-- the rest of the ACK path after the retransmission loop: grow the window, decide whether
    the writer is to be woken -/
def NetSt.tcpAckPost (tp : TParams) (n : NetSt) (name : String) (wasBlocked : Bool) (acked : Nat) : NetSt × Bool :=
  match n.tcp? name with
  | none => (n, false)
  | some s =>
    let s := { s with cwnd := s.cwnd + s.mss * acked / s.cwnd }
    let writeable := decide (s.inFlight + (s.mss : Int) ≤ (s.cwnd : Int))
    -- pinned tree: `!was_writeable && is_writeable` with was_writeable = "was blocked"
    let wake := if tp.wakeWriterFixed then writeable else !wasBlocked && writeable
    (n.setTcp name s, wake)

/-- release the reorder buffer into the incoming queue while the next number is present -/
def drainReorder : Nat → Nat → List (Nat × Pkt) → List Pkt → Nat × List (Nat × Pkt) × List Pkt
  | 0, nx, ro, q => (nx, ro, q)
  | f + 1, nx, ro, q =>
    match ro.lookup nx with
    | none => (nx, ro, q)
    | some p => drainReorder f (nx + 1) (ro.filter (fun e => e.1 != nx)) (q ++ [p])

/-- `tcp::socket::incoming_packet(p)` (not an acceptor) -/
def NetSt.tcpIncoming (tp : TParams) (n : NetSt) (_now : Int) (name : String) (p : Pkt) : NetSt × List NEff :=
  match n.tcp? name with
  | none => (n, [])
  | some s =>
    match p.ty with
    | .uninit => (n, [])
    | .syn => (n, [])
    | .ack =>
      let wasBlocked := decide (s.inFlight + s.mss > s.cwnd)
      let acked : Nat := ((s.outstanding.lookup p.id).getD 0)
      let s := { s with outstanding := s.outstanding.filter (fun e => e.1 != p.id), inFlight := s.inFlight - acked }
      (n.setTcp name s, [.tcpResend name, .tcpAckPost name wasBlocked acked])
    | .synack =>
      match s.connectH with
      | none => (n, [])
      | some h =>
        (n.setTcp name { s with connectH := none }, [NEff.post { h := h, ec := .ok }, .tcpWake name])
    | _ =>
      -- error or payload: acknowledge, then deliver in sequence order
      match s.chan.bind n.chan? with
      | none => (n, [])
      | some ch =>
        let ack : Pkt := { id := p.id, ty := .ack, len := 0, ovh := 20, hops := ch.hops (ch.remoteIdx s.bound),
                           src := "0.0.0.0:0" }
        if p.id != s.nextIn then
          let ro := if (s.reorder.lookup p.id).isSome then s.reorder else s.reorder ++ [(p.id, p)]
          (n.setTcp name { s with reorder := ro }, [.forward ack])
        else
          let (nx, ro, q) := drainReorder (s.reorder.length + 1) (s.nextIn + 1) s.reorder (s.inq ++ [p])
          let s := { s with nextIn := nx, reorder := ro, inq := q }
          let (s, e2) := s.maybeWakeupReader tp
          (n.setTcp name s, [.forward ack] ++ e2)

/-- `packet_dropped(p)`: reached through the forwarder, so only while the socket is attached -/
def NetSt.tcpPacketDropped (tp : TParams) (n : NetSt) (name : String) (p : Pkt) : NetSt :=
  match n.tcp? name with
  | none => n
  | some s =>
    match s.chan.bind n.chan? with
    | none => n
    | some ch =>
      let p := { p with hops := ch.hops (ch.remoteIdx s.bound),
                        hasDrop := tp.rearmDrop, dropFwd := if tp.rearmDrop then s.fwd else none }
      let s := if tp.releaseOnDrop then
          { s with inFlight := s.inFlight - ((s.outstanding.lookup p.id).getD 0),
                   outstanding := s.outstanding.filter (fun e => e.1 != p.id) }
        else s
      let s := { s with resend := s.resend ++ [p] }
      let inCwnd := if s.mss = 0 then 0 else s.cwnd / s.mss
      if s.lastDrop > 0 && p.id < s.lastDrop + inCwnd then n.setTcp name s
      else
        let cw := s.cwnd / 2
        n.setTcp name { s with cwnd := if cw < s.mss then s.mss else cw, lastDrop := p.id }

/-- `async_read_some(bufs, h)` -/
def NetSt.tcpAsyncRead (n : NetSt) (name : String) (op : ReadOp) : NetSt × List NEff :=
  match n.tcp? name with
  | none => (n, [])
  | some s =>
    let (s, e1) := s.abortRecv
    let (s, e2) := s.asyncReadImpl op
    (n.setTcp name s, e1 ++ e2)

/-- `async_wait(wait_read, h)` -/
def NetSt.tcpWaitRead (n : NetSt) (name : String) (h : Nat) : NetSt × List NEff :=
  match n.tcp? name with
  | none => (n, [])
  | some s =>
    let (s, e1) := s.abortRecv
    let (s, e2) := s.asyncWaitReadImpl h
    (n.setTcp name s, e1 ++ e2)

/-- non-blocking `read_some(bufs, ec)` -/
def NetSt.tcpReadNb (n : NetSt) (name : String) (caps : List Nat) : NetSt × Except Ec (List UInt8) :=
  match n.tcp? name with
  | none => (n, .error .other)
  | some s => let (s, r) := s.readSome s.chan.isSome caps; (n.setTcp name s, r)

def NetSt.tcpCancel (n : NetSt) (name : String) : NetSt × List NEff :=
  match n.tcp? name with
  | none => (n, [])
  | some s => let (s, e) := s.cancel; (n.setTcp name s, e)

/-! #### acceptor -/

def acceptAbortEff (op : AcceptOp) : NEff :=
  match op with
  | .into h _ withEp => .post { h := h, ec := .aborted, extra := if withEp then "ep=0.0.0.0:0" else "" }
  | .fresh h _ => .post { h := h, ec := .aborted }

/-- post operation_aborted to whatever accept is outstanding (the pattern repeated in
    `cancel`, the three `async_accept` overloads and `check_accept_queue`) -/
def TcpSock.abortAccept (s : TcpSock) : TcpSock × List NEff :=
  match s.acc with
  | none => (s, [])
  | some a =>
    match a.acceptOp with
    | none => (s, [])
    | some op => ({ s with acc := some { a with acceptOp := none } }, [acceptAbortEff op])

/-- `tcp::socket::internal_connect(bind_ip, c, ec)`: attach an incoming connection to `peer` -/
def NetSt.tcpAttach (n : NetSt) (now : Int) (peer : String) (bindEp : Ep) (cid : Nat) : NetSt × List NEff :=
  match n.tcp? peer with
  | none => (n, [])
  | some p0 =>
    let (n, e0) := n.tcpOpen now peer p0.isV4
    match n.tcp? peer, n.chan? cid with
    | some p, some ch =>
      let mss := n.cfg.pathMtu bindEp.addr ch.ep0.addr
      let n := n.setTcp peer { p with bound := bindEp, chan := some cid, mss := mss, cwnd := mss * 2 }
      let h1 := match p.fwd with
        | some f => ch.hops1.dropLast ++ [fwdHop f]
        | none => ch.hops1
      (n.setChan cid { ch with hops1 := h1 }, e0)
    | _, _ => (n, e0)

/-- `check_accept_queue()` -/
def NetSt.accCheckQueue (n : NetSt) (now : Int) (name : String) : NetSt × List NEff :=
  match n.tcp? name with
  | none => (n, [])
  | some s0 =>
    match s0.acc with
    | none => (n, [])
    | some a0 =>
      -- a closed acceptor resets whatever is queued and aborts the accept
      let (n, e0) :=
        if !s0.isOpen then
          let rsts := a0.conns.filterMap (fun c => (n.chan? c).map (fun ch =>
            NEff.forward { id := 0, ty := .err, ec := .reset, len := 0, ovh := 28, hops := ch.hops0, src := s0.bound.toString }))
          let s := { s0 with acc := some { a0 with conns := [] } }
          let (s, ea) := s.abortAccept
          (n.setTcp name s, rsts ++ ea)
        else (n, [])
      match n.tcp? name with
      | none => (n, e0)
      | some s =>
        match s.acc with
        | none => (n, e0)
        | some a =>
          match a.acceptOp, a.conns with
          | none, _ => (n, e0)
          | _, [] => (n, e0)
          | some op, c :: rest =>
            let n := n.setTcp name { s with acc := some { a with conns := rest, acceptOp := none } }
            let peer := match op with | .into _ pn _ => pn | .fresh _ nn => nn
            let vis := ((n.chan? c).map (·.vis0)).getD {}
            let (n, e1) := n.tcpAttach now peer s.bound c
            match n.chan? c with
            | none => (n, e0 ++ e1)
            | some ch =>
              let synack : Pkt := { id := 0, ty := .synack, len := 0, ovh := 28, hops := ch.hops0,
                                    src := s.bound.toString, chan := some c }
              let done := match op with
                | .into h _ withEp => NEff.post { h := h, ec := .ok, extra := if withEp then "ep=" ++ vis.toString else "" }
                | .fresh h _ => NEff.post { h := h, ec := .ok }
              (n, e0 ++ e1 ++ [.forward synack, done])

/-- `acceptor::incoming_packet(p)` -/
def NetSt.accIncoming (n : NetSt) (now : Int) (name : String) (p : Pkt) : NetSt × List NEff :=
  match n.tcp? name, p.ty, p.chan with
  | some s, .syn, some c =>
    match s.acc with
    | some a => (n.setTcp name { s with acc := some { a with conns := a.conns ++ [c] } }).accCheckQueue now name
    | none => (n, [])
  | some s, .err, _ =>
    -- "something is not wired up correctly": an error packet addressed to the acceptor itself
    -- (a connector that gave up and closed before being accepted) aborts the pending accept
    let (s, e) := s.abortAccept
    (n.setTcp name s, e)
  | _, _, _ => (n, [])

/-- the three `async_accept` overloads -/
def NetSt.accAsyncAccept (n : NetSt) (now : Int) (name : String) (op : AcceptOp) : NetSt × List NEff :=
  -- accept-into: a peer socket that is still open is closed first
  let (n, e0) := match op with
    | .into _ peer _ =>
      (match n.tcp? peer with
       | some p => if p.isOpen then n.tcpClose now peer else (n, [])
       | none => (n, []))
    | .fresh _ nn =>
      -- m_new_socket.emplace(ios): a fresh socket object on the acceptor's node
      (match n.tcp? name with
       | some s => (n.setTcp nn { node := s.node }, [])
       | none => (n, []))
  match n.tcp? name with
  | none => (n, e0)
  | some s =>
    let (s, e1) := s.abortAccept
    match s.acc with
    | none => (n, e0 ++ e1)
    | some a =>
      let n := n.setTcp name { s with acc := some { a with acceptOp := some op } }
      let (n, e2) := n.accCheckQueue now name
      (n, e0 ++ e1 ++ e2)

/-- `acceptor::listen(qs, ec)` -/
def NetSt.accListen (n : NetSt) (name : String) (qs : Int) : NetSt × Ec :=
  match n.tcp? name with
  | none => (n, .other)
  | some s =>
    let qs := if qs = -1 then 20 else qs
    if !s.isOpen then (n, .badDesc)
    else if s.bound.isDefault then (n, .invalid)
    else match s.acc with
      | some a => (n.setTcp name { s with acc := some { a with queueLimit := qs } }, .ok)
      | none => (n, .other)

/-- `acceptor::cancel(ec)` -/
def NetSt.accCancel (n : NetSt) (name : String) : NetSt × List NEff :=
  match n.tcp? name with
  | none => (n, [])
  | some s => let (s, e) := s.abortAccept; (n.setTcp name s, e)

/-- `acceptor::close(ec)` (and, after the repair, `close()`, and the destructor) -/
def NetSt.accClose (n : NetSt) (now : Int) (name : String) : NetSt × List NEff :=
  match n.tcp? name with
  | none => (n, [])
  | some s =>
    let s := match s.acc with | some a => { s with acc := some { a with queueLimit := -1 } } | none => s
    let (s, e1) := s.abortAccept
    let (n, e2) := (n.setTcp name s).tcpClose now name
    -- connections still queued are reset (check_accept_queue() on the now closed acceptor)
    let (n, e3) := n.accCheckQueue now name
    (n, e1 ++ e2 ++ e3)

/-- move construction of a TCP socket -/
def NetSt.tcpMove (n : NetSt) (src dst : String) : NetSt :=
  match n.tcp? src with
  | none => n
  | some s =>
    let n := match s.fwd with | some f => n.setFwd f (some dst) | none => n
    let n := if !s.bound.isDefault then
      { n with reg := { n.reg with tcp := n.reg.tcp.map (fun e => if e.1 == s.bound && e.2 == src then (e.1, dst) else e) } } else n
    let n := n.setTcp dst s
    n.setTcp src { node := s.node, isV4 := s.isV4, mss := s.mss, cwnd := s.cwnd, inFlight := s.inFlight,
                   nextOut := s.nextOut, nextIn := s.nextIn, lastDrop := s.lastDrop, recvNull := s.recvNull }

def AcceptOp.peer : AcceptOp → String
  | .into _ p _ => p
  | .fresh _ nn => nn

def AcceptOp.h : AcceptOp → Nat
  | .into h _ _ => h
  | .fresh h _ => h

def AcceptOp.withEp : AcceptOp → Bool
  | .into _ _ b => b
  | .fresh _ _ => false

end SimVerif
