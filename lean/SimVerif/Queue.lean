/-
  SimVerif.Queue — mechanism model of `sim::queue` (src/queue.cpp): the three functions
  `incoming_packet`, `begin_send_next_packet`, `next_packet_sent`, transcribed at statement
  granularity as effect-returning pure functions.

  * the forward timer / the `post` used for bandwidth 0 are *effects* (`QEff.arm`,
    `QEff.post`); the world (SimVerif/Drv/Kernel.lean) interprets them on the kernel model,
    the open-system theorems (Props/C09, Props/C10) take the callback instants as inputs
    constrained by what C02/C03 guarantee (a timer fires at exactly its expiry, a posted
    task runs at the instant it was posted, time never decreases);
  * `next_packet_sent` forwards SYNCHRONOUSLY; the next hop may re-enter `incoming_packet`
    of this very queue. It is therefore split into `sentPop` (pop, account, mark
    `forwarding`) and `sentFinish` (clear the mark, continue with the backlog);
  * serialisation time is a parameter `ser : Nat → Int` (the code computes
    `int64(1e9 / double(bw) * size)` in IEEE double; `serFloat` is that computation, used
    by the executable correspondence; the theorems need only `0 ≤ ser s`).
-/
import SimVerif.Basic

namespace SimVerif

inductive PType where
  | uninit | syn | synack | ack | err | payload
  deriving DecidableEq, Repr, Inhabited

def PType.toString : PType → String
  | .uninit => "uninit" | .syn => "syn" | .synack => "synack" | .ack => "ack"
  | .err => "err" | .payload => "payload"

def PType.ofString : String → Option PType
  | "uninit" => some .uninit | "syn" => some .syn | "synack" => some .synack
  | "ack" => some .ack | "err" => some .err | "payload" => some .payload | _ => none

/-- The observable part of `aux::packet`. `id` is `seq_nr` (the harness gives every injected
    packet a distinct one); `hops` the remaining route (names of sinks). -/
structure Pkt where
  id      : Nat
  ty      : PType := .payload
  len     : Nat := 0          -- buffer.size()
  ovh     : Nat := 20         -- overhead
  hasDrop : Bool := false     -- drop_fun set
  hops    : List String := []
  src     : String := ""      -- `from` (address:port), rewritten by NAT hops
  payload : List UInt8 := []  -- buffer contents (socket traffic; injected packets carry only `len`)
  ec      : Ec := .ok         -- error packets: the error code
  chan    : Option Nat := none  -- SYN / SYN-ACK: the channel being established
  bc      : Nat := 0          -- byte_counter (TCP sequence number in the capture)
  dropFwd : Option Nat := none  -- drop callback bound to a socket through this forwarder
  deriving DecidableEq, Repr, Inhabited

def Pkt.size (p : Pkt) : Nat := p.len + p.ovh

/-- `packet::ok_to_drop()`: everything except SYN-ACK, ACK and error packets. -/
def Pkt.okToDrop (p : Pkt) : Bool :=
  p.ty != .synack && p.ty != .ack && p.ty != .err

inductive Cb where
  | begin   -- `begin_send_next_packet`
  | sent    -- `next_packet_sent`
  deriving DecidableEq, Repr

inductive QEff where
  | arm (e : Int) (cb : Cb)      -- m_forward_timer.expires_at(e); async_wait(cb)
  | post (cb : Cb)               -- post(executor, cb)
  | dropCb (p : Pkt)             -- drop_fun(std::move(p))
  deriving DecidableEq, Repr

structure QCfg where
  bw  : Nat            -- m_bandwidth, bytes per second; 0 = infinitely fast
  lat : Int            -- m_forwarding_latency, ns
  cap : Nat            -- m_max_queue_size, bytes; 0 = unlimited
  ser : Nat → Int      -- serialisation time of a packet of that size, ns
  /-- fix F12: do not start the sender from `incoming_packet` while a packet is being
      forwarded; `false` = pinned tree. -/
  reentryGuard : Bool := true

structure Q where
  held        : Int := 0                 -- m_queue_size
  items       : List (Int × Pkt) := []   -- m_queue: (ts, pkt)
  lastForward : Int := 0                 -- m_last_forward
  forwarding  : Bool := false            -- m_forwarding
  deriving Repr

/-- `begin_send_next_packet()` at clock `now`. The C++ reads `m_queue.front()`
    unconditionally; every call site guarantees a non-empty queue (theorem
    `C09_callbacks_find_packet`), the `[]` arm is unreachable. -/
def Q.beginSend (c : QCfg) (now : Int) (q : Q) : Q × List QEff :=
  match q.items with
  | [] => (q, [])
  | (ts, p) :: _ =>
    if now < ts then (q, [.arm ts .begin])
    else if c.bw = 0 then ({ q with lastForward := now }, [.post .sent])
    else
      let lf := now + c.ser p.size
      ({ q with lastForward := lf }, [.arm lf .sent])

/-- `incoming_packet(p)` at clock `now`. -/
def Q.incoming (c : QCfg) (now : Int) (q : Q) (p : Pkt) : Q × List QEff :=
  if p.okToDrop && decide (0 < c.cap) && decide ((c.cap : Int) < q.held + p.size) then
    (q, if p.hasDrop then [.dropCb p] else [])
  else
    let q1 : Q := { q with items := q.items ++ [(now + c.lat, p)], held := q.held + p.size }
    if 1 < q1.items.length || (c.reentryGuard && q.forwarding) then (q1, [])
    else q1.beginSend c now

/-- First half of `next_packet_sent()`: pop the head, release its bytes; the caller then
    forwards the packet (synchronously) and calls `sentFinish`. -/
def Q.sentPop (q : Q) : Q × Option Pkt :=
  match q.items with
  | [] => (q, none)
  | (_, p) :: rest => ({ q with items := rest, held := q.held - p.size, forwarding := true }, some p)

/-- Second half of `next_packet_sent()`. -/
def Q.sentFinish (c : QCfg) (now : Int) (q : Q) : Q × List QEff :=
  let q1 : Q := { q with forwarding := false }
  if q1.items.isEmpty then (q1, []) else q1.beginSend c now

/-- The code's serialisation time: `int64(1e9 / double(bw) * double(size))`. -/
def serFloat (bw : Nat) (size : Nat) : Int :=
  let nsPerByte : Float := 1000000000.0 / bw.toFloat
  ((nsPerByte * size.toFloat).toInt64).toInt

end SimVerif
