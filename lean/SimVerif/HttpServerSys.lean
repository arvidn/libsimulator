/-
  SimVerif.HttpServerSys — one connection of the HTTP test server as a state machine over an
  ABSTRACT reliable byte stream.

  * `serve` runs the mechanism functions of `SimVerif/HttpServer.lean` (`on_read`, `on_write`,
    `read`, `close_connection`, literally) against an environment that owns the client's byte
    stream as a list of chunks: every `async_read_some(cap)` is completed with the next chunk
    (at most `cap` bytes of it; what does not fit stays queued, as in a TCP receive queue),
    every `async_write` completes in full and is recorded, the posted re-entry runs. The
    chunking is the universally quantified input of the theorems (TCP's prefix property, C05,
    is the assumption: the bytes arrive in order, in *some* segmentation).
  * `specStream` is the reference: what the statement says about a byte stream, with no
    buffer, no capacities, no callbacks — cut the stream at the first blank line, parse, answer,
    go on with the rest.
-/
import SimVerif.HttpServer
import SimVerif.HttpSpec
import SimVerif.Lemmas.HttpParse

namespace SimVerif.HttpServer

open SimVerif.Http

/-! ### abstraction of the server state -/

/-- the bytes received and not yet consumed by a parsed request -/
def Srv.pend (s : Srv) : Bytes := s.buf.take s.used

/-- `m_bytes_used ≤ m_recv_buffer.size()` -/
def Srv.wf (s : Srv) : Prop := s.used ≤ s.buf.length

/-- the registered tables and flags are the same -/
def Srv.sameCfg (a b : Srv) : Prop :=
  a.closing = b.closing ∧ a.keepAlive = b.keepAlive ∧ a.handlers = b.handlers ∧ a.stalls = b.stalls

/-- what `close_connection()` does on the API when `m_connection.close` succeeds -/
def closeActs (s : Srv) : List Act := if s.closing then [.closeConn] else [.closeConn, .asyncAccept]

/-! ### the reference: requests in a byte stream -/

/-- offset just behind the first blank line (CR LF CR LF) of `b` -/
def firstBlank (b : Bytes) : Option Nat :=
  match findRequestLen b (b.length : Int) with
  | .ok v => if v < 0 then none else some v.toNat
  | .error _ => none

/-- what the next request of the stream `b` leads to -/
inductive Step where
  | more                                            -- no complete request yet
  | fail                                            -- parse failure or handler exception
  | stall (rest : Bytes)
  | respond (r : Bytes) (close : Bool) (rest : Bytes)
  | ub
  deriving DecidableEq, Repr

def reqStep (cfg : Srv) (b : Bytes) : Step :=
  match firstBlank b with
  | none => .more
  | some n =>
    match parseRequest b n with
    | .oob => .ub
    | .parseFailed => .fail
    | .ok req =>
      match answer cfg req with
      | .stall => .stall (b.drop n)
      | .fail => .fail
      | .ub => .ub
      | .respond r c => .respond r c (b.drop n)

/-- how serving a connection ends, as far as the given input goes -/
inductive End where
  | waiting                   -- a read is outstanding: the connection is open
  | stalled                   -- nothing outstanding, connection open, never answered
  | closed (rearmed : Bool)   -- close_connection(): closed; was async_accept re-armed?
  | ub
  deriving DecidableEq, Repr

structure Out where
  responses : List Bytes      -- what was written to the client, one entry per async_write
  fin : End
  deriving DecidableEq, Repr

def Out.cons (r : Bytes) (o : Out) : Out := ⟨r :: o.responses, o.fin⟩

theorem firstBlank_eq_some (b : Bytes) (n : Nat) :
    firstBlank b = some n ↔ findRequestLen b b.length = .ok (n : Int) := by
  unfold firstBlank
  rcases findRequestLen_whole b with h | ⟨m, h, -⟩ <;> rw [h]
  · exact ⟨nofun, fun he => by injection he; omega⟩
  · dsimp only
    rw [if_neg (by omega), Int.toNat_natCast]
    exact ⟨fun he => by cases he; rfl, fun he => by injection he with he; rw [Int.natCast_inj.1 he]⟩

theorem firstBlank_bounds (b : Bytes) (n : Nat) (h : firstBlank b = some n) : 4 ≤ n ∧ n ≤ b.length :=
  findRequestLen_bounds b n ((firstBlank_eq_some b n).1 h)

theorem firstBlank_nil : firstBlank [] = none := rfl

theorem firstBlank_eq_none (b : Bytes) :
    firstBlank b = none ↔ find b 0 (b.length : Int) CRLFCRLF = .ok none := by
  unfold firstBlank findRequestLen
  rcases find_spec b 0 (b.length : Int) CRLFCRLF (by omega) with ⟨hf, _⟩ | ⟨p, hf, _, _, _, _⟩
  · rw [hf]; simp
  · rw [hf]
    simp only
    rw [if_neg (by omega)]
    simp

theorem firstBlank_append (b rest : Bytes) (n : Nat) (h : firstBlank b = some n) :
    firstBlank (b ++ rest) = some n := by
  rw [firstBlank_eq_some] at h ⊢
  exact findRequestLen_append b rest n h

theorem reqStep_respond_lt (cfg : Srv) (b : Bytes) (r : Bytes) (c : Bool) (rest : Bytes)
    (h : reqStep cfg b = .respond r c rest) : rest.length < b.length := by
  unfold reqStep at h
  split at h
  · simp at h
  · rename_i n hn
    have := firstBlank_bounds b n hn
    split at h
    · simp at h
    · simp at h
    · split at h <;> simp at h
      obtain ⟨_, _, rfl⟩ := h
      simp; omega

set_option linter.unusedVariables false in
/-- THE REFERENCE. The responses a byte stream calls for and how the connection ends:
    requests are delimited by the first blank line, answered one by one, in order; the
    connection is kept iff keep-alive is on and the request did not ask for close. -/
def specStream (cfg : Srv) (b : Bytes) : Out :=
  match h : reqStep cfg b with
  | .more => ⟨[], .waiting⟩
  | .fail => ⟨[], .closed (!cfg.closing)⟩
  | .stall _ => ⟨[], .stalled⟩
  | .ub => ⟨[], .ub⟩
  | .respond r close rest =>
    if !close && cfg.keepAlive then (specStream cfg rest).cons r
    else ⟨[r], .closed (!cfg.closing)⟩
termination_by b.length
decreasing_by exact reqStep_respond_lt cfg b r close rest h

theorem specStream_eq (cfg : Srv) (b : Bytes) :
    specStream cfg b =
      match reqStep cfg b with
      | .more => ⟨[], .waiting⟩
      | .fail => ⟨[], .closed (!cfg.closing)⟩
      | .stall _ => ⟨[], .stalled⟩
      | .ub => ⟨[], .ub⟩
      | .respond r close rest =>
        if !close && cfg.keepAlive then (specStream cfg rest).cons r
        else ⟨[r], .closed (!cfg.closing)⟩ := by
  rw [specStream]
  split <;> rename_i h <;> rw [h]

theorem Srv.sameCfg.trans {a b c : Srv} (h : a.sameCfg b) (h' : b.sameCfg c) : a.sameCfg c :=
  ⟨h.1.trans h'.1, h.2.1.trans h'.2.1, h.2.2.1.trans h'.2.2.1, h.2.2.2.trans h'.2.2.2⟩

theorem reqStep_congr (a b : Srv) (h : a.sameCfg b) (x : Bytes) : reqStep a x = reqStep b x := by
  unfold reqStep answer
  rw [h.2.2.1, h.2.2.2]

theorem reqStep_more (cfg : Srv) (b : Bytes) (h : firstBlank b = none) : reqStep cfg b = .more := by
  rw [reqStep, h]

theorem reqStep_append (cfg : Srv) (b y : Bytes) :
    reqStep cfg (b ++ y) =
      match reqStep cfg b with
      | .more => reqStep cfg (b ++ y)
      | .fail => .fail
      | .stall x => .stall (x ++ y)
      | .respond r c x => .respond r c (x ++ y)
      | .ub => .ub := by
  cases hfb : firstBlank b with
  | none => rw [reqStep_more cfg b hfb]
  | some n =>
    have hb := firstBlank_bounds b n hfb
    have hfa := firstBlank_append b y n hfb
    have hd : (b ++ y).drop n = b.drop n ++ y := by
      rw [List.drop_append_of_le_length hb.2]
    unfold reqStep
    rw [hfb, hfa]
    simp only
    rw [parseRequest_append b y n hb.2]
    cases parseRequest b n with
    | oob => rfl
    | parseFailed => rfl
    | ok req =>
      simp only
      cases answer cfg req <;> simp [hd]

/-! ### the mechanism run against a chunked stream -/

/-- Continue after a callback returned `(s, acts)`. `chunks`: the client's bytes still to be
    delivered, cut the way the network happens to cut them. -/
def serve : Nat → Srv × List Act → List Bytes → Out
  | 0, _, _ => ⟨[], .ub⟩
  | f + 1, (s, acts), chunks =>
    match acts with
    | [.asyncReadSome cap] =>
      match chunks with
      | [] => ⟨[], .waiting⟩
      | c :: rest =>
        if c = [] then serve f (s, acts) rest                 -- an empty chunk is no completion
        else if cap = 0 then ⟨[], .ub⟩
        else serve f (s.onRead .ok (c.take cap)) (if c.length ≤ cap then rest else c.drop cap :: rest)
    | [.asyncWrite data close] => (serve f (s.onWrite .ok close) chunks).cons data
    | [.postOnRead] => serve f (s.onRead .ok []) chunks
    | [] => ⟨[], .stalled⟩
    | [.closeConn] => ⟨[], .closed false⟩
    | [.closeConn, .asyncAccept] => ⟨[], .closed true⟩
    | _ => ⟨[], .ub⟩

/-- total number of bytes in a chunk list -/
def total (chunks : List Bytes) : Nat := (chunks.map List.length).sum

/-- fuel that is always enough (three callbacks per request, one per delivery) -/
def need (used : Nat) (chunks : List Bytes) : Nat := 4 * (used + total chunks) + 2 * chunks.length + 8

/-- the state of the server object when a connection has just been accepted -/
def Srv.fresh (cfg : Srv) : Srv := { cfg with buf := [], used := 0 }

/-- One whole connection: `on_accept(ok)`, then the client's bytes in the given chunking. -/
def run (cfg : Srv) (chunks : List Bytes) : Out :=
  serve (need 0 chunks) (cfg.fresh.onAccept .ok) chunks

end SimVerif.HttpServer
