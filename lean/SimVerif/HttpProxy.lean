/-
  SimVerif.HttpProxy — mechanism model of the HTTP test proxy `sim::http_proxy`
  (src/http_proxy.cpp, include/simulator/http_proxy.hpp), transcribed statement by statement.

  * One pure function per callback of the C++ class (`on_accept`, `on_read_request`,
    `on_domain_lookup`, `on_connected`, `on_server_write`, `on_server_receive`,
    `on_server_forward`, `close_connection`, `error`, `stop`, constructor, destructor):
    `Px → arguments → Px × List Act`. The actions are the calls the C++ makes on its four
    asio objects (resolver, acceptor, client socket, server socket), in program order; the
    world driver (`Drv/ProxySrv.lean`) interprets them on the socket / resolver models.
  * The three 64 kB arrays are CHECKED MEMORY: `Mem` is the initialised prefix of a
    65536-byte array (the rest is the zero fill the harness gives the object's storage);
    every `memcpy`/`memmove`/buffer hand-out is a checked access (`memRead`/`memWrite`), an
    access outside the array is the action `Act.ub`.
  * `forward_request` is split into the pure rewriting `rewrite : Request → Except Unit Rewritten`
    (std::string operations transcribed literally: `compare(0,7,…)`, `find_first_of('/',7)`,
    `substr(0,path_start).find_last_of(':')`, `substr`, `atoi`) and the buffer/connection part.
  * `m_server_connection.is_open()` is tracked in `Px.srvOpen`: only the proxy opens
    (`open_forward_connection`) and closes that socket.
  * `boost::asio::ip::make_address(host)` is the parameter `lit : Bytes → Option Bool`
    (`some true` = IPv4 literal, `some false` = IPv6 literal, `none` = not an address).
  * The tree transcribed is the repaired one (fix commits 746df1d bracket rule, 381b549 m_connecting,
    0932865 session numbers + resolver cancel + m_writing_to_server reset, 70e08a1 full buffer);
    transcriptions of the pinned statements that were wrong are in Props/C18.lean (`*Pinned`).
  * The exceptions: `parse_request` / `forward_request` throw `std::runtime_error`, caught by the
    function-try-block of `on_read_request`, whose handler is `close_connection()`.
    All three throws of `forward_request` happen before it changed any member.
-/
import SimVerif.Http
import SimVerif.HttpFast
import SimVerif.Basic

namespace SimVerif.HttpProxy

open SimVerif.Http

/-- size of each of `m_client_in_buffer`, `m_server_out_buffer`, `m_in_buffer` -/
def BUF : Nat := 65536

/-! ### checked memory -/

/-- zero-extend the initialised prefix to at least `n` bytes -/
def padTo (m : Bytes) (n : Nat) : Bytes := m ++ List.replicate (n - m.length) 0

/-- read `[off, off+n)` of a `BUF`-byte array whose initialised prefix is `m` -/
def memRead (m : Bytes) (off n : Nat) : Except Err Bytes :=
  if off + n ≤ BUF then .ok (((padTo m (off + n)).drop off).take n) else .error .oob

/-- write `d` at `[off, off + d.length)` -/
def memWrite (m : Bytes) (off : Nat) (d : Bytes) : Except Err Bytes :=
  if off + d.length ≤ BUF then .ok ((padTo m off).take off ++ d ++ m.drop (off + d.length)) else .error .oob

/-! ### std::string helpers -/

def ofStr (s : String) : Bytes := s.toUTF8.toList

/-- index of the first `c` in `s` -/
def findFirst (c : UInt8) : Bytes → Option Nat
  | [] => none
  | x :: t => if x = c then some 0 else (findFirst c t).map (· + 1)

/-- `s.find_first_of(c, from)` -/
def findFirstFrom (s : Bytes) (c : UInt8) (start : Nat) : Option Nat :=
  (findFirst c (s.drop start)).map (· + start)

/-- `s.find_last_of(c)`: index of the last `c` in `s` -/
def findLast (s : Bytes) (c : UInt8) : Option Nat :=
  match s with
  | [] => none
  | x :: t =>
    match findLast t c with
    | some i => some (i + 1)
    | none => if x = c then some 0 else none

/-- `isspace` in the "C" locale -/
def isSpace (c : UInt8) : Bool := c == 32 || (9 ≤ c && c ≤ 13)

def isDigit (c : UInt8) : Bool := 48 ≤ c && c ≤ 57

/-- the digits at the head of `s`, as a number -/
def digitsVal : Nat → Bytes → Nat
  | acc, [] => acc
  | acc, c :: t => if isDigit c then digitsVal (acc * 10 + (c.toNat - 48)) t else acc

/-- two's complement truncation `(int) long` -/
def toInt32 (v : Int) : Int :=
  let m := v % 4294967296
  if m ≥ 2147483648 then m - 4294967296 else m

/-- `atoi(s)` as glibc computes it: `(int) strtol(s, NULL, 10)` — white space, sign, digits;
    `strtol` saturates at `LONG_MIN`/`LONG_MAX` (64 bit), the cast truncates. -/
def atoi (s : Bytes) : Int :=
  let s := s.dropWhile isSpace
  let (neg, s) := match s with
    | 45 :: t => (true, t)
    | 43 :: t => (false, t)
    | _ => (false, s)
  let v := digitsVal 0 s
  let l : Int := if neg then (if v > 9223372036854775808 then -9223372036854775808 else -(v : Int))
                 else (if v > 9223372036854775807 then 9223372036854775807 else (v : Int))
  toInt32 l

/-- `static_cast<unsigned short>(port)` -/
def toU16 (v : Int) : Nat := (v % 65536).toNat

/-- decimal digits of a natural number (`%d` / `std::to_string`) -/
def decDigits (n : Nat) : Bytes := (Nat.toDigits 10 n).map (fun c => c.toNat.toUInt8)

/-- `snprintf(port_str, 10, "%d", port)`: at most nine characters survive -/
def portStr (v : Int) : Bytes := (if v < 0 then 45 :: decDigits (-v).toNat else decDigits v.toNat).take 9

/-! ### `forward_request`, the rewriting part -/

def HTTP_PFX : Bytes := [104, 116, 116, 112, 58, 47, 47]          -- "http://"
def HTTP11 : Bytes := [32, 72, 84, 84, 80, 47, 49, 46, 49, 13, 10]   -- " HTTP/1.1\r\n"
def HOST_KEY : Bytes := [104, 111, 115, 116]                       -- "host"
def HOST_HDR : Bytes := [104, 111, 115, 116, 58, 32]               -- "host: "

/-- `for (auto const& h : req.headers) { out += h.first; out += ": "; out += h.second; out += "\r\n"; }`
    (`std::map` iteration = ascending key order = list order of `HMap`) -/
def headerLines : HMap → Bytes
  | [] => []
  | (k, v) :: t => k ++ [58, 32] ++ v ++ CRLF ++ headerLines t

/-- `if (host.size() >= 2 && host.front() == '[' && host.back() == ']') host = host.substr(1, host.size() - 2);` -/
def stripBrackets (h : Bytes) : Bytes :=
  if h.length ≥ 2 ∧ h.head? = some 91 ∧ h.getLast? = some 93 then (h.drop 1).take (h.length - 2) else h

structure Rewritten where
  host : Bytes      -- what is resolved / connected to, and what goes into an added `host:` header
  port : Int        -- `int const port`
  out  : Bytes      -- `out_request`
  deriving DecidableEq, Repr

/-- `int const port` of `forward_request`: 80 unless the authority (the target up to the first '/' after
    `http://`) has a ':' beyond position 7 that does not lie inside a bracketed IPv6 literal; then
    `atoi` of what follows that ':' -/
def reqPort (req : Bytes) : Int :=
  let pathStart := findFirstFrom req 47 7                -- req.req.find_first_of('/', 7)
  let authority := match pathStart with                  -- req.req.substr(0, path_start)
    | none => req
    | some ps => req.take ps
  let hostEnd0 := findLast authority 58                  -- authority.find_last_of(':')
  let bracket := findLast authority 93                   -- authority.find_last_of(']')
  let hostEnd : Option Nat := match bracket, hostEnd0 with
    | some b, some he => if he < b then none else some he
    | _, _ => hostEnd0
  let portAt : Option Nat := match hostEnd with          -- host_end != npos && host_end > 7
    | some he => if he > 7 then some he else none
    | none => none
  match portAt with
  | none => 80
  | some he =>                                           -- atoi(req.req.substr(host_end + 1, path_start).c_str())
    atoi (match pathStart with
          | some ps => (req.drop (he + 1)).take ps
          | none => req.drop (he + 1))

/-- the std::string computations of `forward_request`; `.error ()` = `throw std::runtime_error("invalid request")`
    resp. (repaired in 99bb698) `throw std::runtime_error("invalid port")` for a port that does not fit 16 bits.
    Before the repair the port was only `static_cast<unsigned short>`ed when dialling (`toU16`):
    `http://h:73616/` dialled port 8080. -/
def rewrite (r : Request) : Except Unit Rewritten :=
  if r.req.take 7 ≠ HTTP_PFX then .error ()             -- req.req.compare(0, 7, "http://") != 0
  else
    let pathStart := findFirstFrom r.req 47 7            -- req.req.find_first_of('/', 7)
    let pathPart := match pathStart with
      | none => [47]
      | some ps => r.req.drop ps                         -- append(req.req, path_start, npos)
    let authority := match pathStart with                -- req.req.substr(0, path_start)
      | none => r.req
      | some ps => r.req.take ps
    let hostEnd0 := findLast authority 58                -- authority.find_last_of(':')
    let bracket := findLast authority 93                 -- authority.find_last_of(']')
    -- the colons of a bracketed IPv6 literal do not separate a port
    let hostEnd : Option Nat := match bracket, hostEnd0 with
      | some b, some he => if he < b then none else some he
      | _, _ => hostEnd0
    let portAt : Option Nat := match hostEnd with        -- host_end != npos && host_end > 7
      | some he => if he > 7 then some he else none
      | none => none
    let host0 := match portAt with
      | some he => (r.req.drop 7).take (he - 7)
      | none => match pathStart with
        | some ps => (r.req.drop 7).take (ps - 7)
        | none => r.req.drop 7
    let host := stripBrackets host0
    let port : Int := reqPort r.req
    -- if (port < 0 || port > 0xffff) throw std::runtime_error("invalid port");
    if port < 0 ∨ port > 65535 then .error ()
    else
    let foundHost := r.headers.any (fun h => h.1 == HOST_KEY)
    .ok { host := host, port := port,
          out := r.method ++ [32] ++ pathPart ++ HTTP11 ++ headerLines r.headers
                 ++ (if foundHost then [] else HOST_HDR ++ host ++ CRLF) ++ CRLF }

/-! ### state and actions -/

structure Px where
  writing : Bool := false     -- m_writing_to_server
  connecting : Bool := false  -- m_connecting
  session : Nat := 0          -- m_session: bumped by every close_connection()
  cin     : Bytes := []       -- m_client_in_buffer (initialised prefix)
  nCin    : Nat := 0          -- m_num_client_in_bytes
  sout    : Bytes := []       -- m_server_out_buffer
  nSout   : Nat := 0          -- m_num_server_out_bytes
  inb     : Bytes := []       -- m_in_buffer
  close   : Bool := false     -- m_close
  srvOpen : Bool := false     -- m_server_connection.is_open()
  deriving DecidableEq, Repr

/-- completion handler bound to the composed `asio::async_write` on the client socket -/
inductive WCont where
  | forward      -- on_server_forward
  | closeConn    -- the lambda of `error()`: close_connection
  deriving DecidableEq, Repr

/-- The calls the proxy makes on its asio objects. Every asynchronous operation except the accept
    is bound together with the session number current when it is started (`ses`). -/
inductive Act where
  | listen (port : Nat)                    -- ctor: m_listen_socket.open / bind(any, port) / listen
  | accept                                 -- m_listen_socket.async_accept(m_client_connection, m_ep, on_accept)
  | readClient (off cap : Nat) (ses : Nat) -- m_client_connection.async_read_some(buffer(&m_client_in_buffer[off], cap), on_read_request)
  | resolve (host service : Bytes) (ses : Nat)   -- m_resolver.async_resolve(host, port_str, on_domain_lookup)
  | cancelResolver                         -- m_resolver.cancel()
  | openServer (v4 : Bool)                 -- m_server_connection.open(target.protocol())
  | connect (addr : Bytes) (port : Nat) (ses : Nat)   -- m_server_connection.async_connect(target, on_connected)
  | writeServer (data : Bytes) (ses : Nat) -- m_server_connection.async_write_some(buffer(m_server_out_buffer, n), on_server_write)
  | readServer (ses : Nat)                 -- m_server_connection.async_read_some(buffer(m_in_buffer, 65536), on_server_receive)
  | writeClient (data : Bytes) (k : WCont) (ses : Nat)  -- asio::async_write(m_client_connection, buffer(m_in_buffer, n), k)
  | closeClient                            -- m_client_connection.close(err)
  | closeServer                            -- m_server_connection.close([err])
  | closeListen                            -- m_listen_socket.close()
  | destroyServer | destroyClient | destroyListen | destroyResolver   -- member destructors, in this order
  | queued (bytes : Bytes)                 -- ghost: memmove(&m_server_out_buffer[n], out_request…) appended these bytes
  | ub (what : String)                     -- undefined behaviour in the C++ (access outside an array, size_t underflow)
  deriving DecidableEq, Repr

/-- `http_proxy::http_proxy(ios, listen_port)` -/
def construct (port : Nat) : Px × List Act := ({}, [.listen port, .accept])

/-- `~http_proxy()`: members are destroyed in reverse order of declaration -/
def destruct (p : Px) : Px × List Act :=
  (p, [.destroyServer, .destroyClient, .destroyListen, .destroyResolver])

/-- `close_connection()` -/
def closeConnection (p : Px) : Px × List Act :=
  let p := { p with session := p.session + 1, nCin := 0, nSout := 0, connecting := false, writing := false,
                    srvOpen := false }
  (p, [.cancelResolver, .closeClient, .closeServer] ++ (if p.close then [] else [.accept]))

/-- `stop()` -/
def stop (p : Px) : Px × List Act := ({ p with close := true }, [.closeListen])

/-- `on_accept(ec)` -/
def onAccept (p : Px) (ec : Ec) : Px × List Act :=
  if ec = .aborted then (p, [])
  else if ec ≠ .ok then closeConnection p
  else (p, [.readClient 0 BUF p.session])

/-- the test every session-bound completion starts with:
    `if (ec == asio::error::operation_aborted || session != m_session) return;` -/
def stale (p : Px) (ses : Nat) (ec : Ec) : Bool := ec = .aborted || ses ≠ p.session

/-- `write_server_send_buffer()` -/
def writeServerSendBuffer (p : Px) : Px × List Act :=
  if p.writing then (p, [])
  else
    match memRead p.sout 0 p.nSout with
    | .error _ => (p, [.ub "m_server_out_buffer"])
    | .ok d => ({ p with writing := true }, [.writeServer d p.session])

/-- `open_forward_connection(target)` -/
def openForward (p : Px) (addr : Bytes) (port : Nat) (v4 : Bool) : Px × List Act :=
  ({ p with srvOpen := true }, [.openServer v4, .connect addr port p.session])

def HTTP11_SP : Bytes := [72, 84, 84, 80, 47, 49, 46, 49, 32]                     -- "HTTP/1.1 "
def CONTENT_LENGTH_0 : Bytes := [99, 111, 110, 116, 101, 110, 116, 45, 108, 101, 110, 103, 116, 104, 58, 32, 48]   -- "content-length: 0"
def MSG_RESOURCE : Bytes := [82, 101, 115, 111, 117, 114, 99, 101, 32, 84, 101, 109, 112, 111, 114, 97, 114, 105, 108, 121, 32, 85, 110, 97, 118, 97, 105, 108, 97, 98, 108, 101]   -- "Resource Temporarily Unavailable"
def MSG_SERVICE : Bytes := [83, 101, 114, 118, 105, 99, 101, 32, 84, 101, 109, 112, 111, 114, 97, 114, 105, 108, 121, 32, 85, 110, 97, 118, 97, 105, 108, 97, 98, 108, 101]    -- "Service Temporarily Unavailable"

/-- `send_response(code, message)` with the default `len = 0`, no extra headers:
    `"HTTP/1.1 " + to_string(code) + " " + message + "\r\n" + "content-length: 0\r\n" + "\r\n"` -/
def sendResponse (code : Nat) (msg : Bytes) : Bytes :=
  HTTP11_SP ++ decDigits code ++ [32] ++ msg ++ CRLF ++ CONTENT_LENGTH_0 ++ CRLF ++ CRLF

/-- `error(code, message)` -/
def error (p : Px) (code : Nat) (msg : Bytes) : Px × List Act :=
  let resp := sendResponse code msg
  match memWrite p.inb 0 resp with
  | .error _ => (p, [.ub "m_in_buffer"])
  | .ok inb => ({ p with inb := inb }, [.writeClient resp .closeConn p.session])

def resp503Lookup : Bytes := sendResponse 503 MSG_RESOURCE
def resp503Connect : Bytes := sendResponse 503 MSG_SERVICE

/-- the completion lambda of `error()`'s write -/
def onErrorWritten (p : Px) (ses : Nat) (ec : Ec) : Px × List Act :=
  if stale p ses ec then (p, []) else closeConnection p

/-- `forward_request(req)`; `.error ()` = one of its three `throw`s (no member was changed) -/
def forwardRequest (lit : Bytes → Option Bool) (p : Px) (req : Request) : Except Unit (Px × List Act) :=
  match rewrite req with
  | .error _ => .error ()
  | .ok rw =>
    if p.nSout + rw.out.length > BUF then .error ()     -- "pipeline too deep"
    else
      match memWrite p.sout p.nSout rw.out with
      | .error _ => .ok (p, [.ub "m_server_out_buffer"])
      | .ok sout =>
        let p := { p with sout := sout, nSout := p.nSout + rw.out.length }
        if p.connecting then .ok (p, [.queued rw.out])   -- stays queued; written once connected
        else if !p.srvOpen then
          let p := { p with connecting := true }
          match lit rw.host with
          | none => .ok (p, [.queued rw.out, .resolve rw.host (portStr rw.port) p.session])
          | some v4 => let r := openForward p rw.host (toU16 rw.port) v4; .ok (r.1, .queued rw.out :: r.2)
        else let r := writeServerSendBuffer p; .ok (r.1, .queued rw.out :: r.2)

/-- the `while (req_len >= 0)` loop of `on_read_request`, the full-buffer test and the re-arming of
    the read; `acts` = actions so far. Every iteration removes at least four bytes:
    `fuel` = byte count + 1. -/
def requestLoop (lit : Bytes → Option Bool) : Nat → Px → List Act → Px × List Act
  | 0, p, acts => (p, acts ++ [.ub "request loop"])
  | f + 1, p, acts =>
    match memRead p.cin 0 p.nCin with
    | .error _ => (p, acts ++ [.ub "m_client_in_buffer"])
    | .ok view =>
      match findRequestLen view p.nCin with
      | .error _ => (p, acts ++ [.ub "find_request_len"])
      | .ok reqLen =>
        if reqLen < 0 then
          if p.nCin = BUF then
            -- no complete request in a full buffer
            let r := closeConnection p
            (r.1, acts ++ r.2)
          else
            -- read more from the client
            (p, acts ++ [.readClient p.nCin (BUF - p.nCin) p.session])
        else
          match parseRequest view reqLen.toNat with
          | .oob => (p, acts ++ [.ub "parse_request"])
          | .parseFailed =>
            let r := closeConnection p              -- catch (std::runtime_error&)
            (r.1, acts ++ r.2)
          | .ok req =>
            match forwardRequest lit p req with
            | .error _ =>
              let r := closeConnection p            -- catch (std::runtime_error&)
              (r.1, acts ++ r.2)
            | .ok (p, a) =>
              -- memmove(m_client_in_buffer, m_client_in_buffer + req_len, m_num_client_in_bytes - req_len)
              match memWrite p.cin 0 (view.drop reqLen.toNat) with
              | .error _ => (p, acts ++ a ++ [.ub "m_client_in_buffer"])
              | .ok cin =>
                requestLoop lit f { p with cin := cin, nCin := p.nCin - reqLen.toNat } (acts ++ a)

/-- `on_read_request(session, ec, bytes_transferred)`; the socket copied `data` (the bytes
    transferred) to `&m_client_in_buffer[off]`, the address given when the read was started -/
def onReadRequest (lit : Bytes → Option Bool) (p : Px) (ses : Nat) (ec : Ec) (off : Nat) (data : Bytes) : Px × List Act :=
  match memWrite p.cin off data with
  | .error _ => (p, [.ub "m_client_in_buffer"])
  | .ok cin =>
    let p := { p with cin := cin }
    if stale p ses ec then (p, [])
    else if ec ≠ .ok then closeConnection p
    else
      let p := { p with nCin := p.nCin + data.length }
      requestLoop lit (p.nCin + 1) p []

/-- `on_domain_lookup(session, ec, ips)`; `v4` = family of the first address -/
def onDomainLookup (p : Px) (ses : Nat) (ec : Ec) (ips : List (Bytes × Nat × Bool)) : Px × List Act :=
  if stale p ses ec then (p, []) else
  match ips with
  | [] => error { p with connecting := false } 503 MSG_RESOURCE
  | (a, port, v4) :: _ =>
    if ec ≠ .ok then error { p with connecting := false } 503 MSG_RESOURCE
    else openForward p a port v4

/-- `on_connected(session, ec)` -/
def onConnected (p : Px) (ses : Nat) (ec : Ec) : Px × List Act :=
  if stale p ses ec then (p, []) else
  let p := { p with connecting := false }
  if ec ≠ .ok then
    let r := error { p with srvOpen := false } 503 MSG_SERVICE
    (r.1, .closeServer :: r.2)
  else
    let r := writeServerSendBuffer p
    (r.1, r.2 ++ [.readServer p.session])

/-- `on_server_write(session, ec, bytes_transferred)` -/
def onServerWrite (p : Px) (ses : Nat) (ec : Ec) (n : Nat) : Px × List Act :=
  if stale p ses ec then (p, []) else
  let p := { p with writing := false }
  if ec ≠ .ok then closeConnection p
  else if n > p.nSout then (p, [.ub "memmove size underflow in on_server_write"])
  else
    match memRead p.sout n (p.nSout - n) with
    | .error _ => (p, [.ub "m_server_out_buffer"])
    | .ok rest =>
      match memWrite p.sout 0 rest with
      | .error _ => (p, [.ub "m_server_out_buffer"])
      | .ok sout =>
        let p := { p with sout := sout, nSout := p.nSout - n }
        if p.nSout > 0 then writeServerSendBuffer p else (p, [])

/-- `on_server_receive(session, ec, bytes_transferred)`; the socket copied `data` to `m_in_buffer` -/
def onServerReceive (p : Px) (ses : Nat) (ec : Ec) (data : Bytes) : Px × List Act :=
  match memWrite p.inb 0 data with
  | .error _ => (p, [.ub "m_in_buffer"])
  | .ok inb =>
    let p := { p with inb := inb }
    if stale p ses ec then (p, [])
    else if ec ≠ .ok then closeConnection p
    else
      match memRead p.inb 0 data.length with
      | .error _ => (p, [.ub "m_in_buffer"])
      | .ok d => (p, [.writeClient d .forward p.session])

/-- `on_server_forward(session, ec, bytes)` -/
def onServerForward (p : Px) (ses : Nat) (ec : Ec) : Px × List Act :=
  if stale p ses ec then (p, [])
  else if ec ≠ .ok then closeConnection p else (p, [.readServer p.session])

end SimVerif.HttpProxy
