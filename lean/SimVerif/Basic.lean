/-
  SimVerif.Basic — shared vocabulary of all mechanism models.
  Core Lean only (no Mathlib) so that `simcheck` links as a `lean_exe`.
  Times are `Int` nanoseconds (written `Int`, never an `abbrev`: omega).
-/
namespace SimVerif

/-- Error codes the traces carry (mapped from boost error codes by the harness). -/
inductive Ec where
  | ok | aborted | eof | refused | inUse | denied | notAvail | afNoSupport
  | invalid | msgSize | wouldBlock | notConn | badDesc | hostNotFound | isConn
  | noBufs | reset | other
  deriving DecidableEq, Repr, Inhabited

def Ec.ofString : String → Option Ec
  | "ok" => some .ok | "aborted" => some .aborted | "eof" => some .eof
  | "refused" => some .refused | "in_use" => some .inUse | "denied" => some .denied
  | "not_avail" => some .notAvail | "af_no_support" => some .afNoSupport
  | "invalid" => some .invalid | "msg_size" => some .msgSize
  | "would_block" => some .wouldBlock | "not_conn" => some .notConn
  | "bad_desc" => some .badDesc | "host_not_found" => some .hostNotFound
  | "is_conn" => some .isConn | "no_bufs" => some .noBufs | "reset" => some .reset | "other" => some .other
  | _ => none

def Ec.toString : Ec → String
  | .ok => "ok" | .aborted => "aborted" | .eof => "eof" | .refused => "refused"
  | .inUse => "in_use" | .denied => "denied" | .notAvail => "not_avail"
  | .afNoSupport => "af_no_support" | .invalid => "invalid" | .msgSize => "msg_size"
  | .wouldBlock => "would_block" | .notConn => "not_conn" | .badDesc => "bad_desc"
  | .hostNotFound => "host_not_found" | .isConn => "is_conn" | .noBufs => "no_bufs" | .reset => "reset"
  | .other => "other"

instance : ToString Ec := ⟨Ec.toString⟩

/-- Functional update of a total map keyed by `Nat` (object tables). -/
def setF {α : Type} (f : Nat → α) (i : Nat) (v : α) : Nat → α :=
  fun j => if j = i then v else f j

@[simp] theorem setF_same {α : Type} (f : Nat → α) (i : Nat) (v : α) : setF f i v i = v := by
  simp [setF]

@[simp] theorem setF_other {α : Type} (f : Nat → α) (i j : Nat) (v : α) (h : j ≠ i) :
    setF f i v j = f j := by
  simp [setF, h]

theorem setF_proj {α β : Type} (g : α → β) (f : Nat → α) (i : Nat) (v : α) (h : g v = g (f i))
    (j : Nat) : g (setF f i v j) = g (f j) := by
  unfold setF; split
  · subst j; exact h
  · rfl

theorem setF_setF {α : Type} (f : Nat → α) (i : Nat) (a b : α) : setF (setF f i a) i b = setF f i b := by
  funext j; unfold setF; split <;> rfl

/-- Parse helpers for the line protocol (`key=value` tokens). -/
def kv? (tok : String) (key : String) : Option String :=
  let pre := key ++ "="
  if tok.startsWith pre then some ((tok.drop pre.length).toString) else none

def findKv? (toks : List String) (key : String) : Option String :=
  toks.findSome? (fun t => kv? t key)

def findInt? (toks : List String) (key : String) : Option Int :=
  (findKv? toks key).bind String.toInt?

def findNat? (toks : List String) (key : String) : Option Nat :=
  (findKv? toks key).bind String.toNat?

/-- `h12` → 12 -/
def parseId? (pre : String) (s : String) : Option Nat :=
  if s.startsWith pre then ((s.drop pre.length).toString).toNat? else none

end SimVerif
