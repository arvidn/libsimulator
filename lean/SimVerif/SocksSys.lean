/-
  SimVerif.SocksSys — the SOCKS proxy as an OPEN system: one `socks_server` (shared command
  counters) with any number of `socks_connection`s. The environment — clients, targets, the
  network, the resolver — chooses, at every step, which pending asynchronous operation of which
  connection completes and with what result (`SLbl.complete ci i r`): any error code, any bytes
  (any segmentation of any client byte stream: a read completion may carry any number of bytes
  up to the size of the region the operation was given), any datagram from any source, any
  resolver/connect/accept outcome; and when a new client is accepted (`SLbl.accept`).

  What the lower layers guarantee appears as the side condition `PEnt.ok` (`valid op r` and the
  abort rule below) checked by `step` (a label that violates it is not a possible event and is ignored):
    * a completion belongs to an operation that is pending, and each pending operation
      completes once (C04: handlers run exactly once) — `pend` is consumed by `step`;
    * a read/receive never stores more bytes than the region it was given (`valid`);
    * starting a read on a socket aborts the read already pending on it: the older operation
      can only complete with `operation_aborted` (tcp::socket::abort_recv_handlers).
  TCP's in-order reliable stream (C05) is what gives the ghost logs their meaning: the bytes
  carried by the successive read completions of a socket ARE the peer's stream, in order, and
  the bytes handed to `async_write` reach the peer in that order.

  The mechanism functions are those of SimVerif/Socks.lean, unchanged (`Socks.start`,
  `Socks.complete`). Ghosts: the history of completions and the list of actions.
-/
import SimVerif.Socks

namespace SimVerif.Socks

/-- the socket whose receive slot a pending operation occupies -/
def POp.rdSock : POp → Option Sock
  | .exact _ _ _ _ => some .client
  | .readSome s _ => some s
  | _ => none

structure PEnt where
  op      : POp
  aborted : Bool := false      -- superseded by a later read on the same socket
  deriving DecidableEq, Repr

/-- one connection with its ghosts -/
structure CS where
  c    : Conn
  pend : List PEnt := []
  hist : List (POp × Res) := []     -- ghost: completions delivered, oldest first
  acts : List Act := []             -- ghost: actions performed, oldest first
  deriving DecidableEq, Repr

structure SS where
  ver   : Int
  flags : Nat := 0
  cnt   : List Int := [0, 0, 0]     -- m_cmd_counts
  conns : List CS := []
  deriving DecidableEq, Repr

inductive SLbl where
  | accept                               -- on_accept(success): m_conn->start()
  | complete (ci i : Nat) (r : Res)      -- the i-th pending operation of connection ci completes with r
  deriving DecidableEq, Repr

/-- register the operations started by `acts`: a new read on a socket aborts the pending one -/
def addOps (pend : List PEnt) : List Act → List PEnt
  | [] => pend
  | a :: rest =>
    match a.op? with
    | none => addOps pend rest
    | some op =>
      let pend := match op.rdSock with
        | some s => pend.map (fun e => if e.op.rdSock = some s then { e with aborted := true } else e)
        | none => pend
      addOps (pend ++ [{ op := op }]) rest

/-- is `r` a possible result of the pending entry `e`? -/
def PEnt.ok (e : PEnt) (r : Res) : Bool :=
  valid e.op r && (!e.aborted || (match r with | .rd ec data => ec == .aborted && data.isEmpty | _ => true))

def SS.step (p : Params) (s : SS) : SLbl → Except Fault SS
  | .accept =>
    let c : Conn := { ver := s.ver, flags := s.flags }
    match start c s.cnt with
    | .error e => .error e
    | .ok (c, cnt, acts) => .ok { s with cnt := cnt, conns := s.conns ++ [{ c := c, pend := addOps [] acts, acts := acts }] }
  | .complete ci i r =>
    match s.conns[ci]? with
    | none => .ok s
    | some cs =>
      match cs.pend[i]? with
      | none => .ok s
      | some e =>
        if !e.ok r then .ok s else
        match complete p cs.c s.cnt e.op r with
        | .error f => .error f
        | .ok (c, cnt, acts) =>
          let cs' : CS := { c := c, pend := addOps (cs.pend.eraseIdx i) acts,
                            hist := cs.hist ++ [(e.op, r)], acts := cs.acts ++ acts }
          .ok { s with cnt := cnt, conns := s.conns.set ci cs' }

def SS.run (p : Params) (s : SS) : List SLbl → Except Fault SS
  | [] => .ok s
  | l :: rest =>
    match s.step p l with
    | .error f => .error f
    | .ok s' => s'.run p rest

def faulted {α : Type} : Except Fault α → Bool
  | .error _ => true
  | .ok _ => false

/-! ### ghost projections -/

/-- bytes the client sent that the relay loop read (`on_client_receive`, success) -/
def fromClient (hist : List (POp × Res)) : Bytes :=
  hist.flatMap (fun x => match x with
    | (.readSome .client .cliRecv, .rd .ok d) => d
    | _ => [])

/-- bytes the target sent that the relay loop read (`on_server_receive`, success) -/
def fromServer (hist : List (POp × Res)) : Bytes :=
  hist.flatMap (fun x => match x with
    | (.readSome .server .srvRecv, .rd .ok d) => d
    | _ => [])

/-- bytes handed to `async_write` on the target's socket -/
def toServer (acts : List Act) : Bytes :=
  acts.flatMap (fun a => match a with
    | .write .server b _ => b
    | _ => [])

/-- bytes handed to `async_write` on the client's socket by the relay loop (not the replies) -/
def toClientRelay (acts : List Act) : Bytes :=
  acts.flatMap (fun a => match a with
    | .write .client b (.write _ _ .srvFwd) => b
    | _ => [])

/-- the reply messages sent to the client (everything written to it outside the relay loop) -/
def replies (acts : List Act) : List Bytes :=
  acts.filterMap (fun a => match a with
    | .write .client _ (.write _ _ .srvFwd) => none
    | .write .client b _ => some b
    | _ => none)

/-- the bytes received for the request (`on_request1`'s composed read), over all its chunks -/
def reqBytes (hist : List (POp × Res)) : Bytes :=
  hist.flatMap (fun x => match x with
    | (.exact _ _ _ .req1, .rd _ d) => d
    | _ => [])

/-- no chunk of the request's read carried an error -/
def reqOk (hist : List (POp × Res)) : Bool :=
  hist.all (fun x => match x with
    | (.exact _ _ _ .req1, .rd ec _) => ec == .ok
    | _ => true)

def expectedLen (ver : Int) : Nat := if ver = 4 then 9 else 10

/-- the command byte of the request a connection RECEIVED (all 9 resp. 10 bytes, no error),
    whatever its version byte and validity -/
def CS.command? (cs : CS) : Option Int :=
  if reqOk cs.hist ∧ (reqBytes cs.hist).length = expectedLen cs.c.ver then some (sx ((reqBytes cs.hist).getD 1 0))
  else none

/-- number of connections that received a request with command byte `k` -/
def SS.countCmd (s : SS) (k : Int) : Int := ((s.conns.filter (fun cs => cs.command? = some k)).length : Int)

def SS.init (ver : Int) (flags : Nat) : SS := { ver := ver, flags := flags }

end SimVerif.Socks
