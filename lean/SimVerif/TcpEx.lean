/-
  SimVerif.TcpEx — concrete states and histories for the non-vacuity examples of Props/C04, C05, C06,
  C12, C19 and C20.
-/
import SimVerif.StreamSys

namespace SimVerif

/-! ### the real handshake: `tcpConnect`, the acceptor's `accIncoming` (→ `accCheckQueue` →
    `tcpAttach`), and the SYN-ACK's `tcpIncoming` -/
namespace Hs
def cfg : NetCfg :=
  { nodes := [("A", ["10.0.0.1"]), ("B", ["10.0.0.2"])],
    routeIn := [("*", ["qi"])], routeOut := [("*", ["qo"])], routeNet := [("*", ["net"])],
    mtu := [("10.0.0.1>10.0.0.2", 100), ("10.0.0.2>10.0.0.1", 3000)] }
def tgt : Ep := { addr := "10.0.0.2", port := 8080 }
/-- fresh socket `c` on A; acceptor `a` on B listening on 10.0.0.2:8080 with an accept into the
    fresh socket `p` outstanding -/
def n0 : NetSt :=
  { cfg := cfg,
    reg := { tcp := [(tgt, "a")] },
    fwds := [some "a"],
    tcps := [("c", { node := "A" }),
             ("a", { node := "B", isOpen := true, bound := tgt, fwd := some 0,
                     acc := some { queueLimit := 20, acceptOp := some (.into 3 "p" false) } }),
             ("p", { node := "B" })] }
def r1 := n0.tcpConnect 0 "c" tgt 7
def syn : Pkt := (s5_fwdsOf r1.2).headD default
def r2 := r1.1.accIncoming 0 "a" syn
def synack : Pkt := (s5_fwdsOf r2.2).headD default
def r3 := r2.1.tcpIncoming {} 0 "c" synack

def epC : Ep := { addr := "10.0.0.1", port := 2000 }
def nA : NetSt :=
  { cfg := cfg,
    reg := { tcp := [(tgt, "a"), (epC, "c")], nextPort := 2001 },
    fwds := [some "a", some "c"],
    chans := [{ hops0 := ["qo", "net", "qi", "@1"], hops1 := ["qo", "net", "qi", "@0"], ep0 := epC, ep1 := tgt,
                vis0 := epC, vis1 := tgt }],
    tcps := [("c", { node := "A", isOpen := true, bound := epC, fwd := some 1, chan := some 0, connectH := some 7,
                     mss := 100, cwnd := 200 }),
             ("a", { node := "B", isOpen := true, bound := tgt, fwd := some 0,
                     acc := some { queueLimit := 20, acceptOp := some (.into 3 "p" false) } }),
             ("p", { node := "B" })] }
def synA : Pkt := { id := 0, ty := .syn, len := 0, ovh := 28, src := "10.0.0.1:2000", chan := some 0,
                    hops := ["qo", "net", "qi", "@0"] }

theorem r1_eq : r1 = (nA, [.forward synA]) := by rfl

theorem r3_eq : r3 = ((nA.accIncoming 0 "a" synA).1.tcpIncoming {} 0 "c"
      ((s5_fwdsOf (nA.accIncoming 0 "a" synA).2).headD default)) := by
  simp only [r3, r2, synack, syn, r1_eq]
  rfl

end Hs

/-! ### a history with a first-hop drop, out-of-order arrival, retransmission, a pending read
    completed by an arrival (2 of a 3-byte segment), a blocked write, close, EOF -/
namespace TcpEx

def cfg : NetCfg := { mtu := [("*", 3)] }
def c : TcpCfg := { a := "s1", b := "s2" }
def n0 : NetSt := established cfg c { addr := "10.0.0.1", port := 2000 } { addr := "10.0.0.2", port := 80 } ["q1"] ["q2"]

def hist : List TLbl := [
  .read { h := 7, caps := [1, 1] },
  .write 0 { h := 1, bufs := [[1, 2, 3, 4], [5, 6]], stream := 0, off := 0 },
  .drop 0 none,
  .run 0,
  .run 0,
  .deliver 0 0 none,
  .deliver 0 0 none,
  .run 0, .run 0,
  .write 0 { h := 2, bufs := [[5, 6]], stream := 0, off := 4 },
  .run 0,
  .deliver 0 1 none,
  .deliver 0 0 none,
  .readNb [10],
  .closeA 0,
  .deliver 0 2 none,
  .waitRead 9,
  .read { h := 8, caps := [4] },
  .deliver 0 0 none, .run 0, .run 0, .deliver 0 0 none, .run 0, .run 0
  ]

def final : TS := TS.run c (TS.init c n0) hist

theorem final_eq : final.delivered = [1, 2, 3, 4] ∧ final.accepted = [1, 2, 3, 4]
    ∧ final.segs = [[1, 2, 3], [4]] ∧ final.eofAt = some 4 ∧ final.closed = true
    ∧ final.posts.map (fun x => (x.h, x.ec, x.extra))
      = [(1, .ok, "n=4 stream=0 off=0"), (7, .ok, "n=2 data=0102"), (2, .aborted, "n=0 stream=0 off=4"),
         (9, .aborted, ""), (8, .eof, "n=0 data=-")] := by decide +kernel

end TcpEx

namespace C04Ex

def ch0 : Chan := { hops0 := ["q0", "@0"], hops1 := ["q1", "@1"], ep0 := { addr := "10.0.0.1", port := 2000 },
                    ep1 := { addr := "10.0.0.2", port := 80 } }

/-- a connecting socket `s1` (connect handler 1 outstanding), a listening acceptor `a0`, and an
    open socket `s3` with a read (handler 2) outstanding that is about to be used as accept peer -/
def tcp0 : NetSt :=
  ((({ fwds := [some "s1", some "a0"], chans := [ch0],
       reg := { tcp := [({ addr := "10.0.0.2", port := 80 }, "a0")] } } : NetSt).setTcp "s1"
    { node := "n0", isOpen := true, bound := { addr := "10.0.0.1", port := 2000 }, fwd := some 0, chan := some 0,
      connectH := some 1 }).setTcp "a0"
    { node := "n1", isOpen := true, bound := { addr := "10.0.0.2", port := 80 }, fwd := some 1,
      acc := some { queueLimit := 20 } }).setTcp "s3"
    { node := "n1", isOpen := true, recvH := some { h := 2, caps := [4] } }

end C04Ex

end SimVerif
