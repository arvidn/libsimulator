/-
  C13 — a NAT hop rewrites the visible source address and nothing else.

  The hop is `natApply` (SimVerif/Nat.lean): the pure function on (packet, channel table) that
  `forwardPkt` in Drv/Kernel.lean CALLS in its `.nat` case before handing the packet to the
  next hop — the world driver that reproduces the implementation's traces executes exactly
  the function these theorems are about. TCP views come from the open handshake system
  (SimVerif/AcceptSys.lean, Props/C07.lean), whose adversary may pass any packet in flight
  through any number of NAT hops (`natRewrite` label).
-/
import SimVerif.Props.C07
import SimVerif.Drv.Kernel
import SimVerif.Lemmas.UdpSock

namespace SimVerif
open Hs

/-- The packet leaves the hop with its source address replaced
    by the external address and its source port kept; payload, type, sequence number, length,
    overhead, error code, remaining hops, drop callback, channel, byte counter are unchanged.
    In the channel table nothing but `visible_ep[0].address` of the packet's own channel can
    change (and it becomes the external address, on a SYN). -/
theorem C13_only_source_address (ext : String) (pk : Pkt) (chans : List Chan) :
    { (natApply ext pk chans).1 with src := pk.src } = pk
    ∧ (natApply ext pk chans).1.src = ext ++ ":" ++ portSuffix pk.src
    ∧ portSuffix (natApply ext pk chans).1.src = portSuffix pk.src
    ∧ (natApply ext pk chans).2.length = chans.length
    ∧ (∀ i : Nat, ((natApply ext pk chans).2[i]?).map (fun ch : Chan => { ch with vis0 := { ch.vis0 with addr := "" } })
            = (chans[i]?).map (fun ch : Chan => { ch with vis0 := { ch.vis0 with addr := "" } }))
    ∧ (∀ i : Nat, pk.chan ≠ some i → (natApply ext pk chans).2[i]? = chans[i]?)
    ∧ (∀ c ch, pk.ty = .syn → pk.chan = some c → chans[c]? = some ch →
          (natApply ext pk chans).2[c]? = some { ch with vis0 := { ch.vis0 with addr := ext } }) := by
  refine ⟨rfl, rfl, portSuffix_natRewrite _ _, ?_⟩
  have hsyn : ∀ c ch, pk.ty = .syn → pk.chan = some c → chans[c]? = some ch →
      (natApply ext pk chans).2[c]? = some { ch with vis0 := { ch.vis0 with addr := ext } } := by
    intro c ch hty hc hch
    rw [natApply_snd_syn ext pk chans c ch hty hc hch, getElem?_mapIdx_at, if_pos rfl, hch]; rfl
  rcases natApply_snd_cases ext pk chans with ⟨_, e⟩ | ⟨c, ch, _, hc, hch, e⟩
  · rw [e] at hsyn ⊢
    exact ⟨rfl, fun _ => rfl, fun _ _ => rfl, hsyn⟩
  · refine ⟨by rw [e]; exact List.length_mapIdx, fun i => ?_, fun i hi => ?_, hsyn⟩
    · rw [e, getElem?_mapIdx_at]
      split
      · rename_i h; subst h; rw [hch]; rfl
      · rfl
    · rw [e, getElem?_mapIdx_at, if_neg (fun h : i = c => hi (h ▸ hc))]

/-- the world driver's NAT case IS this function: a packet whose next hop is a NAT is handed to
    the hop after it as `natApply` left it, with the channel table `natApply` returned -/
theorem C13_forwardPkt_is_natApply (p : KParams) (f : Nat) (name ext : String) (rest : List String) (pk : Pkt)
    (s : Drv.KSt) (hn : name.startsWith "@" = false) (hh : s.hops.lookup name = some (.nat ext)) :
    Drv.forwardPkt p (f + 1) { pk with hops := name :: rest } s
      = Drv.forwardPkt p f (natApply ext { pk with hops := rest } s.net.chans).1
          { s with net := { s.net with chans := (natApply ext { pk with hops := rest } s.net.chans).2 } } := by
  rw [Drv.forwardPkt]
  simp only [hn, hh]
  rfl

/-- The repaired behaviour (fda8448): a packet that is not a SYN
    leaves the channel table untouched. -/
theorem C13_only_syn_rewrites (ext : String) (pk : Pkt) (chans : List Chan) (h : pk.ty ≠ .syn) :
    (natApply ext pk chans).2 = chans :=
  natApply_snd_nonsyn ext pk chans h

/-- The pinned tree rewrote on every packet carrying a channel.
    Witness: the connector sits behind NAT 99.0.0.1 (its SYN made `vis0 = 99.0.0.1:2000`); the
    SYN-ACK travelling back crosses the ACCEPTOR's NAT 99.0.0.2: as-is, the connector's visible
    address becomes the acceptor's external address; repaired, it stays. -/
theorem C13_asis_synack_corrupts :
    let ch : Chan := { ep0 := { addr := "10.0.0.1", port := 2000 }, vis0 := { addr := "99.0.0.1", port := 2000 },
                       ep1 := { addr := "10.0.1.1", port := 8000 }, vis1 := { addr := "10.0.1.1", port := 8000 } }
    let synack : Pkt := { id := 0, ty := .synack, chan := some 0, src := "10.0.1.1:8000" }
    ((natApplyP false "99.0.0.2" synack [ch]).2.map (·.vis0)) = [{ addr := "99.0.0.2", port := 2000 }]
    ∧ ((natApply "99.0.0.2" synack [ch]).2.map (·.vis0)) = [{ addr := "99.0.0.1", port := 2000 }] :=
  ⟨by decide +kernel, by rw [C13_only_syn_rewrites _ _ _ (by decide)]; rfl⟩

theorem natChain_cons (x : String) (xs : List String) (pk : Pkt) (chans : List Chan) :
    natChain (x :: xs) pk chans = natChain xs (natApply x pk chans).1 (natApply x pk chans).2 := rfl

theorem natChain_frame (exts : List String) (pk : Pkt) (chans : List Chan) :
    { (natChain exts pk chans).1 with src := pk.src } = pk
    ∧ (pk.chan = none → (natChain exts pk chans).2 = chans) := by
  induction exts generalizing pk chans with
  | nil => exact ⟨rfl, fun _ => rfl⟩
  | cons x xs ih =>
    rw [natChain_cons]
    obtain ⟨h1, h2⟩ := ih (natApply x pk chans).1 (natApply x pk chans).2
    constructor
    · exact congrArg (fun q : Pkt => { q with src := pk.src }) h1
    · intro hc
      rw [h2 hc]
      rcases natApply_snd_cases x pk chans with ⟨_, e⟩ | ⟨_, _, _, hc', _⟩
      · exact e
      · rw [hc] at hc'; cases hc'

theorem natChain_src (exts : List String) (hv4 : ∀ e ∈ exts, addrIsV4 e = true) (e : Ep) (pk : Pkt) (chans : List Chan)
    (hsrc : pk.src = e.toString) :
    (natChain exts pk chans).1.src = ({ e with addr := exts.getLast?.getD e.addr } : Ep).toString := by
  induction exts generalizing pk chans e with
  | nil => simpa [natChain] using hsrc
  | cons x xs ih =>
    rw [natChain_cons]
    have hx := hv4 x List.mem_cons_self
    have h1 : (natApply x pk chans).1.src = ({ e with addr := x } : Ep).toString := by
      rw [natApply_fst]; simp only; rw [hsrc]; exact natRewrite_toString e x hx
    rw [ih (fun y hy => hv4 y (List.mem_cons_of_mem _ hy)) _ _ _ h1, List.getLast?_cons, Option.getD_some]

theorem udpSendTo_forward (n : NetSt) (now : Int) (name : String) (dst : Ep) (payload : List UInt8) (q : Pkt)
    (hq : q ∈ fwdPkts (n.udpSendTo now name dst payload).2.1) :
    ∃ u, (n.udpSendTo now name dst payload).1.udp? name = some u ∧ q.src = u.bound.toString
      ∧ q.payload = payload ∧ q.ty = .payload ∧ q.chan = none ∧ q.len = payload.length := by
  change q ∈ fwdsOf _ at hq
  cases hu : n.udp? name with
  | none => rw [udpSendTo_none n now name dst payload hu] at hq; cases hq
  | some u0 =>
    rw [udpSendTo_eq n now name dst payload u0 hu] at hq ⊢
    rcases udpSendTail_cases _ _ _ now name dst payload with ⟨c, e, -⟩ | ⟨u, hops, -, -, -, -, -, -, -, e⟩ <;>
      rw [e] at hq ⊢
    · rw [fwdsOf_abortSend] at hq; cases hq
    · rw [fwdsOf_append, fwdsOf_append, fwdsOf_abortSend, fwdsOf_pcap] at hq
      cases List.mem_singleton.mp hq
      exact ⟨_, udp?_setUdp_same _ _ _, rfl, rfl, rfl, rfl, rfl⟩

/-- A datagram sent with `send_to` and carried through `k` NAT hops is
    queued at the receiver unchanged except for its source, and `receive_from` reports
    `(external address of the LAST hop, the sender's own port)` together with the payload; the
    sender's own local endpoint is not touched; no channel is touched. -/
theorem C13_udp_source (n : NetSt) (now : Int) (name : String) (dst : Ep) (payload : List UInt8) (q : Pkt)
    (hq : q ∈ fwdPkts (n.udpSendTo now name dst payload).2.1)
    (exts : List String) (hv4 : ∀ e ∈ exts, addrIsV4 e = true) (chans : List Chan) :
    ∃ u, (n.udpSendTo now name dst payload).1.udp? name = some u
      ∧ (natChain exts q chans).1.src = ({ u.bound with addr := exts.getLast?.getD u.bound.addr } : Ep).toString
      ∧ (natChain exts q chans).1.payload = payload
      ∧ { (natChain exts q chans).1 with src := q.src } = q
      ∧ (natChain exts q chans).2 = chans
      ∧ ∀ (r : UdpSock) (caps : List Nat), r.isOpen = true → r.bound.isDefault = false → r.queue = [] →
          r.queueSize + (natChain exts q chans).1.size ≤ 262144 → r.recvH = none → r.waitRecvH = none →
          ((r.incoming (natChain exts q chans).1).1.receiveFrom caps).2
            = .ok (payload.take (caps.foldl (· + ·) 0),
                   ({ u.bound with addr := exts.getLast?.getD u.bound.addr } : Ep).toString) := by
  obtain ⟨u, h1, h2, h3, _, h5, _⟩ := udpSendTo_forward n now name dst payload q hq
  obtain ⟨f1, f2⟩ := natChain_frame exts q chans
  have hsrc := natChain_src exts hv4 u.bound q chans h2
  have hpl : (natChain exts q chans).1.payload = payload := by
    have := congrArg Pkt.payload f1; simpa [h3] using this
  refine ⟨u, h1, hsrc, hpl, f1, f2 h5, ?_⟩
  intro r caps hop hb hqe hsz hr1 hr2
  have hc : ¬ (r.queueSize + ((natChain exts q chans).1.size : Int) > 262144) := by omega
  rw [UdpSock.incoming_idle hc hr1 hr2, hqe, UdpSock.receiveFrom_cons _ caps (natChain exts q chans).1 [] ?_ ?_ rfl, hpl, hsrc] <;>
    assumption

/-- UDP: no NAT on the route — the receiver is told the sender's
    real bound endpoint. -/
theorem C13_no_nat_real_address (n : NetSt) (now : Int) (name : String) (dst : Ep) (payload : List UInt8) (q : Pkt)
    (hq : q ∈ fwdPkts (n.udpSendTo now name dst payload).2.1) (chans : List Chan) :
    ∃ u, (n.udpSendTo now name dst payload).1.udp? name = some u ∧ (natChain [] q chans).1.src = u.bound.toString := by
  obtain ⟨u, h1, h2, _⟩ := udpSendTo_forward n now name dst payload q hq
  exact ⟨u, h1, h2⟩

/-- a `receive_from` posted BEFORE the datagram arrives completes with the same sender endpoint
    (the `ep=` the handler is given) -/
theorem C13_udp_source_pending (q : Pkt) (r : UdpSock) (op : RecvOp)
    (hop : r.isOpen = true) (hb : r.bound.isDefault = false) (hqe : r.queue = [])
    (hsz : r.queueSize + q.size ≤ 262144) (hr1 : r.recvH = some op) (hnull : r.recvNull = false) :
    (r.incoming q).2
      = [.post { h := op.h, ec := .ok, extra := recvExtra op.withEp (q.payload.take (op.caps.foldl (· + ·) 0)) q.src, data := q.payload.take (op.caps.foldl (· + ·) 0), src := q.src }] := by
  have hc : ¬ (r.queueSize + (q.size : Int) > 262144) := by omega
  rw [UdpSock.incoming_recv hc hqe hnull hr1, UdpSock.asyncReceive_cons _ op q [] ?_ ?_ rfl] <;> assumption

section system
variable (cfg : NetCfg) (accs clients : List (String × String)) (tp : TParams)

/-- In every reachable state of the open handshake system (any number of
    acceptors, re-opened at will; user cancel / close) — the adversary passes SYNs, SYN-ACKs and
    anything else in flight through NAT hops at will — for every completed accept `e` of an
    acceptor listening on `e.lep`:
    * the endpoint reported by accept = the accepted socket's remote endpoint = the connector's
      bound endpoint with the address of the LAST NAT hop its SYN crossed, the original port;
    * the connector's own local endpoint, the endpoint it dialled and its view of the acceptor
      (`remote_endpoint()`) are NOT altered, whatever the SYN-ACK crossed on its way back. -/
theorem C13_tcp_views (ls : List HLbl) (hok : HS.okRun tp (HS.init cfg accs clients) ls) :
    let s := HS.run tp (HS.init cfg accs clients) ls
    ∀ e ∈ s.accLog, ∃ op c ch d,
      e.op = some op ∧ e.cid = some c ∧ s.net.chans[c]? = some ch ∧ s.dialLog[c]? = some d
      ∧ ch.vis0 = { d.ep0 with addr := (((s.natLog.filter (fun x => x.1 == c)).getLast?).map (·.2)).getD d.ep0.addr }
      ∧ e.compl.extra = (if op.withEp then "ep=" ++ ch.vis0.toString else "")
      ∧ (∀ sk, s.net.tcp? op.peer = some sk → sk.chan = some c → ch.vis (ch.remoteIdx sk.bound) = ch.vis0)
      ∧ ch.ep0 = d.ep0 ∧ ch.vis1 = e.lep ∧ d.target = e.lep
      ∧ (∀ o sk, s.net.tcp? o = some sk → sk.chan = some c → sk.bound = ch.ep0 →
            sk.bound = d.ep0 ∧ ch.vis (ch.remoteIdx sk.bound) = e.lep) := by
  intro s e he
  obtain ⟨op, c, ch, d, q1, q2, q3, q4, _, _, _, q8, q9, _, q10, _, q12, q13, q14, q15, _⟩ :=
    C07_views cfg accs clients tp ls hok e he
  refine ⟨op, c, ch, d, q1, q2, q3, q4, by rw [q15, natView_eq], q8, fun sk h1 h2 => (q14 sk h1 h2).2, q10,
    by rw [q12, q9], q9, ?_⟩
  intro o sk h1 h2 h3
  exact ⟨h3.trans q10, by rw [q13 o sk h1 h2 h3, q9]⟩

/-- TCP: a connector whose SYN crossed no NAT is seen with its
    real bound endpoint. -/
theorem C13_tcp_no_nat_real_address (ls : List HLbl) (hok : HS.okRun tp (HS.init cfg accs clients) ls) :
    let s := HS.run tp (HS.init cfg accs clients) ls
    ∀ e ∈ s.accLog, ∀ c ch d, e.cid = some c → s.net.chans[c]? = some ch → s.dialLog[c]? = some d →
      (∀ x ∈ s.natLog, x.1 ≠ c) → ch.vis0 = d.ep0 := by
  intro s e he c ch d hc hch hd hno
  obtain ⟨op, c', ch', d', _, q2, q3, q4, q5, _⟩ := C13_tcp_views cfg accs clients tp ls hok e he
  rw [hc] at q2; cases q2
  rw [hch] at q3; cases q3
  rw [hd] at q4; cases q4
  rw [q5]
  have : s.natLog.filter (fun x => x.1 == c) = [] := by
    rw [List.filter_eq_nil_iff]; intro x hx; simpa using hno x hx
  rw [this]; rfl

end system

set_option maxRecDepth 100000 in
/-- the example history of Props/C07 (s2's SYN crosses NAT 99.0.0.9, the others none): accept
    reports `99.0.0.9:2002` for s2 and the accepted socket for s1 sees the real `10.0.1.1:2001`;
    the connectors see the acceptors as `10.0.0.1:8000` / `10.0.0.2:9000` -/
example : HEx.fin.net.chans.map (fun c => (c.ep0.toString, c.vis0.toString, c.vis1.toString))
    = [("10.0.1.1:2001", "10.0.1.1:2001", "10.0.0.1:8000"), ("10.0.1.1:2002", "99.0.0.9:2002", "10.0.0.1:8000"),
       ("10.0.1.1:2003", "10.0.1.1:2003", "10.0.0.2:9000"), ("10.0.1.1:7000", "10.0.1.1:7000", "10.0.0.2:9000")] :=
  HEx.obs.2.2.2.2

set_option maxRecDepth 100000 in
/-- the SYN-ACK of channel 0 crossing a NAT on the acceptor's side changes no view (repaired
    behaviour), and the theorems above cover such histories -/
example : ((HS.run {} HEx.init
      [.openAcc "a0" true, .bind "a0" HEx.aep, .listen "a0" 5, .connect "s1" HEx.aep 1, .natRewrite 0 "99.0.0.9",
       .deliverSyn 0 "a0", .accept "a0" (.into 10 "s0" true),
       .natRewrite 0 "99.0.0.2", .deliverSynAck 0 "s1"]).net.chans.map (fun c => (c.vis0.toString, c.vis1.toString)))
    = [("99.0.0.9:2000", "10.0.0.1:8000")] := by decide +kernel

example := C13_tcp_views HEx.cfg HEx.accs HEx.clients {} HEx.hist HEx.hist_ok

/-- a datagram through two NAT hops: the receiver is told the LAST external address, port 6000 -/
example : (natChain ["99.0.0.1", "99.0.0.7"] { id := 0, src := "10.0.0.1:6000", payload := [1, 2, 3], len := 3 } []).1.src
    = "99.0.0.7:6000" := by decide

end SimVerif
