/-
  C12 — Closing or destroying endpoints at any moment is memory-safe and silent.

  Property theorems, the as-is `packet_dropped` (`tcpPacketDroppedAsIs`) and examples. What Lean
  carries: in the mechanism models (SimVerif/Net.lean, SimVerif/Tcp.lean, SimVerif/Kernel.lean) every raw pointer / by-reference capture of the C++
  is an explicit reference resolved by name or id — the forwarder a route ends in
  (`NetSt.fwds`, `fwdTarget`), the channel of a socket (`TcpSock.chan`), the registry entry of a
  bound socket, the timer queue — and the world driver (SimVerif/Drv/Kernel.lean) resolves them
  on every use. The theorems say that after `close` / `cancel` / destruction none of these
  references leads anywhere (packets, ACKs and drop notifications addressed to the object
  vanish), that the functions which dereference `m_channel` do nothing when it is null, that an
  operation on one object leaves every other object as it was, and that the catch-all of
  `run()` leaves the kernel with no timer queued and every pending wait aborted exactly once.
  Memory safety of the real library itself is *observed* (ASan/UBSan runs of props/c12.py) and
  tied to these models by the trace correspondence.

  Destruction = `close` in the models (`udpClose`, `tcpClose` with the channel reset first,
  `accClose`), followed by removal of the object from the table (driver).
-/
import SimVerif.TcpEx
import SimVerif.Lemmas.HandlersTcpFns
import SimVerif.Lemmas.LifetimeNet
import SimVerif.Lemmas.NetUdp
import SimVerif.Lemmas.LifetimeDrv

namespace SimVerif

open HL Drv

/-- **Close detaches.** After `close()` (UDP socket, TCP socket, acceptor) the forwarder the object
    had points nowhere, and the object no longer refers to a forwarder. -/
theorem C12_detached_forwarder (n : NetSt) (now : Int) (name : String) (f : Nat) :
    (∀ u, n.udp? name = some u → u.fwd = some f →
        (n.udpClose name).1.fwdTarget f = none
        ∧ ∃ u', (n.udpClose name).1.udp? name = some u' ∧ u'.fwd = none ∧ u'.isOpen = false)
    ∧ (∀ s, n.tcp? name = some s → s.fwd = some f →
        (n.tcpClose now name).1.fwdTarget f = none
        ∧ ∃ s', (n.tcpClose now name).1.tcp? name = some s' ∧ s'.fwd = none ∧ s'.isOpen = false ∧ s'.chan = none)
    ∧ (∀ s a, n.tcp? name = some s → s.acc = some a → s.fwd = some f →
        (n.accClose now name).1.fwdTarget f = none
        ∧ ∃ s', (n.accClose now name).1.tcp? name = some s' ∧ s'.fwd = none ∧ s'.isOpen = false) := by
  refine ⟨fun u hu hf => ⟨udpClose_detaches n name u f hu hf, _,
      by rw [udpClose_exact n name u hu]; exact udp?_setUdp_same .., rfl, rfl⟩,
    fun s hs hf => ?_, fun s a hs ha hf => ?_⟩
  · exact ⟨tcpClose_detaches n now name s f hs hf, _, (tcpClose_some n now name s hs).2, rfl, rfl, rfl⟩
  · exact ⟨accClose_detaches n now name s f hs hf, _, (accClose_posts n now name s a hs ha).2, rfl, rfl⟩

/-- **Open never reuses a forwarder.** `open()` closes first (detaching the old forwarder) and then
    creates forwarder number `n.fwds.length` — an id no route built so far can mention; every
    older forwarder keeps its target, except the socket's previous one, which stays detached. -/
theorem C12_fresh_forwarder (n : NetSt) (now : Int) (name : String) (v4 : Bool) :
    (∀ u, n.udp? name = some u →
        (∃ u', (n.udpOpen name v4).1.udp? name = some u' ∧ u'.fwd = some n.fwds.length)
        ∧ (n.udpOpen name v4).1.fwdTarget n.fwds.length = some name
        ∧ n.fwdTarget n.fwds.length = none
        ∧ (∀ g, g < n.fwds.length →
            (n.udpOpen name v4).1.fwdTarget g = if some g = u.fwd then none else n.fwdTarget g))
    ∧ (∀ s, n.tcp? name = some s →
        (∃ s', (n.tcpOpen now name v4).1.tcp? name = some s' ∧ s'.fwd = some n.fwds.length)
        ∧ (n.tcpOpen now name v4).1.fwdTarget n.fwds.length = some name
        ∧ n.fwdTarget n.fwds.length = none
        ∧ (∀ g, g < n.fwds.length →
            (n.tcpOpen now name v4).1.fwdTarget g = if some g = s.fwd then none else n.fwdTarget g)) := by
  -- both are `RV.opened` after `RV.close` on the registry view of their protocol
  have key : ∀ {ft' : Nat → Option String} {fw : Option Nat},
      (∀ g, ft' g = if g = n.fwds.length then some name else if fw = some g then none else n.fwdTarget g) →
      ft' n.fwds.length = some name ∧ n.fwdTarget n.fwds.length = none
      ∧ ∀ g, g < n.fwds.length → ft' g = if some g = fw then none else n.fwdTarget g := fun h =>
    ⟨(h _).trans (if_pos rfl), fwdTarget_ge n _ (Nat.le_refl _), fun g hg => by
      rw [h g, if_neg (Nat.ne_of_lt hg)]; simp only [eq_comm]⟩
  constructor
  · intro u hu
    exact ⟨⟨_, by rw [udpOpen_exact n name v4 u hu]; exact udp?_setUdp_same .., rfl⟩, key fun g =>
      (congrFun (congrArg RV.ft (udpOpen_rv n name v4).1) g).trans (RV.reopen_ft n.rvU name (uv_some_of_udp? hu) g)⟩
  · intro s hs
    obtain ⟨cs, -, e⟩ := tcpOpen_exact n now name v4 s hs
    exact ⟨⟨_, by rw [e]; exact tcp?_setTcp_same .., rfl⟩, key fun g =>
      (congrFun (congrArg RV.ft (tcpOpen_rv n now name v4 []).1) g).trans (RV.reopen_ft (n.rvT []) name (tv_some_of_tcp? hs) g)⟩

/-- **Hop names of forwarders decode back** (for every forwarder id, not only those a scenario
    reaches): forwarder `f`'s hop name is `fwdHop f = "@" ++ toString f`; the world driver
    (`forwardPkt`) recognises it by `startsWith "@"` and decodes it by `(hop.drop 1).toNat?`, which
    yields `f` again; and distinct forwarders have distinct hop names. -/
theorem C12_fwdHop_decodes (f : Nat) :
    (fwdHop f).startsWith "@" = true
    ∧ ((fwdHop f).drop 1).toString.toNat? = some f
    ∧ ∀ g, fwdHop g = fwdHop f → g = f :=
  ⟨Hs.fwdHop_startsWith f, Hs.fwdHop_decode f, fun _ h => Hs.fwdHop_inj h⟩

/-- **Packets, ACKs and drop notifications for a detached forwarder vanish** (world driver): a
    packet whose next hop is the hop name `fwdHop f` of a forwarder `f` that is detached (or does
    not exist) leaves the whole world state unchanged; a queue's or dropper's drop notification
    for a segment whose sender's forwarder is detached changes nothing (the dropper still prints
    its own `D` line). No hypothesis about the decoding of hop names: `C12_fwdHop_decodes`. -/
theorem C12_packets_for_detached_vanish (p : KParams) (fuel : Nat) (pk : Pkt) (s : KSt) :
    (∀ f rest, pk.hops = fwdHop f :: rest → s.net.fwdTarget f = none → forwardPkt p (fuel + 1) pk s = s)
    ∧ (∀ qi fid, pk.dropFwd = some fid → s.net.fwdTarget fid = none → applyQEffs p qi [.dropCb pk] s = s)
    ∧ (∀ name fid, pk.dropFwd = some fid → s.net.fwdTarget fid = none →
        dropNotify s name pk = s.emit (describePkt "D" name s.k.now pk pk.hasDrop)) :=
  ⟨fun f rest hh h2 => forwardPkt_detached_fwdHop p fuel pk s f rest hh h2,
   fun qi fid h1 h2 => applyQEffs_dropCb_detached p qi pk s fid h1 h2,
   fun name fid h1 h2 => dropNotify_detached s name pk fid h1 h2⟩

/-- **Repaired behaviour** of the places where the C++ dereferences `m_channel` (the
    `match s.chan.bind n.chan?` sites of the model): on a socket without a channel
    `packet_dropped`, `send_packet`, the ACK path's retransmission, and an arriving payload /
    error packet change nothing and emit nothing; `write_some_impl` refuses before the
    segmentation loop (so `tcpSendSeg` is never reached). -/
theorem C12_null_channel_guarded (tp : TParams) (n : NetSt) (now : Int) (name : String) (s : TcpSock) (p : Pkt)
    (bufs : List (List UInt8)) (hs : n.tcp? name = some s) (hc : s.chan = none) :
    n.tcpPacketDropped tp name p = n
    ∧ n.tcpSendPacket now name p = (n, [])
    ∧ n.tcpResendOne now name = none
    ∧ ((p.ty = .payload ∨ p.ty = .err) → n.tcpIncoming tp now name p = (n, []))
    ∧ n.tcpWritePrep name bufs = .error (if s.isOpen then .notConn else .badDesc) := by
  have hd : NoChan n name := (noChan_iff hs).mpr (by rw [hc]; rfl)
  refine ⟨hd.packetDropped tp p, hd.sendPacket now p, ?_, fun hp => by rw [tcpIncoming_data hs tp now p hp, hc]; rfl, ?_⟩
  · cases h : n.tcpResendOne now name with
    | none => rfl
    | some r =>
      obtain ⟨s', _, _, hs', _, hch, _⟩ := tcpResendOne_some n now name r h
      cases hs.symm.trans hs'; rw [hc] at hch; cases hch
  · unfold NetSt.tcpWritePrep; rw [hs]; dsimp only
    cases s.isOpen <;> simp [hc]

/-- `close()` is what makes the channel null: the states the guards of `C12_null_channel_guarded`
    are for are reachable at every event boundary. -/
theorem C12_close_resets_channel (n : NetSt) (now : Int) (name : String) (s : TcpSock) (hs : n.tcp? name = some s) :
    ∃ s', (n.tcpClose now name).1.tcp? name = some s' ∧ s'.chan = none ∧ s'.resend = [] ∧ s'.outstanding = [] := by
  exact ⟨_, (tcpClose_some n now name s hs).2, rfl, rfl, rfl⟩

/-- `packet_dropped` as the pinned tree ran it: `m_channel->hops(…)` without a test; `none` = null
    dereference (tcp_socket.cpp:756 under ASan). -/
def NetSt.tcpPacketDroppedAsIs (tp : TParams) (n : NetSt) (name : String) (p : Pkt) : Option NetSt :=
  match n.tcp? name with
  | none => some n
  | some s =>
    match s.chan.bind n.chan? with
    | none => none
    | some _ => some (n.tcpPacketDropped tp name p)

/-- **As-is defect.** The pinned tree bound the segment's drop callback to the raw socket pointer,
    so a segment dropped after `close()` reached `packet_dropped` of the closed socket: null
    dereference. Repaired: the notification travels through the forwarder, which `close()`
    detached (`C12_packets_for_detached_vanish`), and the function is guarded as well. -/
theorem C12_asis_drop_after_close (tp : TParams) (n : NetSt) (now : Int) (name : String) (s : TcpSock) (p : Pkt)
    (hs : n.tcp? name = some s) :
    (n.tcpClose now name).1.tcpPacketDroppedAsIs tp name p = none
    ∧ (n.tcpClose now name).1.tcpPacketDropped tp name p = (n.tcpClose now name).1 := by
  obtain ⟨s', hs', hc, _⟩ := C12_close_resets_channel n now name s hs
  constructor
  · unfold NetSt.tcpPacketDroppedAsIs; rw [hs']; simp [hc]
  · exact (C12_null_channel_guarded tp _ now name s' p [] hs' hc).1

/-- **UDP.** Every operation on UDP socket `a` — each label of the one-socket system: receive, the
    waits, non-blocking receive, `send_to`, `cancel`, `close`/destroy, `open`, `bind`, a datagram
    arriving, the send timer firing — leaves every other UDP socket, all TCP objects, all
    channels, the configuration and the TCP registry exactly as they were; in the UDP registry
    only entries that map to `a` change; only `a`'s own forwarder changes (new ones are appended). -/
theorem C12_others_unaffected_udp (n : NetSt) (a : String) (l : ULbl) (u : UdpSock) (h : n.udp? a = some u) :
    UdpFrame a u.fwd n (l.eff a n).1 := by
  cases l with
  | recv op => simp only [ULbl.eff, NetSt.udpAsyncRecv, h]; exact (UdpFrame.refl ..).setUdp _
  | waitRead hd => simp only [ULbl.eff, NetSt.udpWaitRead, h]; exact (UdpFrame.refl ..).setUdp _
  | waitWrite now hd =>
    simp only [ULbl.eff, NetSt.udpWaitWrite, h]
    split <;> exact (UdpFrame.refl ..).setUdp _
  | recvNb caps => simp only [ULbl.eff, NetSt.udpRecvNb, h]; exact (UdpFrame.refl ..).setUdp _
  | sendTo now dst pl => exact (udpSendTo_sum n now a dst pl u h u.fwd).1
  | cancel => simp only [ULbl.eff, NetSt.udpCancel, h]; exact (UdpFrame.refl ..).setUdp _
  | close => exact uframe_udpClose n a u h
  | reopen v4 => exact uframe_udpOpen n a v4 u h
  | bind ep => exact (udpBind_sum n a ep u h u.fwd).1
  | incoming p => simp only [ULbl.eff, h]; exact (UdpFrame.refl ..).setUdp _
  | sendTimer ab =>
    simp only [ULbl.eff, NetSt.udpSendWaitFired, h]
    (repeat' split) <;> first | exact UdpFrame.refl _ _ _ | exact (UdpFrame.refl ..).setUdp _

/-- **TCP socket / acceptor** `a` with forwarder `s.fwd` and channel `s.chan`: `close`/destroy,
    `open`, `bind`, `cancel`, read, wait-for-read, write (and its verdict), non-blocking read,
    acceptor `cancel` / `listen` / `close`, and `async_connect` leave every other TCP object, all
    UDP sockets, the configuration and the UDP registry as they were; in the TCP registry only
    entries that map to `a` change; only `a`'s own forwarder and `a`'s own channel (its byte
    counters) change; forwarders and channels are only ever appended. -/
theorem C12_others_unaffected_tcp (tp : TParams) (n : NetSt) (now : Int) (a : String) (s : TcpSock)
    (hs : n.tcp? a = some s) (v4 : Bool) (ep target : Ep) (rop : ReadOp) (wop : WriteOp) (h : Nat)
    (caps : List Nat) (qs : Int) (r : Except Ec Nat) :
    TcpFrame a s.fwd s.chan n (n.tcpClose now a).1
    ∧ TcpFrame a s.fwd s.chan n (n.tcpOpen now a v4).1
    ∧ TcpFrame a s.fwd s.chan n (n.tcpBind a ep).1
    ∧ TcpFrame a s.fwd s.chan n (n.tcpCancel a).1
    ∧ TcpFrame a s.fwd s.chan n (n.tcpAsyncRead a rop).1
    ∧ TcpFrame a s.fwd s.chan n (n.tcpWaitRead a h).1
    ∧ TcpFrame a s.fwd s.chan n (n.tcpAsyncWrite a wop).1
    ∧ TcpFrame a s.fwd s.chan n (n.tcpWriteFinish a wop r).1
    ∧ TcpFrame a s.fwd s.chan n (n.tcpReadNb a caps).1
    ∧ TcpFrame a s.fwd s.chan n (n.accCancel a).1
    ∧ TcpFrame a s.fwd s.chan n (n.accListen a qs).1
    ∧ (∀ acc, s.acc = some acc → TcpFrame a s.fwd s.chan n (n.accClose now a).1)
    ∧ TcpFrame a s.fwd s.chan n (n.tcpConnect now a target h).1 := by
  -- a function that changes no forwarder or channel at all
  have w : ∀ {n'}, TcpFrame a none none n n' → TcpFrame a s.fwd s.chan n n' := fun f => f.mono (.inl rfl) (.inl rfl)
  exact ⟨(own_tcpClose n now a s hs).frame, (own_tcpOpen n now a v4 s hs).frame, w (own_tcpBind n a ep).frame,
    w (own_tcpCancel n a).frame, w (own_tcpAsyncRead n a rop).frame, w (own_tcpWaitRead n a h).frame,
    w (own_tcpAsyncWrite n a wop).frame, w (own_tcpWriteFinish n a wop r).frame, w (own_tcpReadNb n a caps).frame,
    w (own_accCancel n a).frame, w (own_accListen n a qs).frame,
    fun _ _ => tframe_accClose n now a s hs, (own_tcpConnect n now a target h s hs).choose_spec.1.frame⟩

/-- By the frames of `close()`, another socket's handler slots, queues and connection state are
    untouched, so everything C04 / C05 / C06 / C08 say about that socket keeps holding. -/
theorem C12_other_socket_untouched (n : NetSt) (now : Int) (a b : String) (s : TcpSock) (u : UdpSock)
    (hs : n.tcp? a = some s) (hu : n.udp? a = some u) (hne : b ≠ a) :
    (n.tcpClose now a).1.tcp? b = n.tcp? b ∧ (n.tcpClose now a).1.udp? b = n.udp? b
    ∧ (n.udpClose a).1.udp? b = n.udp? b ∧ (n.udpClose a).1.tcp? b = n.tcp? b := by
  have h1 := (own_tcpClose n now a s hs).frame
  have h2 := uframe_udpClose n a u hu
  refine ⟨h1.tcp b hne, ?_, h2.udp b hne, ?_⟩
  · unfold NetSt.udp?; rw [h1.udps]
  · exact tcp?_congr h2.tcps b

/-- **`async_accept`** additionally touches its peer: accept-into closes the peer socket first
    (everything said about `tcpClose peer` applies), the socket-returning form creates the new
    object; every object other than the acceptor, the peer and the created socket is unchanged by
    that preparation. -/
theorem C12_accept_prep_touches_peer_only (n : NetSt) (now : Int) (name : String) (op : AcceptOp) (b : String)
    (hb : b ≠ (match op with | .into _ peer _ => peer | .fresh _ nn => nn)) :
    (accAcceptPrep n now name op).1.tcp? b = n.tcp? b ∧ (accAcceptPrep n now name op).1.udps = n.udps := by
  obtain ⟨⟨_, _, h⟩, -⟩ := own_accAcceptPrep n now name op
  exact ⟨h.frame.tcp b (by cases op <;> exact hb), h.frame.udps⟩

/-- **`catch (...)` of `simulation::run()`** (world driver `runCatch`), entered in any state whose
    kernel satisfies the kernel invariant (C02/C03: every reachable state does): afterwards
    * the timer queue is empty and every timer is in the expired state with no wait pending — the
      destruction of the simulation, or of any timer, finds nothing queued;
    * the simulation is stopped;
    * every wait that was pending was posted exactly once with `operation_aborted`, in queue
      order (`abortCompletion`), right behind what was already ready; whatever else was appended
      is a plain posted completion of a cancelled socket (`tm = false`), never a second timer
      completion. -/
theorem C12_throw (p : KParams) (s : KSt) (hk : KInv s.k) :
    (runCatch p s).k.tq = []
    ∧ (runCatch p s).k.stopped = true
    ∧ (∀ i, ((runCatch p s).k.timers i).expired = true ∧ ((runCatch p s).k.timers i).handler = none)
    ∧ (∃ extra, (runCatch p s).k.ready = s.k.ready ++ s.k.tq.filterMap (abortCompletion s.k) ++ extra
        ∧ ∀ t ∈ extra, t.tm = false)
    ∧ (runCatch p s).thrown = false ∧ (runCatch p s).threw = true :=
  runCatch_spec p s hk

/-- the kernel part on its own: cancelling every queued timer keeps the kernel invariant, empties
    the queue, and appends exactly the aborted completions of the pending waits -/
theorem C12_throw_cancels_all_timers (k : K) (hk : KInv k) :
    KInv (cancelAllL k.tq k)
    ∧ (cancelAllL k.tq k).tq = []
    ∧ (cancelAllL k.tq k).ready = k.ready ++ k.tq.filterMap (abortCompletion k)
    ∧ (∀ i, ((cancelAllL k.tq k).timers i).handler = none) := by
  obtain ⟨a, b, c⟩ := cancelAllL_spec k.tq k hk rfl
  exact ⟨a, b, c, (cancelAllL_dead k hk).2⟩

/-- every pending wait is among those completions exactly once: a timer with a wait pending is
    queued exactly once (kernel invariant), and its entry yields its handler -/
theorem C12_throw_each_wait_once (k : K) (hk : KInv k) (i h : Nat) (hh : (k.timers i).handler = some h) :
    (k.tq.filter (fun x => x.2 == i)).length = 1
    ∧ abortCompletion k ((k.timers i).expiry, i)
        = some { h := h, ec := .aborted, tm := true, exp := (k.timers i).expiry, st := (k.timers i).startedAt } :=
  ⟨filter_one_of_nodup Prod.snd k.tq hk.nodup _ (hk.queued i (hk.pend i h hh).1), by simp [abortCompletion, hh]⟩

namespace C12Ex

/-- a kernel with two timers pending (one with a wait) and one completion ready -/
def k0 : K := runLbls repaired {} [.expiresAt 0 50, .wait 0 7, .expiresAt 1 20, .post 9]

example : (cancelAllL k0.tq k0).tq = [] ∧ (cancelAllL k0.tq k0).ready.map (fun t => (t.h, t.ec, t.tm))
    = [(9, .ok, false), (7, .aborted, true)] := by decide +kernel

example := C12_throw_cancels_all_timers k0 (KInv_run _ {} KInv_init)

/-- the TCP example state of C04: closing `s1` detaches forwarder 0 and leaves `a0`, `s3` alone -/
example : (C04Ex.tcp0.tcpClose 0 "s1").1.fwdTarget 0 = none
    ∧ (C04Ex.tcp0.tcpClose 0 "s1").1.fwdTarget 1 = some "a0" := by decide +kernel

/-- a payload segment on its last hop towards `s1`'s forwarder 0, after `s1` closed: it vanishes -/
example (p : KParams) (s : KSt) (hs : s.net = (C04Ex.tcp0.tcpClose 0 "s1").1) :
    forwardPkt p 1 { id := 3, ty := .payload, len := 1, ovh := 40, hops := [fwdHop 0], src := "10.0.0.2:80" } s = s :=
  (C12_packets_for_detached_vanish p 0 _ s).1 0 [] rfl (by rw [hs]; decide)

example := (C12_others_unaffected_tcp {} C04Ex.tcp0 0 "s1" _ rfl true {} {} { h := 1, caps := [] }
  { h := 2, bufs := [], stream := 0, off := 0 } 3 [] 5 (.ok 0)).1

end C12Ex

end SimVerif
