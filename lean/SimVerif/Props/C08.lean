/-
  C08 — UDP datagrams: at most once, intact, to the right socket, in order.

  Property theorems, with their as-is witnesses and example histories. Mechanism model:
  SimVerif/Net.lean (`UdpSock.*`, `NetSt.udp*`, transcribed from src/udp_socket.cpp). Open
  system: SimVerif/NetSys.lean (`NS`, labels `NLbl`:
  the environment picks every API call on every object, every packet arrival at every
  forwarder, every TCP-side change; ghost logs `acc` = datagrams `incoming_packet` accepted,
  `out` = datagrams that left a queue, flag `true` = handed to a reader, `false` = discarded by
  close / re-open / destroy). Invariants: `RegInv` (registries and forwarders,
  Lemmas/NetRun.lean) and `DInv` (data path, Lemmas/UdpData.lean).

  System-level statements quantify over ALL label sequences `ls` from `NS.init c` for a
  configuration without wildcard node addresses (`c.WF`); function-level statements hold for
  every state, reachable or not.
-/
import SimVerif.Lemmas.UdpData

namespace SimVerif

/-- **Account.** The receive-buffer account of an open socket is exactly the payload bytes it
    has queued: nothing leaks, whatever mix of full / truncating / aborted reads, closes and
    re-opens came before. (A moved-from object keeps a stale account — but it is closed, and
    `open` resets it.) -/
theorem C08_account (c : NetCfg) (hc : c.WF) (ls : List NLbl) (name : String) (u : UdpSock)
    (hu : ((NS.init c).run ls).n.udp? name = some u) (ho : u.isOpen = true) :
    u.queueSize = paySum u.queue :=
  (DInv.run c hc ls).account name u hu ho

/-- **A closed socket has nothing queued** (so nothing can surface after a re-open). -/
theorem C08_closed_empty (c : NetCfg) (hc : c.WF) (ls : List NLbl) (name : String) (u : UdpSock)
    (hu : ((NS.init c).run ls).n.udp? name = some u) (ho : u.isOpen = false) : u.queue = [] :=
  (DInv.run c hc ls).closed_empty name u hu ho

/-- **FIFO / exactly once.** The datagrams a socket accepted are exactly those that left its
    queue (in that order) followed by those still queued: none duplicated, none skipped, none
    reordered, none invented. -/
theorem C08_fifo (c : NetCfg) (hc : c.WF) (ls : List NLbl) (name : String) :
    ((NS.init c).run ls).acc name
      = (((NS.init c).run ls).out name).map Prod.fst ++ ((NS.init c).run ls).n.uqueue name :=
  (DInv.run c hc ls).fifo name

/-- the datagrams handed to readers are a subsequence of the accepted ones, in arrival order -/
theorem C08_fifo_handed_sublist (c : NetCfg) (hc : c.WF) (ls : List NLbl) (name : String) :
    List.Sublist (((((NS.init c).run ls).out name).filter (·.2)).map (·.1)) (((NS.init c).run ls).acc name) := by
  rw [C08_fifo c hc ls name]
  exact List.Sublist.trans (List.Sublist.map _ List.filter_sublist) (List.sublist_append_left _ _)

/-- each accepted datagram leaves the queue at most once (by position) -/
theorem C08_fifo_at_most_once (c : NetCfg) (hc : c.WF) (ls : List NLbl) (name : String) :
    (((NS.init c).run ls).out name).length + (((NS.init c).run ls).n.uqueue name).length
      = (((NS.init c).run ls).acc name).length
    ∧ (((NS.init c).run ls).out name).length ≤ (((NS.init c).run ls).acc name).length := by
  have := congrArg List.length (C08_fifo c hc ls name)
  simp at this
  omega

/-- The logs only grow (under every label except move construction, which carries them to the
    new object): what was once logged as discarded (`false`) is never handed to a reader later. -/
theorem C08_logs_append_only (s : NS) (l : NLbl) (hm : ∀ a b, l ≠ .uMove a b) (x : String) :
    (∃ e, (s.step l).acc x = s.acc x ++ e) ∧ (∃ e, (s.step l).out x = s.out x ++ e) :=
  (NS.step_dop s l).logs hm x

/-- **`maybe_wakeup_reader` always finds the handler it is about to call.** Whenever a receive
    or a wait is parked, `m_recv_null_buffers` says which one: the two branches of
    `UdpSock.maybeWakeup` that would invoke an empty `aux::function` are unreachable. -/
theorem C08_wakeup_handler_present (c : NetCfg) (hc : c.WF) (ls : List NLbl) (name : String) (u : UdpSock)
    (hu : ((NS.init c).run ls).n.udp? name = some u) :
    ((u.recvH.isSome = true ∨ u.waitRecvH.isSome = true) →
      (u.recvNull = true → u.waitRecvH.isSome = true) ∧ (u.recvNull = false → u.recvH.isSome = true))
    ∧ ¬ (u.recvNull = true ∧ u.waitRecvH = none ∧ u.recvH ≠ none)
    ∧ ¬ (u.recvNull = false ∧ u.recvH = none ∧ u.waitRecvH ≠ none) := by
  have hd := (DInv.run c hc ls).dok hu
  exact ⟨hd.wakeup_handler_present, fun ⟨a, _, c'⟩ => c' (hd.recvH_none a), fun ⟨a, _, c'⟩ => c' (hd.waitRecvH_none a)⟩

/-- **No lost wake-up.** A receive or wait is parked only on an open, bound socket whose queue
    is empty: a datagram is never left queued next to a parked reader. -/
theorem C08_parked_reader_queue_empty (c : NetCfg) (hc : c.WF) (ls : List NLbl) (name : String) (u : UdpSock)
    (hu : ((NS.init c).run ls).n.udp? name = some u)
    (hp : u.recvH.isSome = true ∨ u.waitRecvH.isSome = true) :
    u.queue = [] ∧ u.isOpen = true ∧ u.bound.isDefault = false :=
  (DInv.run c hc ls).pend name u hu hp

/-- A datagram arriving while a receive is parked is handed to it at once: one
    completion, `ok`, the payload cut to the buffers, the sender's endpoint; the queue stays
    empty and the account unchanged. -/
theorem C08_parked_receive_gets_datagram (c : NetCfg) (hc : c.WF) (ls : List NLbl) (name : String)
    (u : UdpSock) (op : RecvOp) (p : Pkt)
    (hu : ((NS.init c).run ls).n.udp? name = some u) (hr : u.recvH = some op) (hs : p.size ≤ 262144) :
    (u.incoming p).2 =
      [.post { h := op.h, ec := .ok,
               extra := recvExtra op.withEp (p.payload.take (op.caps.foldl (· + ·) 0)) p.src,
                    data := p.payload.take (op.caps.foldl (· + ·) 0), src := p.src }]
    ∧ (u.incoming p).1.queue = [] ∧ (u.incoming p).1.queueSize = u.queueSize
    ∧ (u.incoming p).1.recvH = none ∧ (u.incoming p).1.waitRecvH = none := by
  have hd := (DInv.run c hc ls).dok hu
  rcases hd.incoming_cases p with ⟨hc', _⟩ | ⟨_, hr', _⟩ | ⟨op', _, hr', hw, _, _, e⟩ | ⟨_, _, _, hr', _⟩
  · obtain ⟨hq, ho, _⟩ := hd.pend (.inl (by rw [hr]; rfl))
    exact absurd hc' (UdpSock.incoming_accepts_drained p hd ho hq hs)
  · exact absurd (hr.symm.trans hr') nofun
  · cases hr.symm.trans hr'
    rw [e]
    exact ⟨rfl, rfl, by show u.queueSize + (p.payload.length : Int) - p.payload.length = u.queueSize; omega, rfl, hw⟩
  · exact absurd (hr.symm.trans hr') nofun

/-- function level: an open socket whose account is right and whose queue is empty accepts
    every datagram of at most 256 kB (payload + overhead): it is enqueued and the wake-up runs;
    afterwards it is the only queued datagram, or a parked reader took it -/
theorem C08_drained_accepts (u : UdpSock) (p : Pkt) (hacct : u.queueSize = paySum u.queue)
    (hq : u.queue = []) (hs : p.size ≤ 262144) :
    u.incoming p = ({ u with queueSize := u.queueSize + p.payload.length, queue := u.queue ++ [p] }).maybeWakeup
    ∧ ((u.incoming p).1.queue = [p] ∨ (u.incoming p).1.queue = []) := by
  have h0 : u.queueSize = 0 := by rw [hacct, hq]; rfl
  rcases u.incoming_cases p with ⟨hc, _⟩ | ⟨_, e, hqt⟩
  · omega
  · refine ⟨e, ?_⟩
    rw [hq] at hqt
    rcases hqt with e' | ⟨q, e'⟩
    · left; exact e'
    · right; simp at e'; exact e'.2

/-- **Drained reader loses nothing.** In every reachable state, a datagram of at most 256 kB
    arriving at the forwarder of a socket whose queue is empty is accepted (it is appended to
    `acc`, hence by `C08_fifo` queued or handed to a reader — never dropped). -/
theorem C08_drained_reader_loses_nothing (c : NetCfg) (hc : c.WF) (ls : List NLbl) (f : Nat) (name : String)
    (u : UdpSock) (p : Pkt)
    (hf : ((NS.init c).run ls).n.fwdTarget f = some name)
    (hu : ((NS.init c).run ls).n.udp? name = some u) (hq : u.queue = []) (hs : p.size ≤ 262144) :
    (((NS.init c).run ls).step (.deliver f p)).acc name = ((NS.init c).run ls).acc name ++ [p] := by
  have hd := (DInv.run c hc ls).dok hu
  have ho := ((RegInv.run c hc ls).deliver_open hf hu).1
  have hacc := UdpSock.incoming_accepts_drained p hd ho hq hs
  rw [NS.step_deliver_some _ f p hf hu]
  simp [NS.deliverTo, hacc]

/-- what `send_to` forwards: nothing, or exactly one datagram carrying the caller's bytes, of
    at most 65535 + 28 bytes -/
theorem C08_send_forwards_at_most_one (n : NetSt) (now : Int) (name : String) (dst : Ep) (payload : List UInt8) :
    fwdsOf (n.udpSendTo now name dst payload).2.1 = []
    ∨ ∃ p, fwdsOf (n.udpSendTo now name dst payload).2.1 = [p] ∧ p.payload = payload
        ∧ p.len = payload.length ∧ p.ovh = 28 ∧ p.ty = .payload ∧ 0 < payload.length
        ∧ payload.length ≤ 65535 ∧ p.size ≤ 262144
        ∧ (n.udpSendTo now name dst payload).2.2 = (.ok, payload.length) := by
  rcases udpSendTo_outcome n now name dst payload with ⟨e, -⟩ | ⟨u, hops, h0, h1, e, hr⟩
  · exact .inl e
  · exact .inr ⟨_, e, rfl, rfl, rfl, rfl, h0, h1, by show payload.length + 28 ≤ 262144; omega, hr⟩

/-- corollary: every datagram built by `send_to` that reaches a drained socket is accepted -/
theorem C08_drained_reader_loses_no_sent_datagram (c : NetCfg) (hc : c.WF) (ls : List NLbl) (f : Nat)
    (name : String) (u : UdpSock) (n : NetSt) (now : Int) (sender : String) (dst : Ep) (payload : List UInt8) (p : Pkt)
    (hp : p ∈ fwdsOf (n.udpSendTo now sender dst payload).2.1)
    (hf : ((NS.init c).run ls).n.fwdTarget f = some name)
    (hu : ((NS.init c).run ls).n.udp? name = some u) (hq : u.queue = []) :
    (((NS.init c).run ls).step (.deliver f p)).acc name = ((NS.init c).run ls).acc name ++ [p] := by
  apply C08_drained_reader_loses_nothing c hc ls f name u p hf hu hq
  rcases C08_send_forwards_at_most_one n now sender dst payload with e | ⟨q, e, _, _, _, _, _, _, hs, _⟩
  · rw [e] at hp; simp at hp
  · rw [e] at hp; simp at hp; subst hp; exact hs

/-- **`receive_from`, the decision table.** Closed → `bad_descriptor`; unbound →
    `invalid_argument`; empty queue → `would_block` (state unchanged in all three); otherwise
    exactly the head datagram is removed, its payload cut to the total buffer space is returned
    with the sender's endpoint, and the WHOLE payload length is released from the account. -/
theorem C08_payload (u : UdpSock) (caps : List Nat) :
    (u.isOpen = false → u.receiveFrom caps = (u, .error .badDesc))
    ∧ (u.isOpen = true → u.bound.isDefault = true → u.receiveFrom caps = (u, .error .invalid))
    ∧ (u.isOpen = true → u.bound.isDefault = false → u.queue = [] → u.receiveFrom caps = (u, .error .wouldBlock))
    ∧ (∀ p rest, u.isOpen = true → u.bound.isDefault = false → u.queue = p :: rest →
        u.receiveFrom caps = ({ u with queue := rest, queueSize := u.queueSize - p.payload.length },
          .ok (p.payload.take (caps.foldl (· + ·) 0), p.src))) :=
  ⟨u.receiveFrom_closed caps, u.receiveFrom_unbound caps, u.receiveFrom_empty caps,
   fun p rest => u.receiveFrom_cons caps p rest⟩

/-- the bytes handed over are a prefix of the datagram, as long as the buffers allow, and all of
    it when they are large enough -/
theorem C08_payload_prefix (payload : List UInt8) (caps : List Nat) :
    (payload.take (caps.foldl (· + ·) 0)).length = min (caps.foldl (· + ·) 0) payload.length
    ∧ (payload.take (caps.foldl (· + ·) 0)) <+: payload
    ∧ (payload.length ≤ caps.foldl (· + ·) 0 → payload.take (caps.foldl (· + ·) 0) = payload) :=
  ⟨List.length_take, List.take_prefix _ _, fun h => List.take_of_length_le h⟩

/-- **`async_receive[_from]`** with a datagram queued: one completion, `ok`, carrying the head
    datagram's payload cut to the buffers and (for `_from`) its sender; with nothing queued the
    operation is parked; on a closed / unbound socket it completes with the error. -/
theorem C08_payload_async (u : UdpSock) (op : RecvOp) :
    (∀ p rest, u.isOpen = true → u.bound.isDefault = false → u.queue = p :: rest →
      u.asyncReceive op =
        ({ u with queue := rest, queueSize := u.queueSize - p.payload.length, recvH := none, recvNull := false },
         [.post { h := op.h, ec := .ok,
                  extra := recvExtra op.withEp (p.payload.take (op.caps.foldl (· + ·) 0)) p.src,
                    data := p.payload.take (op.caps.foldl (· + ·) 0), src := p.src }]))
    ∧ (u.isOpen = true → u.bound.isDefault = false → u.queue = [] →
        u.asyncReceive op = ({ u with recvH := some op, recvNull := false }, []))
    ∧ (u.isOpen = false →
        u.asyncReceive op = ({ u with recvH := none, recvNull := false }, [recvErrCompl op .badDesc]))
    ∧ (u.isOpen = true → u.bound.isDefault = true →
        u.asyncReceive op = ({ u with recvH := none, recvNull := false }, [recvErrCompl op .invalid])) :=
  ⟨fun p rest => u.asyncReceive_cons op p rest, u.asyncReceive_empty op, u.asyncReceive_closed op,
   u.asyncReceive_unbound op⟩

/-- **One datagram per call** (system level, every state): a receive call on `name` leaves its
    queue as it was or removes exactly the head; no other socket is touched. -/
theorem C08_one_datagram_per_call (s : NS) (name : String) (l : NLbl)
    (hl : (∃ op, l = .uRecv name op) ∨ (∃ caps, l = .uRecvNb name caps)) :
    QTail (s.n.uqueue name) ((s.step l).n.uqueue name)
    ∧ (popped (s.n.uqueue name) ((s.step l).n.uqueue name)).length ≤ 1
    ∧ (s.step l).out name = s.out name ++ (popped (s.n.uqueue name) ((s.step l).n.uqueue name)).map (·, true)
    ∧ (s.step l).acc = s.acc
    ∧ ∀ x, x ≠ name → (s.step l).n.udp? x = s.n.udp? x ∧ (s.step l).out x = s.out x := by
  obtain ⟨g, ⟨-, -, hg⟩, hs⟩ := NS.step_dataCall s l name (by rcases hl with ⟨_, rfl⟩ | ⟨_, rfl⟩ <;> rfl)
  have hq : QTail (s.n.uqueue name) ((s.n.mapUdp name g).uqueue name) :=
    (mapUdp_at (P := fun _ => True) (QTail.refl _) (fun u _ => ⟨trivial, hg u⟩)).2
  rw [hs]
  exact ⟨hq, hq.popped_length, by simp [NS.readStep], rfl, fun x hx =>
    ⟨by show (s.n.mapUdp name g).udp? x = _; rw [udp?_mapUdp, if_neg hx], by simp [NS.readStep, setS_other _ _ _ _ hx]⟩⟩

/-- `receive_from_impl` AS IT IS in the pinned tree: only the bytes copied into the caller's
    buffers are released from `m_queue_size`; the discarded remainder of the datagram stays
    accounted for ever. -/
def UdpSock.receiveFromAsIs (u : UdpSock) (caps : List Nat) : UdpSock × Except Ec (List UInt8 × String) :=
  if !u.isOpen then (u, .error .badDesc)
  else if u.bound.isDefault then (u, .error .invalid)
  else match u.queue with
    | [] => (u, .error .wouldBlock)
    | p :: rest =>
      let total := caps.foldl (· + ·) 0
      (({ u with queue := rest, queueSize := u.queueSize - min total p.payload.length }),
        .ok (p.payload.take total, p.src))

namespace C08Ex
def leakSock : UdpSock := { node := "B", isOpen := true, bound := { addr := "10.0.0.2", port := 5000 }, fwd := some 1 }
def leakPkt : Pkt := { id := 7, len := 5, ovh := 28, src := "10.0.0.1:2000", payload := [1, 2, 3, 4, 5] }
end C08Ex

/-- **The leak, concretely.** A 5-byte datagram read with a 2-byte buffer: the pinned tree's
    function returns the same 2 bytes and leaves the queue empty, but 3 bytes stay on the
    account; the repaired function (the one modelled in SimVerif/Net.lean) returns to 0. -/
theorem C08_asis_truncation_leaks :
    (((C08Ex.leakSock.incoming C08Ex.leakPkt).1.receiveFromAsIs [2]).1.queue = []
      ∧ ((C08Ex.leakSock.incoming C08Ex.leakPkt).1.receiveFromAsIs [2]).1.queueSize = 3
      ∧ ((C08Ex.leakSock.incoming C08Ex.leakPkt).1.receiveFromAsIs [2]).2.toOption = some ([1, 2], "10.0.0.1:2000"))
    ∧ (((C08Ex.leakSock.incoming C08Ex.leakPkt).1.receiveFrom [2]).1.queue = []
      ∧ ((C08Ex.leakSock.incoming C08Ex.leakPkt).1.receiveFrom [2]).1.queueSize = 0
      ∧ ((C08Ex.leakSock.incoming C08Ex.leakPkt).1.receiveFrom [2]).2.toOption = some ([1, 2], "10.0.0.1:2000")) := by
  decide

/-- one round of "datagram arrives, reader takes it with too small a buffer" in the pinned tree:
    the queue is empty again, the account grew by the part that did not fit -/
theorem C08_asis_round (u : UdpSock) (p : Pkt) (caps : List Nat) (ho : u.isOpen = true)
    (hb : u.bound.isDefault = false) (hq : u.queue = []) (hr : u.recvH = none) (hw : u.waitRecvH = none)
    (hs : ¬ u.queueSize + p.size > 262144) :
    ((u.incoming p).1.receiveFromAsIs caps).1 =
      { u with queueSize := u.queueSize + p.payload.length - min (caps.foldl (· + ·) 0) p.payload.length } := by
  rw [UdpSock.incoming_idle hs hr hw]
  unfold UdpSock.receiveFromAsIs
  simp [ho, hb, hq]

/-- `k` rounds of "datagram `p` arrives, the reader takes it with buffers `caps`" in the pinned tree -/
def UdpSock.asisRounds (p : Pkt) (caps : List Nat) : Nat → UdpSock → UdpSock
  | 0, u => u
  | k + 1, u => (((UdpSock.asisRounds p caps k u).incoming p).1.receiveFromAsIs caps).1

/-- **The leak accumulates.** `k` rounds from any open, bound, idle socket with an empty queue: the
    queue is empty after every round and the account has grown by `k` times the part of `p` that
    does not fit `caps` — as long as `p` is still let in. -/
theorem C08_asis_rounds_accumulate (u : UdpSock) (p : Pkt) (caps : List Nat) (ho : u.isOpen = true)
    (hb : u.bound.isDefault = false) (hq : u.queue = []) (hr : u.recvH = none) (hw : u.waitRecvH = none)
    (d : Int) (hd : d = p.payload.length - min (caps.foldl (· + ·) 0) p.payload.length)
    (k : Nat) (hk : ∀ j < k, ¬ u.queueSize + d * j + p.size > 262144) :
    UdpSock.asisRounds p caps k u = { u with queueSize := u.queueSize + d * k } := by
  induction k with
  | zero => cases u; simp [UdpSock.asisRounds]
  | succ k ih =>
    unfold UdpSock.asisRounds
    rw [ih (fun j hj => hk j (by omega)),
      C08_asis_round { u with queueSize := u.queueSize + d * (k : Int) } p caps ho hb hq hr hw (hk k (by omega))]
    congr 1
    show u.queueSize + d * (k : Int) + _ - _ = u.queueSize + d * ((k + 1 : Nat) : Int)
    subst hd
    rw [Int.natCast_add, Int.mul_add]; omega

/-- After 87371 such rounds the very same datagram is refused although the queue is empty:
    in the pinned tree a reader that drains its queue with a short buffer eventually receives
    nothing at all. -/
theorem C08_asis_leak_starves_concrete :
    (UdpSock.asisRounds C08Ex.leakPkt [2] 87371 C08Ex.leakSock).queue = []
    ∧ (UdpSock.asisRounds C08Ex.leakPkt [2] 87371 C08Ex.leakSock).incoming C08Ex.leakPkt
        = (UdpSock.asisRounds C08Ex.leakPkt [2] 87371 C08Ex.leakSock, []) := by
  rw [C08_asis_rounds_accumulate C08Ex.leakSock C08Ex.leakPkt [2] rfl rfl rfl rfl rfl 3 rfl 87371
    (fun j hj => by show ¬ (0 : Int) + 3 * (j : Int) + ((33 : Nat) : Int) > 262144; omega)]
  exact ⟨rfl, UdpSock.incoming_full (by decide)⟩

/-- **A datagram is refused by a socket whose queue is empty.** With an account that
    has leaked up to the limit, `incoming_packet` drops a datagram although nothing is queued —
    in the pinned tree such states are reachable by `C08_asis_round`; in the repaired model
    `C08_drained_reader_loses_nothing` excludes them. -/
theorem C08_asis_leak_starves (u : UdpSock) (p : Pkt) (hq : u.queue = [])
    (hleak : u.queueSize + p.size > 262144) : u.incoming p = (u, []) ∧ (u.incoming p).1.queue = [] := by
  exact ⟨UdpSock.incoming_full hleak, by rw [UdpSock.incoming_full hleak]; exact hq⟩

/-- **Decision table of `send_to` on a bound socket** (every state `n`). `n1` is the state
    after `abort_send_handlers()`, `e0` its effects (they contain no forward). In order:
    empty → `invalid_argument`; more than 65535 bytes → `message_size`; don't-fragment and
    larger than the path MTU → reported as sent, silently dropped; NIC send queue more than
    `m_send_queue_time` ahead → `would_block`; nothing bound at the destination → reported as
    sent, silently dropped; otherwise exactly one packet is forwarded: the caller's bytes as one
    unit, the sender's bound endpoint as source, 28 bytes of overhead, along the route found at
    this instant. In the five rows that do not send, nothing else changes. -/
theorem C08_send_errors (n : NetSt) (now : Int) (name : String) (dst : Ep) (payload : List UInt8) (u0 : UdpSock)
    (hu : n.udp? name = some u0) (hb : u0.bound.isDefault = false) :
    fwdsOf (u0.abortSend name).2 = []
    ∧ (payload.length = 0 → n.udpSendTo now name dst payload
        = (n.setUdp name { u0 with waitSendH := none }, (u0.abortSend name).2, .invalid, 0))
    ∧ (payload.length > 65535 → n.udpSendTo now name dst payload
        = (n.setUdp name { u0 with waitSendH := none }, (u0.abortSend name).2, .msgSize, 0))
    ∧ (0 < payload.length → payload.length ≤ 65535 → u0.df = true →
        payload.length > n.cfg.pathMtu u0.bound.addr dst.addr → n.udpSendTo now name dst payload
        = (n.setUdp name { u0 with waitSendH := none }, (u0.abortSend name).2, .ok, payload.length))
    ∧ (0 < payload.length → payload.length ≤ 65535 →
        ¬ (u0.df = true ∧ payload.length > n.cfg.pathMtu u0.bound.addr dst.addr) →
        u0.nextSend - now > u0.sendQueueTime → n.udpSendTo now name dst payload
        = (n.setUdp name { u0 with waitSendH := none }, (u0.abortSend name).2, .wouldBlock, 0))
    ∧ (0 < payload.length → payload.length ≤ 65535 →
        ¬ (u0.df = true ∧ payload.length > n.cfg.pathMtu u0.bound.addr dst.addr) →
        ¬ u0.nextSend - now > u0.sendQueueTime →
        (n.setUdp name { u0 with waitSendH := none }).udpRoute u0.bound dst = none →
        n.udpSendTo now name dst payload
        = (n.setUdp name { u0 with waitSendH := none }, (u0.abortSend name).2, .ok, payload.length))
    ∧ (∀ hops, 0 < payload.length → payload.length ≤ 65535 →
        ¬ (u0.df = true ∧ payload.length > n.cfg.pathMtu u0.bound.addr dst.addr) →
        ¬ u0.nextSend - now > u0.sendQueueTime →
        (n.setUdp name { u0 with waitSendH := none }).udpRoute u0.bound dst = some hops →
        n.udpSendTo now name dst payload
        = ((n.setUdp name { u0 with waitSendH := none }).setUdp name
             { u0 with waitSendH := none,
                       nextSend := (if now ≤ u0.nextSend then u0.nextSend else now) + 10 * (payload.length + 28) },
           (u0.abortSend name).2 ++ (if n.cfg.pcap then [NEff.pcapUdp now u0.bound dst payload] else [])
             ++ [.forward (sendPkt u0.bound hops payload)], .ok, payload.length)
        ∧ fwdsOf (n.udpSendTo now name dst payload).2.1 = [sendPkt u0.bound hops payload]) := by
  have h1 : (n.setUdp name { u0 with waitSendH := none }).udp? name = some { u0 with waitSendH := none } := by simp
  rw [udpSendTo_bound n now name dst payload u0 hu hb]
  refine ⟨fwdsOf_abortSend name u0, ?_, ?_, ?_, ?_, ?_, ?_⟩
  · intro h0; exact udpSendTail_invalid _ _ _ _ _ _ _ h1 h0
  · intro h0; exact udpSendTail_msgSize _ _ _ _ _ _ _ h1 h0
  · intro h0 h2 h3 h4; exact udpSendTail_dfDrop _ _ _ _ _ _ _ h1 (by omega) h2 h3 h4
  · intro h0 h2 h3 h4; exact udpSendTail_paced _ _ _ _ _ _ _ h1 (by omega) h2 h3 h4
  · intro h0 h2 h3 h4 h5; exact udpSendTail_noRoute _ _ _ _ _ _ _ h1 (by omega) h2 h3 h4 h5
  · intro hops h0 h2 h3 h4 h5
    have := udpSendTail_sent _ (u0.abortSend name).2 now _ dst payload _ h1 (by omega) h2 h3 h4 hops h5
    refine ⟨this, ?_⟩
    rw [this]
    simp only [fwdsOf_append, fwdsOf_abortSend]
    show fwdsOf (if n.cfg.pcap = true then [NEff.pcapUdp now u0.bound dst payload] else []) ++ _ = _
    rw [fwdsOf_pcap]; rfl

/-- the datagram `send_to` builds -/
theorem C08_send_packet_shape (src : Ep) (hops : List String) (payload : List UInt8) :
    (sendPkt src hops payload).payload = payload ∧ (sendPkt src hops payload).src = src.toString
    ∧ (sendPkt src hops payload).len = payload.length ∧ (sendPkt src hops payload).ovh = 28
    ∧ (sendPkt src hops payload).hops = hops ∧ (sendPkt src hops payload).ty = .payload :=
  ⟨rfl, rfl, rfl, rfl, rfl, rfl⟩

/-- **The route is the one of the socket bound at the destination at this instant.** In every
    reachable state: no route ⇔ nothing is bound at `dst`; otherwise the registered socket `t`
    exists, is open, is bound to exactly `dst`, holds an attached forwarder `f` that reaches
    it, and the route is sender-out ++ network ++ receiver-in ++ [that forwarder]. -/
theorem C08_send_route (c : NetCfg) (hc : c.WF) (ls : List NLbl) (name : String) (u0 : UdpSock) (dst : Ep)
    (hu : ((NS.init c).run ls).n.udp? name = some u0) :
    ((((NS.init c).run ls).n.setUdp name { u0 with waitSendH := none }).udpRoute u0.bound dst = none
      ↔ ((NS.init c).run ls).n.reg.udp.lookup dst = none)
    ∧ ∀ tgt, ((NS.init c).run ls).n.reg.udp.lookup dst = some tgt →
        ∃ t f, ((NS.init c).run ls).n.udp? tgt = some t ∧ t.isOpen = true ∧ t.bound = dst ∧ t.fwd = some f
          ∧ ((NS.init c).run ls).n.fwdTarget f = some tgt
          ∧ (((NS.init c).run ls).n.setUdp name { u0 with waitSendH := none }).udpRoute u0.bound dst
              = some (c.outRoute u0.bound.addr ++ c.netRoute u0.bound.addr dst.addr
                        ++ c.inRoute dst.addr ++ [fwdHop f]) := by
  have hr := RegInv.run c hc ls
  have hcfg : ((NS.init c).run ls).n.cfg = c := NS.run_cfg _ ls
  -- the sender's own `abort_send_handlers()` changes no route
  rw [udpRoute_setUdp _ name u0 { u0 with waitSendH := none } hu rfl rfl]
  refine ⟨?_, fun tgt hl => ?_⟩
  · rw [udpRoute_none_iff]
    refine ⟨fun h => h.elim id fun ⟨tgt, hl, hn⟩ => ?_, Or.inl⟩
    obtain ⟨t, _, ht, _⟩ := hr.reg_target hl dst
    rw [hn] at ht; cases ht
  · have := hr.reg_target hl u0.bound
    rwa [hcfg] at this

/-- **What is sent, and to whom** (system level). In every reachable state, a bound sender
    whose datagram passes the checks and finds `tgt` registered at `dst`: exactly one packet is
    forwarded; it carries the caller's bytes unchanged, the sender's bound endpoint, and its
    last hop is the forwarder `f` currently held by `tgt` — the socket that is open and bound
    to `dst` at this instant. -/
theorem C08_send_forward (c : NetCfg) (hc : c.WF) (ls : List NLbl) (now : Int) (name : String) (u0 : UdpSock)
    (dst : Ep) (payload : List UInt8) (tgt : String)
    (hu : ((NS.init c).run ls).n.udp? name = some u0) (hb : u0.bound.isDefault = false)
    (h0 : 0 < payload.length) (h1 : payload.length ≤ 65535)
    (h2 : ¬ (u0.df = true ∧ payload.length > c.pathMtu u0.bound.addr dst.addr))
    (h3 : ¬ u0.nextSend - now > u0.sendQueueTime)
    (hl : ((NS.init c).run ls).n.reg.udp.lookup dst = some tgt) :
    ∃ t f, ((NS.init c).run ls).n.udp? tgt = some t ∧ t.isOpen = true ∧ t.bound = dst ∧ t.fwd = some f
      ∧ ((NS.init c).run ls).n.fwdTarget f = some tgt
      ∧ fwdsOf (((NS.init c).run ls).n.udpSendTo now name dst payload).2.1
          = [sendPkt u0.bound (c.outRoute u0.bound.addr ++ c.netRoute u0.bound.addr dst.addr
                                ++ c.inRoute dst.addr ++ [fwdHop f]) payload]
      ∧ (((NS.init c).run ls).n.udpSendTo now name dst payload).2.2 = (.ok, payload.length) := by
  have hcfg : ((NS.init c).run ls).n.cfg = c := NS.run_cfg _ ls
  obtain ⟨t, f, a1, a2, a3, a4, a5, a6⟩ := (C08_send_route c hc ls name u0 dst hu).2 tgt hl
  refine ⟨t, f, a1, a2, a3, a4, a5, ?_⟩
  have := (C08_send_errors ((NS.init c).run ls).n now name dst payload u0 hu hb).2.2.2.2.2.2 _ h0 h1
    (by rw [hcfg]; exact h2) h3 a6
  exact ⟨this.2, by rw [this.1]⟩

/-- **Unbound sender**: `send_to` first binds to the wildcard with an ephemeral port; when that
    fails the error of `bind` is returned, 0 bytes, nothing is sent; when it succeeds the
    checks of `C08_send_errors` run in the state after the bind. -/
theorem C08_send_unbound (n : NetSt) (now : Int) (name : String) (dst : Ep) (payload : List UInt8) (u0 : UdpSock)
    (hu : n.udp? name = some u0) (hb : u0.bound.isDefault = true) :
    (((n.setUdp name { u0 with waitSendH := none }).udpBind name {}).2 ≠ .ok →
      n.udpSendTo now name dst payload
        = (((n.setUdp name { u0 with waitSendH := none }).udpBind name {}).1, (u0.abortSend name).2,
           ((n.setUdp name { u0 with waitSendH := none }).udpBind name {}).2, 0)
      ∧ fwdsOf (n.udpSendTo now name dst payload).2.1 = [])
    ∧ (((n.setUdp name { u0 with waitSendH := none }).udpBind name {}).2 = .ok →
      n.udpSendTo now name dst payload
        = ((n.setUdp name { u0 with waitSendH := none }).udpBind name {}).1.udpSendTail (u0.abortSend name).2 .ok
            now name dst payload) := by
  rw [udpSendTo_eq n now name dst payload u0 hu]; simp only [hb, if_true]
  constructor
  · intro h
    rw [udpSendTail_bindFailed _ _ _ _ _ _ _ h]
    exact ⟨rfl, fwdsOf_abortSend name u0⟩
  · intro h; rw [h]

/-- **Totality.** Whatever the state and the arguments, `send_to` reports one of: `other`
    (no such socket object — the model's stand-in for a call on a dead object), `invalid_argument`,
    `message_size`, `would_block`, success with the full length, or — only for an unbound sender —
    an error of the implicit `bind` (`bad_descriptor`, `address_family_not_supported`,
    `address_not_available`, `address_in_use`); bytes are reported only with success. -/
theorem C08_send_total (n : NetSt) (now : Int) (name : String) (dst : Ep) (payload : List UInt8) :
    ((n.udpSendTo now name dst payload).2.2.1 = .ok ∧ (n.udpSendTo now name dst payload).2.2.2 = payload.length)
    ∨ ((n.udpSendTo now name dst payload).2.2.1 ∈
          [Ec.other, .invalid, .msgSize, .wouldBlock, .badDesc, .afNoSupport, .notAvail, .inUse, .denied]
        ∧ (n.udpSendTo now name dst payload).2.2.2 = 0
        ∧ fwdsOf (n.udpSendTo now name dst payload).2.1 = []) := by
  rcases udpSendTo_outcome n now name dst payload with ⟨e, hr | hr⟩ | ⟨u, hops, -, -, -, hr⟩
  · exact .inl ⟨congrArg Prod.fst hr, congrArg Prod.snd hr⟩
  · exact .inr ⟨hr.1, hr.2, e⟩
  · exact .inl ⟨congrArg Prod.fst hr, congrArg Prod.snd hr⟩

/-- **Close / re-open discard the queue; the forwarder is cut for good.** In every reachable
    state, for an existing socket `name` holding forwarder `f`, after `close` (resp. `open`,
    resp. the destructor):
    * the socket has no queue and a zero account (resp. the object is gone);
    * every datagram it had queued is logged as discarded (`false`), `acc` is unchanged;
    * `f` points nowhere and stays so under every later history `ls'`, so a datagram still in
      flight towards `f` changes nothing when it arrives, however late — even after the socket
      was re-opened and re-bound to the same endpoint. -/
theorem C08_close_discards (c : NetCfg) (hc : c.WF) (ls : List NLbl) (name : String) (u : UdpSock) (l : NLbl)
    (hu : ((NS.init c).run ls).n.udp? name = some u)
    (hl : l = .uClose name ∨ l = .uDestroy name ∨ ∃ v4, l = .uOpen name v4) :
    (∀ u', (((NS.init c).run ls).step l).n.udp? name = some u' → u'.queue = [] ∧ u'.queueSize = 0)
    ∧ (l = .uDestroy name → (((NS.init c).run ls).step l).n.udp? name = none)
    ∧ (l ≠ .uDestroy name → ∃ u', (((NS.init c).run ls).step l).n.udp? name = some u')
    ∧ (((NS.init c).run ls).step l).out name = ((NS.init c).run ls).out name ++ u.queue.map (·, false)
    ∧ (((NS.init c).run ls).step l).acc = ((NS.init c).run ls).acc
    ∧ ∀ f, u.fwd = some f → ∀ (ls' : List NLbl) (p : Pkt),
        ((((NS.init c).run ls).step l).run ls').n.fwdTarget f = none
        ∧ ((((NS.init c).run ls).step l).run ls').step (.deliver f p) = (((NS.init c).run ls).step l).run ls' := by
  have hr := RegInv.run c hc ls
  have hq : ((NS.init c).run ls).n.uqueue name = u.queue := uqueue_some hu
  obtain ⟨e, hn⟩ := NS.step_closes _ name l hl
  have hname := hn name
  rw [if_pos rfl, hu] at hname
  refine ⟨fun u' hu' => ?_, fun e' => e' ▸ hname, fun hne => ?_, ?_, by rw [e]; rfl, fun f hf ls' p => ?_⟩
  · have := NLbl.closeTo_some (hname.symm.trans hu')
    exact ⟨this.2.1, this.2.2.1⟩
  · rcases hl with rfl | rfl | ⟨v4, rfl⟩
    · exact ⟨_, hname⟩
    · exact absurd rfl hne
    · exact ⟨_, hname⟩
  · rw [e]; simp [NS.discardStep, hq]
  · obtain ⟨d1, d2⟩ := close_like_detaches hr hu hf l hl
    have := detached_run (hr.step l) d1 d2 ls'
    exact ⟨this.1, NS.step_deliver_none _ f p this.1⟩

/-- **(a) A delivery touches exactly the socket its forwarder points at** (every state): all
    other UDP sockets, every TCP object, both registries and the forwarder table are unchanged;
    a detached forwarder swallows the packet. -/
theorem C08_right_socket (s : NS) (f : Nat) (p : Pkt) :
    (∀ x, s.n.fwdTarget f ≠ some x → (s.step (.deliver f p)).n.udp? x = s.n.udp? x
        ∧ (s.step (.deliver f p)).acc x = s.acc x ∧ (s.step (.deliver f p)).out x = s.out x)
    ∧ (s.step (.deliver f p)).n.reg = s.n.reg ∧ (s.step (.deliver f p)).n.fwds = s.n.fwds
    ∧ (s.step (.deliver f p)).n.tcps = s.n.tcps
    ∧ (s.n.fwdTarget f = none → s.step (.deliver f p) = s) := by
  rcases NS.step_deliver s f p with e | ⟨name, u, hf, hu, e⟩ <;> rw [e]
  · exact ⟨fun x _ => ⟨rfl, rfl, rfl⟩, rfl, rfl, rfl, fun _ => rfl⟩
  · exact ⟨fun x hx => s.deliverTo_other name u p fun c => hx (c ▸ hf), rfl, rfl, rfl,
      fun h => by rw [hf] at h; cases h⟩

/-- **(b) `open` gives the socket a brand-new forwarder and cuts the old one** (reachable
    states): the new id is one no packet in flight can carry, the old one points nowhere. -/
theorem C08_right_socket_reopen (c : NetCfg) (hc : c.WF) (ls : List NLbl) (name : String) (u : UdpSock) (v4 : Bool)
    (hu : ((NS.init c).run ls).n.udp? name = some u) :
    (((NS.init c).run ls).step (.uOpen name v4)).n.fwdTarget ((NS.init c).run ls).n.fwds.length = some name
    ∧ ((NS.init c).run ls).n.fwdTarget ((NS.init c).run ls).n.fwds.length = none
    ∧ (∃ u', (((NS.init c).run ls).step (.uOpen name v4)).n.udp? name = some u'
          ∧ u'.fwd = some ((NS.init c).run ls).n.fwds.length ∧ u'.isOpen = true ∧ u'.bound = {} ∧ u'.queue = [])
    ∧ (∀ f, u.fwd = some f → (((NS.init c).run ls).step (.uOpen name v4)).n.fwdTarget f = none) := by
  have hr := RegInv.run c hc ls
  refine ⟨?_, fwdTarget_ge _ _ (Nat.le_refl _), ?_, ?_⟩
  · exact (congrFun (congrArg RV.ft (udpOpen_rv ((NS.init c).run ls).n name v4).1) _).trans
      ((RV.reopen_ft _ name (uv_some_of_udp? hu) _).trans (if_pos rfl))
  · refine ⟨u.opened v4 ((NS.init c).run ls).n.fwds.length, ?_, rfl, rfl, rfl, rfl⟩
    show (((NS.init c).run ls).n.udpOpen name v4).1.udp? name = _
    rw [udpOpen_udp?]; simp [hu]
  · intro f hf
    exact (close_like_detaches hr hu hf (.uOpen name v4) (Or.inr (Or.inr ⟨v4, rfl⟩))).1

/-- **(c) A forwarder keeps reaching its socket** (reachable states) under every label except
    close / destroy / re-open of that socket and move construction from it — whatever happens
    to other sockets, to TCP objects (even of the same name: names of live UDP and TCP objects
    are disjoint), to the registries. Move construction re-points it to the new object. -/
theorem C08_right_socket_kept (c : NetCfg) (hc : c.WF) (ls : List NLbl) (f : Nat) (name : String) (u : UdpSock)
    (hu : ((NS.init c).run ls).n.udp? name = some u)
    (hf : ((NS.init c).run ls).n.fwdTarget f = some name) :
    (∀ l, l.detaches name = false → (((NS.init c).run ls).step l).n.fwdTarget f = some name)
    ∧ (∀ dst, ((NS.init c).run ls).n.fresh dst = true →
        (((NS.init c).run ls).step (.uMove name dst)).n.fwdTarget f = some dst
        ∧ (((NS.init c).run ls).step (.uMove name dst)).n.udp? dst = some u) := by
  have hr := RegInv.run c hc ls
  refine ⟨fun l hl => fwd_kept_step hr hu hf l hl, fun dst hfr => ?_⟩
  have hg : (((NS.init c).run ls).n.fresh dst && (((NS.init c).run ls).n.udp? name).isSome) = true := by
    simp [hfr, hu]
  have hdn : ((NS.init c).run ls).n.udp? dst = none := ((fresh_iff _ _).mp hfr).1
  have hne : dst ≠ name := by intro e; rw [e, hu] at hdn; simp at hdn
  simp only [NS.step, hg, if_true]
  constructor
  · rw [udpMove_fwdTarget _ name dst u hu f (fun g hg => hr.udp_fwd_lt hu hg)]
    simp [(hr.deliver_open hf hu).2]
  · rw [udpMove_udp? _ name dst dst u hu]; simp [hne]

namespace C08Ex
def cfg : NetCfg := { nodes := [("A", ["10.0.0.1"]), ("B", ["10.0.0.2"])], routeIn := [("*", ["qin"])],
                      routeOut := [("*", ["qout"])] }
theorem cfg_wf : cfg.WF := NetCfg.wf_of_nodes (by decide)

def epA : Ep := { addr := "10.0.0.1", port := 4000 }
def epB : Ep := { addr := "10.0.0.2", port := 5000 }
def pre1 : List NLbl := [.uNew "a" "A", .uNew "b" "B", .uOpen "a" true, .uOpen "b" true]
def s4 : NS := (NS.init cfg).run pre1
def s6 : NS := { s4 with n := (s4.n.bindOk "b" epB).bindOk "a" epA }

theorem s6_eq : (NS.init cfg).run (pre1 ++ [.uBind "b" epB, .uBind "a" epA]) = s6 := by
  rw [NS.run_append]
  show ({ ({ s4 with n := (s4.n.udpBind "b" epB).1 } : NS) with
          n := (({ s4 with n := (s4.n.udpBind "b" epB).1 } : NS).n.udpBind "a" epA).1 } : NS) = s6
  have e1 : s4.n.udpBind "b" epB = (s4.n.bindOk "b" epB, .ok) :=
    udpBind_explicit s4.n "b" epB { node := "B", isOpen := true, fwd := some 1 } rfl rfl
      (by rw [Ep.isV4_eq]; decide) (by decide) rfl (by decide) (by decide)
  rw [e1]
  have e2 : (s4.n.bindOk "b" epB).udpBind "a" epA = ((s4.n.bindOk "b" epB).bindOk "a" epA, .ok) :=
    udpBind_explicit _ "a" epA { node := "A", isOpen := true, fwd := some 0 } rfl rfl
      (by rw [Ep.isV4_eq]; decide) (by decide) rfl (by decide) (by decide)
  show ({ s4 with n := ((s4.n.bindOk "b" epB).udpBind "a" epA).1 } : NS) = s6
  rw [e2]
  rfl

def pk (i : Nat) (payload : List UInt8) : Pkt :=
  { id := i, len := payload.length, ovh := 28, src := "10.0.0.1:4000", payload := payload }

/-- `b` parks a 2-byte receive; `a` sends 5 bytes to `b`; three datagrams arrive at `b`'s
    forwarder (the first goes straight to the parked receive, truncated); `b` reads one, closes
    with one unread; a late datagram arrives at the cut forwarder; `b` re-opens (new forwarder
    2); one more late datagram at the old forwarder, one at the new. -/
def post : List NLbl :=
  [.uRecv "b" { h := 9, caps := [2], withEp := true }, .uSendTo 0 "a" epB [1, 2, 3, 4, 5],
   .deliver 1 (pk 1 [1, 2, 3, 4, 5]), .deliver 1 (pk 2 [6, 7]), .deliver 1 (pk 3 [8]),
   .uRecvNb "b" [100], .uClose "b", .deliver 1 (pk 4 [9]), .uOpen "b" true,
   .deliver 1 (pk 5 [10]), .deliver 2 (pk 6 [11, 12])]

def hist : List NLbl := pre1 ++ [.uBind "b" epB, .uBind "a" epA] ++ post

theorem hist_eq : (NS.init cfg).run hist = s6.run post := by
  unfold hist; rw [NS.run_append, s6_eq]

theorem hist_take_eq (k : Nat) : (NS.init cfg).run (pre1 ++ [.uBind "b" epB, .uBind "a" epA] ++ post.take k)
    = s6.run (post.take k) := by
  rw [NS.run_append, s6_eq]

/-- the logs of `b` at the end: accepted 1, 2, 3 (before the close) and 6 (after the re-open);
    1 and 2 handed to the reader, 3 discarded by the close, 6 still queued; 4 and 5 (late, at
    the cut forwarder) never accepted. -/
example : ((s6.run post).acc "b").map (·.id) = [1, 2, 3, 6]
    ∧ ((s6.run post).out "b").map (fun e => (e.1.id, e.2)) = [(1, true), (2, true), (3, false)]
    ∧ ((s6.run post).n.uqueue "b").map (·.id) = [6] := by decide +kernel

example := C08_fifo cfg cfg_wf hist "b"

/-- the account of `b` at the end is the 2 payload bytes of datagram 6; after the truncating
    hand-over of datagram 1 (5 bytes into a 2-byte buffer) the account was back to 0 -/
example : ((s6.run post).n.udp? "b").map (fun u => (u.isOpen, u.queueSize, u.fwd)) = some (true, 2, some 2)
    ∧ ((s6.run (post.take 3)).n.udp? "b").map (fun u => (u.queueSize, u.queue.length, u.recvH.isSome))
        = some (0, 0, false)
    ∧ ((s6.run (post.take 1)).n.udp? "b").map (fun u => (u.recvH.isSome, u.recvNull)) = some (true, false) := by
  decide +kernel

/-- what `send_to` forwarded: one packet, the five bytes, 28 bytes overhead, route
    sender-out, receiver-in, `b`'s forwarder -/
example : (fwdsOf ((s6.run (post.take 1)).n.udpSendTo 0 "a" epB [1, 2, 3, 4, 5]).2.1).map
      (fun p => (p.hops, p.payload, p.len, p.ovh))
    = [(["qout", "qin", "@1"], [1, 2, 3, 4, 5], 5, 28)] := by decide +kernel

/-- the hypotheses of `C08_send_forward` hold there -/
example := C08_send_forward cfg cfg_wf (pre1 ++ [.uBind "b" epB, .uBind "a" epA] ++ post.take 1) 0 "a"
  { node := "A", isOpen := true, bound := epA, fwd := some 0 } epB [1, 2, 3, 4, 5] "b"
  (by rw [hist_take_eq 1]; rfl) (by decide) (by decide) (by decide) (by decide) (by decide)
  (by rw [hist_take_eq 1]; decide)

/-- the hypotheses of `C08_parked_receive_gets_datagram` hold after the first two labels -/
example := C08_parked_receive_gets_datagram cfg cfg_wf (pre1 ++ [.uBind "b" epB, .uBind "a" epA] ++ post.take 2) "b"
  { node := "B", isOpen := true, bound := epB, fwd := some 1, recvH := some { h := 9, caps := [2], withEp := true } }
  { h := 9, caps := [2], withEp := true } (pk 1 [1, 2, 3, 4, 5])
  (by rw [hist_take_eq 2]; rfl) rfl (by decide)

/-- the hypotheses of `C08_close_discards` hold before the close (one datagram unread) -/
example := C08_close_discards cfg cfg_wf (pre1 ++ [.uBind "b" epB, .uBind "a" epA] ++ post.take 6) "b"
  { node := "B", isOpen := true, bound := epB, fwd := some 1, queue := [pk 3 [8]], queueSize := 1 }
  (.uClose "b") (by rw [hist_take_eq 6]; rfl) (Or.inl rfl)

/-- the hypotheses of `C08_drained_reader_loses_nothing` hold after the re-open -/
example := C08_drained_reader_loses_nothing cfg cfg_wf (pre1 ++ [.uBind "b" epB, .uBind "a" epA] ++ post.take 10) 2 "b"
  { node := "B", isOpen := true, fwd := some 2 } (pk 6 [11, 12])
  (by rw [hist_take_eq 10]; decide) (by rw [hist_take_eq 10]; rfl) rfl (by decide)

/-- the hypotheses of `C08_right_socket_kept` hold (forwarder 0 reaches `a` throughout) -/
example := C08_right_socket_kept cfg cfg_wf hist 0 "a"
  { node := "A", isOpen := true, bound := epA, fwd := some 0, nextSend := 330 }
  (by rw [hist_eq]; rfl) (by rw [hist_eq]; decide)

end C08Ex

end SimVerif
