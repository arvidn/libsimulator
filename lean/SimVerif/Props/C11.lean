/-
  C11 — Endpoint registry: exclusive binds, ephemeral ports, release on close.

  Property theorems and an example history. Mechanism model:
  SimVerif/Net.lean (registries, `simBind`, `ioResolve`, `simUnbind`, UDP sockets),
  SimVerif/Tcp.lean (TCP sockets, acceptors,
  `internalConnect`). Open system: SimVerif/NetSys.lean — the environment picks any sequence
  `ls` of API calls (labels `NLbl`) on any objects by name, from the empty state
  `NS.init c` of a configuration `c` whose nodes carry no wildcard address (`c.WF`).
  Invariant and its preservation: SimVerif/Lemmas/NetInv.lean, NetRun.lean.
-/
import SimVerif.Lemmas.NetRun

namespace SimVerif

/-- **Exclusive.** Neither table ever holds two entries for one endpoint. -/
theorem C11_exclusive (c : NetCfg) (hc : c.WF) (ls : List NLbl) :
    (((NS.init c).run ls).n.reg.udp.map Prod.fst).Nodup
    ∧ (((NS.init c).run ls).n.reg.tcp.map Prod.fst).Nodup :=
  ⟨(RegInv.run c hc ls).udp.nodup, (RegInv.run c hc ls).tcp.nodup⟩

/-- **UDP entries are exactly the open, bound sockets.** -/
theorem C11_inv_udp (c : NetCfg) (hc : c.WF) (ls : List NLbl) (ep : Ep) (name : String) :
    (ep, name) ∈ ((NS.init c).run ls).n.reg.udp ↔
      ∃ u, ((NS.init c).run ls).n.udp? name = some u ∧ u.isOpen = true ∧ u.bound = ep ∧ ep.isDefault = false := by
  have h := RegInv.run c hc ls
  constructor
  · exact h.udp_entry
  · rintro ⟨u, hu, ho, hb, hd⟩
    exact h.udp.complete name ep (by simp [NetSt.ub, hu, ho, hb]) hd (by simp)

/-- **TCP entries belong to open sockets bound to that endpoint.** -/
theorem C11_inv_tcp_sound (c : NetCfg) (hc : c.WF) (ls : List NLbl) (ep : Ep) (name : String)
    (hm : (ep, name) ∈ ((NS.init c).run ls).n.reg.tcp) :
    ∃ t, ((NS.init c).run ls).n.tcp? name = some t ∧ t.isOpen = true ∧ t.bound = ep ∧ ep.isDefault = false :=
  (RegInv.run c hc ls).tcp_entry hm

/-- Every open TCP object whose endpoint did not come from an accept (`attached`)
    holds the entry for it. -/
theorem C11_inv_tcp_complete (c : NetCfg) (hc : c.WF) (ls : List NLbl) (name : String) (t : TcpSock)
    (ht : ((NS.init c).run ls).n.tcp? name = some t) (ho : t.isOpen = true)
    (hd : t.bound.isDefault = false) (hna : name ∉ ((NS.init c).run ls).attached) :
    (t.bound, name) ∈ ((NS.init c).run ls).n.reg.tcp :=
  (RegInv.run c hc ls).tcp.complete name t.bound (by simp [NetSt.tb, ht, ho]) hd hna

/-- An accepted socket is open, carries an endpoint, and holds NO entry of the table. -/
theorem C11_inv_tcp_attached (c : NetCfg) (hc : c.WF) (ls : List NLbl) (name : String)
    (ha : name ∈ ((NS.init c).run ls).attached) :
    (∃ t, ((NS.init c).run ls).n.tcp? name = some t ∧ t.isOpen = true ∧ t.bound.isDefault = false)
    ∧ ∀ ep, (ep, name) ∉ ((NS.init c).run ls).n.reg.tcp := by
  have h := RegInv.run c hc ls
  refine ⟨?_, h.tcp.att_none name ha⟩
  obtain ⟨ep, h1, h2⟩ := h.tcp.att_bound name ha
  obtain ⟨t, ht, ho, hb⟩ := tb_eq_some h1
  exact ⟨t, ht, ho, hb ▸ h2⟩

/-- **At most one open UDP socket per endpoint.** -/
theorem C11_one_owner_udp (c : NetCfg) (hc : c.WF) (ls : List NLbl) (a b : String) (ua ub : UdpSock)
    (ha : ((NS.init c).run ls).n.udp? a = some ua) (hb : ((NS.init c).run ls).n.udp? b = some ub)
    (hoa : ua.isOpen = true) (hob : ub.isOpen = true) (hd : ua.bound.isDefault = false)
    (he : ua.bound = ub.bound) : a = b := by
  have h1 := (C11_inv_udp c hc ls ua.bound a).mpr ⟨ua, ha, hoa, rfl, hd⟩
  have h2 := (C11_inv_udp c hc ls ua.bound b).mpr ⟨ub, hb, hob, he.symm, hd⟩
  exact keys_unique _ (C11_exclusive c hc ls).1 _ _ _ h1 h2

/-- **At most one open TCP object per endpoint** that was not handed its endpoint by an accept. -/
theorem C11_one_owner_tcp (c : NetCfg) (hc : c.WF) (ls : List NLbl) (a b : String) (ta tb : TcpSock)
    (ha : ((NS.init c).run ls).n.tcp? a = some ta) (hb : ((NS.init c).run ls).n.tcp? b = some tb)
    (hoa : ta.isOpen = true) (hob : tb.isOpen = true) (hd : ta.bound.isDefault = false)
    (he : ta.bound = tb.bound)
    (hna : a ∉ ((NS.init c).run ls).attached) (hnb : b ∉ ((NS.init c).run ls).attached) : a = b := by
  have h1 := C11_inv_tcp_complete c hc ls a ta ha hoa hd hna
  have h2 := C11_inv_tcp_complete c hc ls b tb hb hob (he ▸ hd) hnb
  rw [← he] at h2
  exact keys_unique _ (C11_exclusive c hc ls).2 _ _ _ h1 h2

/-- **The guard of `unbind_udp_socket` never fails.** Whatever entry exists for the endpoint a
    UDP socket believes it is bound to belongs to that very socket (UDP has no accepted
    sockets sharing an endpoint) — which is why making that erase unconditional cannot be
    observed, while the TCP twin can (`C11_accepted_close_keeps_acceptor`). -/
theorem C11_udp_entry_is_own (c : NetCfg) (hc : c.WF) (ls : List NLbl) (name x : String) (u : UdpSock)
    (hu : ((NS.init c).run ls).n.udp? name = some u) (hd : u.bound.isDefault = false)
    (hx : (u.bound, x) ∈ ((NS.init c).run ls).n.reg.udp) : x = name :=
  (RegInv.run c hc ls).udp.entry_is_own (o := u.isOpen) (by simp [NetSt.ub, hu]) hd (by simp) hx

/-- A closed object is unbound; a bound one never carries the wildcard address. -/
theorem C11_closed_unbound (c : NetCfg) (hc : c.WF) (ls : List NLbl) (name : String) :
    (∀ u, ((NS.init c).run ls).n.udp? name = some u → u.isOpen = false → u.bound = {})
    ∧ (∀ t, ((NS.init c).run ls).n.tcp? name = some t → t.isOpen = false → t.bound = {}) := by
  have h := RegInv.run c hc ls
  exact ⟨fun u hu ho => h.udp.closed name u.bound (by simp [NetSt.ub, hu, ho]),
         fun t ht ho => h.tcp.closed name t.bound (by simp [NetSt.tb, ht, ho])⟩

/-! ## the decision table of `bind`

  Rows in the order the code tests them. `n` is ANY state (the table is a property of the
  functions); `u` the socket `name` denotes. Each row gives the error code AND the state. -/

/-- no such object (a harness artefact: the C++ cannot call a method of a missing object) -/
theorem C11_error_table_udp_missing (n : NetSt) (name : String) (ep : Ep) (h : n.udp? name = none) :
    n.udpBind name ep = (n, .other) := by simp [NetSt.udpBind, h]

/-- closed → bad_descriptor -/
theorem C11_error_table_udp_closed (n : NetSt) (name : String) (ep : Ep) (u : UdpSock)
    (h : n.udp? name = some u) (ho : u.isOpen = false) : n.udpBind name ep = (n, .badDesc) := by
  simp [NetSt.udpBind, h, ho]

/-- family mismatch → address_family_not_supported -/
theorem C11_error_table_udp_family (n : NetSt) (name : String) (ep : Ep) (u : UdpSock)
    (h : n.udp? name = some u) (ho : u.isOpen = true) (hf : ep.isV4 ≠ u.isV4) :
    n.udpBind name ep = (n, .afNoSupport) := by
  simp [NetSt.udpBind, h, ho, hf]

/-- already bound → invalid_argument (and the first binding stays: the state is unchanged) -/
theorem C11_error_table_udp_bound (n : NetSt) (name : String) (ep : Ep) (u : UdpSock)
    (h : n.udp? name = some u) (ho : u.isOpen = true) (hf : ep.isV4 = u.isV4)
    (hb : u.bound.isDefault = false) : n.udpBind name ep = (n, .invalid) := by
  simp [NetSt.udpBind, h, ho, hf, hb]

/-- address resolution: the wildcard becomes the node's FIRST address of the family,
    a concrete address must be one of the node's own -/
theorem C11_error_table_resolve (ips : List String) (ep : Ep) :
    (ep.addr = "0.0.0.0" → ioResolve ips ep =
        match ips.find? addrIsV4 with
        | some ip => .ok { ep with addr := ip }
        | none => .error .notAvail)
    ∧ (ep.addr = "::" → ioResolve ips ep =
        match ips.find? (fun a => !addrIsV4 a) with
        | some ip => .ok { ep with addr := ip }
        | none => .error .notAvail)
    ∧ (ep.addr ≠ "0.0.0.0" → ep.addr ≠ "::" → ep.addr ∈ ips → ioResolve ips ep = .ok ep)
    ∧ (ep.addr ≠ "0.0.0.0" → ep.addr ≠ "::" → ep.addr ∉ ips → ioResolve ips ep = .error .notAvail) := by
  refine ⟨fun h => ?_, fun h => ?_, fun h1 h2 h3 => ?_, fun h1 h2 h3 => ?_⟩
  · unfold ioResolve; simp only [h, beq_self_eq_true, if_true]; cases ips.find? addrIsV4 <;> rfl
  · unfold ioResolve; simp only [h, beq_self_eq_true, if_true]
    cases ips.find? (fun a => !addrIsV4 a) <;> rfl
  · unfold ioResolve; simp [h1, h2, h3]
  · unfold ioResolve; simp [h1, h2, h3]

/-- The wildcard row: the first v4 address found is an address of the node, before it no v4 address occurs. -/
theorem C11_wildcard_first (ips : List String) (ip : String) (h : ips.find? addrIsV4 = some ip) :
    ∃ pre post, ips = pre ++ ip :: post ∧ addrIsV4 ip = true ∧ ∀ a ∈ pre, addrIsV4 a = false := by
  obtain ⟨h1, pre, post, h2, h3⟩ := List.find?_eq_some_iff_append.mp h
  exact ⟨pre, post, h2, h1, fun a ha => by simpa using h3 a ha⟩

/-- resolution failed → that error (address_not_available), state unchanged -/
theorem C11_error_table_udp_unresolved (n : NetSt) (name : String) (ep : Ep) (u : UdpSock) (e : Ec)
    (h : n.udp? name = some u) (ho : u.isOpen = true) (hf : ep.isV4 = u.isV4)
    (hb : u.bound.isDefault = true) (hr : ioResolve (n.cfg.ipsOf u.node) ep = .error e) :
    n.udpBind name ep = (n, e) := by
  simp [NetSt.udpBind, h, ho, hf, hb, hr]

/-- privileged port → access_denied, state unchanged -/
theorem C11_error_table_udp_denied (n : NetSt) (name : String) (ep ep1 : Ep) (u : UdpSock)
    (hpre : n.udpBindPre name ep u ep1) (hp : 0 < ep1.port ∧ ep1.port < 1024) :
    n.udpBind name ep = (n, .denied) := by
  rw [udpBind_pre n name ep u ep1 hpre, simBind_denied _ _ _ _ hp]

/-- explicit port ≥ 1024, endpoint taken → address_in_use, state unchanged -/
theorem C11_error_table_udp_in_use (n : NetSt) (name : String) (ep ep1 : Ep) (u : UdpSock)
    (hpre : n.udpBindPre name ep u ep1) (hp : 1024 ≤ ep1.port)
    (ht : (n.reg.udp.lookup ep1).isSome = true) : n.udpBind name ep = (n, .inUse) := by
  rw [udpBind_pre n name ep u ep1 hpre, simBind_taken _ _ _ _ hp ht]

/-- explicit port ≥ 1024, endpoint free → success: exactly this entry is added, the socket is
    bound to it, the ephemeral counter does not move -/
theorem C11_error_table_udp_ok (n : NetSt) (name : String) (ep ep1 : Ep) (u : UdpSock)
    (hpre : n.udpBindPre name ep u ep1) (hp : 1024 ≤ ep1.port)
    (ht : n.reg.udp.lookup ep1 = none) :
    n.udpBind name ep =
      (({ n with reg := { n.reg with udp := n.reg.udp ++ [(ep1, name)] } }).setUdp name { u with bound := ep1 }, .ok) := by
  rw [udpBind_pre n name ep u ep1 hpre, simBind_explicit _ _ _ _ hp ht]

/-- port 0: the probe starts at the counter; either it finds a free port `q` (success with
    that port) or gives up (address_in_use); the counter advances by one (wrapping
    65534 → 2000) in both cases -/
theorem C11_error_table_udp_ephemeral (n : NetSt) (name : String) (ep ep1 : Ep) (u : UdpSock)
    (hpre : n.udpBindPre name ep u ep1) (hp : ep1.port = 0) :
    (probePort n.reg.udp ep1.addr 65536 n.reg.nextPort = none ∧
      n.udpBind name ep = ({ n with reg := { n.reg with nextPort := if n.reg.nextPort + 1 > 65534 then 2000 else n.reg.nextPort + 1 } }, .inUse))
    ∨ (∃ q, probePort n.reg.udp ep1.addr 65536 n.reg.nextPort = some q ∧
      n.udpBind name ep =
        (({ n with reg := { n.reg with udp := n.reg.udp ++ [({ ep1 with port := q }, name)],
                                       nextPort := if n.reg.nextPort + 1 > 65534 then 2000 else n.reg.nextPort + 1 } }).setUdp
            name { u with bound := { ep1 with port := q } }, .ok)) := by
  rw [udpBind_pre n name ep u ep1 hpre, simBind_ephemeral _ _ _ _ hp]
  cases probePort n.reg.udp ep1.addr 65536 n.reg.nextPort with
  | none => exact .inl ⟨rfl, rfl⟩
  | some q => exact .inr ⟨q, rfl, rfl⟩

/-- **Totality**: the code is one of the table's, and anything but success leaves the
    tables, the sockets and the forwarders alone (only the ephemeral counter may advance). -/
theorem C11_error_table_udp_total (n : NetSt) (name : String) (ep : Ep) :
    (n.udpBind name ep).2 ∈ [Ec.other, .badDesc, .afNoSupport, .invalid, .notAvail, .denied, .inUse, .ok]
    ∧ ((n.udpBind name ep).2 ≠ .ok →
        (n.udpBind name ep).1.reg.udp = n.reg.udp ∧ (n.udpBind name ep).1.reg.tcp = n.reg.tcp
        ∧ (n.udpBind name ep).1.udps = n.udps ∧ (n.udpBind name ep).1.tcps = n.tcps
        ∧ (n.udpBind name ep).1.fwds = n.fwds) :=
  udpBind_codes n name ep


/-! ### the same table for `tcp::socket::bind` / `tcp::acceptor::bind` -/

/-- no such object (a harness artefact: the C++ cannot call a method of a missing object) -/
theorem C11_error_table_tcp_missing (n : NetSt) (name : String) (ep : Ep) (h : n.tcp? name = none) :
    n.tcpBind name ep = (n, .other) := by simp [NetSt.tcpBind, h]

/-- closed → bad_descriptor -/
theorem C11_error_table_tcp_closed (n : NetSt) (name : String) (ep : Ep) (u : TcpSock)
    (h : n.tcp? name = some u) (ho : u.isOpen = false) : n.tcpBind name ep = (n, .badDesc) := by
  simp [NetSt.tcpBind, h, ho]

/-- family mismatch → address_family_not_supported -/
theorem C11_error_table_tcp_family (n : NetSt) (name : String) (ep : Ep) (u : TcpSock)
    (h : n.tcp? name = some u) (ho : u.isOpen = true) (hf : ep.isV4 ≠ u.isV4) :
    n.tcpBind name ep = (n, .afNoSupport) := by
  simp [NetSt.tcpBind, h, ho, hf]

/-- already bound → invalid_argument (and the first binding stays: the state is unchanged) -/
theorem C11_error_table_tcp_bound (n : NetSt) (name : String) (ep : Ep) (u : TcpSock)
    (h : n.tcp? name = some u) (ho : u.isOpen = true) (hf : ep.isV4 = u.isV4)
    (hb : u.bound.isDefault = false) : n.tcpBind name ep = (n, .invalid) := by
  simp [NetSt.tcpBind, h, ho, hf, hb]

/-- resolution failed → that error (address_not_available), state unchanged -/
theorem C11_error_table_tcp_unresolved (n : NetSt) (name : String) (ep : Ep) (u : TcpSock) (e : Ec)
    (h : n.tcp? name = some u) (ho : u.isOpen = true) (hf : ep.isV4 = u.isV4)
    (hb : u.bound.isDefault = true) (hr : ioResolve (n.cfg.ipsOf u.node) ep = .error e) :
    n.tcpBind name ep = (n, e) := by
  simp [NetSt.tcpBind, h, ho, hf, hb, hr]

/-- privileged port → access_denied, state unchanged -/
theorem C11_error_table_tcp_denied (n : NetSt) (name : String) (ep ep1 : Ep) (u : TcpSock)
    (hpre : n.tcpBindPre name ep u ep1) (hp : 0 < ep1.port ∧ ep1.port < 1024) :
    n.tcpBind name ep = (n, .denied) := by
  rw [tcpBind_pre n name ep u ep1 hpre, NetSt.tcpBound, simBind_denied _ _ _ _ hp]

/-- explicit port ≥ 1024, endpoint taken → address_in_use, state unchanged -/
theorem C11_error_table_tcp_in_use (n : NetSt) (name : String) (ep ep1 : Ep) (u : TcpSock)
    (hpre : n.tcpBindPre name ep u ep1) (hp : 1024 ≤ ep1.port)
    (ht : (n.reg.tcp.lookup ep1).isSome = true) : n.tcpBind name ep = (n, .inUse) := by
  rw [tcpBind_pre n name ep u ep1 hpre, NetSt.tcpBound, simBind_taken _ _ _ _ hp ht]

/-- explicit port ≥ 1024, endpoint free → success: exactly this entry is added, the socket is
    bound to it, the ephemeral counter does not move -/
theorem C11_error_table_tcp_ok (n : NetSt) (name : String) (ep ep1 : Ep) (u : TcpSock)
    (hpre : n.tcpBindPre name ep u ep1) (hp : 1024 ≤ ep1.port)
    (ht : n.reg.tcp.lookup ep1 = none) :
    n.tcpBind name ep =
      (({ n with reg := { n.reg with tcp := n.reg.tcp ++ [(ep1, name)] } }).setTcp name { u with bound := ep1 }, .ok) := by
  rw [tcpBind_pre n name ep u ep1 hpre, NetSt.tcpBound, simBind_explicit _ _ _ _ hp ht]

/-- port 0: the probe starts at the counter; either it finds a free port `q` (success with
    that port) or gives up (address_in_use); the counter advances by one (wrapping
    65534 → 2000) in both cases -/
theorem C11_error_table_tcp_ephemeral (n : NetSt) (name : String) (ep ep1 : Ep) (u : TcpSock)
    (hpre : n.tcpBindPre name ep u ep1) (hp : ep1.port = 0) :
    (probePort n.reg.tcp ep1.addr 65536 n.reg.nextPort = none ∧
      n.tcpBind name ep = ({ n with reg := { n.reg with nextPort := if n.reg.nextPort + 1 > 65534 then 2000 else n.reg.nextPort + 1 } }, .inUse))
    ∨ (∃ q, probePort n.reg.tcp ep1.addr 65536 n.reg.nextPort = some q ∧
      n.tcpBind name ep =
        (({ n with reg := { n.reg with tcp := n.reg.tcp ++ [({ ep1 with port := q }, name)],
                                       nextPort := if n.reg.nextPort + 1 > 65534 then 2000 else n.reg.nextPort + 1 } }).setTcp
            name { u with bound := { ep1 with port := q } }, .ok)) := by
  rw [tcpBind_pre n name ep u ep1 hpre, NetSt.tcpBound, simBind_ephemeral _ _ _ _ hp]
  cases probePort n.reg.tcp ep1.addr 65536 n.reg.nextPort with
  | none => exact .inl ⟨rfl, rfl⟩
  | some q => exact .inr ⟨q, rfl, rfl⟩

/-- **Totality**: the code is one of the table's, and anything but success leaves the
    tables, the sockets and the forwarders alone (only the ephemeral counter may advance). -/
theorem C11_error_table_tcp_total (n : NetSt) (name : String) (ep : Ep) :
    (n.tcpBind name ep).2 ∈ [Ec.other, .badDesc, .afNoSupport, .invalid, .notAvail, .denied, .inUse, .ok]
    ∧ ((n.tcpBind name ep).2 ≠ .ok →
        (n.tcpBind name ep).1.reg.tcp = n.reg.tcp ∧ (n.tcpBind name ep).1.reg.udp = n.reg.udp
        ∧ (n.tcpBind name ep).1.tcps = n.tcps ∧ (n.tcpBind name ep).1.udps = n.udps
        ∧ (n.tcpBind name ep).1.fwds = n.fwds) :=
  tcpBind_codes n name ep

/-- **Counter invariant**: `m_next_bind_port` stays within [2000, 65534]. -/
theorem C11_counter (c : NetCfg) (hc : c.WF) (ls : List NLbl) :
    2000 ≤ ((NS.init c).run ls).n.reg.nextPort ∧ ((NS.init c).run ls).n.reg.nextPort ≤ 65534 :=
  (RegInv.run c hc ls).port

/-- **Ephemeral ports are free.** A successful UDP bind to port 0 in any reachable state binds
    the socket to an endpoint that NO entry of the UDP table had before, on the resolved
    address, with `counter ≤ port ≤ 65534` — so always ≥ 2000 (the counter never leaves
    [2000, 65534]; after wrapping it restarts at 2000, it never drops into the privileged
    or the low unprivileged range), and the entry is the socket's. -/
theorem C11_ephemeral_free_udp (c : NetCfg) (hc : c.WF) (ls : List NLbl) (name : String) (ep : Ep)
    (hp : ep.port = 0) (hok : (((NS.init c).run ls).n.udpBind name ep).2 = .ok) :
    ∃ u', (((NS.init c).run ls).n.udpBind name ep).1.udp? name = some u'
      ∧ (∀ nm, (u'.bound, nm) ∉ ((NS.init c).run ls).n.reg.udp)
      ∧ ((NS.init c).run ls).n.reg.nextPort ≤ u'.bound.port ∧ 2000 ≤ u'.bound.port ∧ u'.bound.port ≤ 65534
      ∧ (((NS.init c).run ls).n.udpBind name ep).1.reg.udp = ((NS.init c).run ls).n.reg.udp ++ [(u'.bound, name)] := by
  have hcnt := C11_counter c hc ls
  generalize ((NS.init c).run ls).n = n at hok hcnt ⊢
  rcases udpBind_cases n name ep with ⟨e, he, h'⟩ | ⟨u, ep1, hpre⟩
  · rw [h'] at hok; subst hok; simp at he
  have hp1 : ep1.port = 0 := by rw [(ioResolve_ok _ _ _ hpre.2.2.2.2).1]; exact hp
  rcases C11_error_table_udp_ephemeral n name ep ep1 u hpre hp1 with ⟨_, e⟩ | ⟨q, hq, e⟩
  · rw [e] at hok; simp at hok
  · rw [e]
    obtain ⟨h1, h2, h3⟩ := probePort_some _ _ _ _ _ hq
    exact ⟨{ u with bound := { ep1 with port := q } }, by simp, (lookup_none_iff _ _).mp h1, h2,
      by show 2000 ≤ q; omega, by show q ≤ 65534; omega, rfl⟩

theorem C11_ephemeral_free_tcp (c : NetCfg) (hc : c.WF) (ls : List NLbl) (name : String) (ep : Ep)
    (hp : ep.port = 0) (hok : (((NS.init c).run ls).n.tcpBind name ep).2 = .ok) :
    ∃ t', (((NS.init c).run ls).n.tcpBind name ep).1.tcp? name = some t'
      ∧ (∀ nm, (t'.bound, nm) ∉ ((NS.init c).run ls).n.reg.tcp)
      ∧ ((NS.init c).run ls).n.reg.nextPort ≤ t'.bound.port ∧ 2000 ≤ t'.bound.port ∧ t'.bound.port ≤ 65534
      ∧ (((NS.init c).run ls).n.tcpBind name ep).1.reg.tcp = ((NS.init c).run ls).n.reg.tcp ++ [(t'.bound, name)] := by
  have hcnt := C11_counter c hc ls
  generalize ((NS.init c).run ls).n = n at hok hcnt ⊢
  rcases tcpBind_cases n name ep with ⟨e, he, h'⟩ | ⟨u, ep1, hpre⟩
  · rw [h'] at hok; subst hok; simp at he
  have hp1 : ep1.port = 0 := by rw [(ioResolve_ok _ _ _ hpre.2.2.2.2).1]; exact hp
  rcases C11_error_table_tcp_ephemeral n name ep ep1 u hpre hp1 with ⟨_, e⟩ | ⟨q, hq, e⟩
  · rw [e] at hok; simp at hok
  · rw [e]
    obtain ⟨h1, h2, h3⟩ := probePort_some _ _ _ _ _ hq
    exact ⟨{ u with bound := { ep1 with port := q } }, by simp, (lookup_none_iff _ _).mp h1, h2,
      by show 2000 ≤ q; omega, by show q ≤ 65534; omega, rfl⟩

/-- every bound endpoint has a port ≥ 1024 -/
theorem C11_ports_unprivileged (c : NetCfg) (hc : c.WF) (ls : List NLbl) :
    (∀ ep nm, (ep, nm) ∈ ((NS.init c).run ls).n.reg.udp → 1024 ≤ ep.port)
    ∧ (∀ ep nm, (ep, nm) ∈ ((NS.init c).run ls).n.reg.tcp → 1024 ≤ ep.port) :=
  ⟨(RegInv.run c hc ls).udp.ports, (RegInv.run c hc ls).tcp.ports⟩

/-- **A UDP operation leaves the TCP table, every TCP object and the accepted-set alone.** -/
theorem C11_tcp_udp_independent_udp (s : NS) (l : NLbl) (hl : l.isUdp = true) :
    (s.step l).n.reg.tcp = s.n.reg.tcp ∧ (∀ x, (s.step l).n.tcp? x = s.n.tcp? x)
    ∧ (s.step l).attached = s.attached := by
  have := NS.step_reg s l
  rw [NS.RegStep, hl] at this
  exact ⟨this.1.same.regT, this.1.same.tcp?, this.2⟩

/-- **A TCP operation leaves the UDP table, every UDP socket and the datagram logs alone.** -/
theorem C11_tcp_udp_independent_tcp (s : NS) (l : NLbl) (hl : l.isUdp = false) :
    (s.step l).n.reg.udp = s.n.reg.udp ∧ (∀ x, (s.step l).n.udp? x = s.n.udp? x)
    ∧ (s.step l).acc = s.acc ∧ (s.step l).out = s.out := by
  obtain ⟨h, ha, ho⟩ := NS.step_nonUdp s l hl
  exact ⟨h.regU, h.udp?, ha, ho⟩

/-- **The shared counter.** Any label leaves `m_next_bind_port` where it is or advances it by
    one (65534 wraps to 2000); only the four operations that can reach `simulation::bind_*`
    with port 0 (bind, send_to's and connect's implicit bind) can move it — whichever protocol:
    this counter is the one thing the two port spaces share. -/
theorem C11_counter_moves (s : NS) (l : NLbl) :
    bumped s.n.reg.nextPort (s.step l).n.reg.nextPort
    ∧ (l.mayBind = false → (s.step l).n.reg.nextPort = s.n.reg.nextPort) := by
  cases hb : l.mayBind with
  | false =>
    have : (s.step l).n.reg.nextPort = s.n.reg.nextPort := by
      have := NS.step_reg s l
      unfold NS.RegStep at this
      cases hu : l.isUdp <;> rw [hu] at this <;> exact this.1.port hb
    exact ⟨.inl this, fun _ => this⟩
  | true =>
    refine ⟨?_, nofun⟩
    cases l <;> try (exact Bool.noConfusion hb)
    case uBind name ep => exact (udpBind_rstep _ _ _).2.1
    case uSendTo now name dst payload => exact (udpSendTo_rstep _ _ _ _ _).2.1
    case tBind name ep => exact (tcpBind_rstep _ _ _ []).2
    case tConnect now name target h => exact (tcpConnect_rstep _ _ _ _ _ []).2

/-- **Release.** After `close`, the destructor, or `open` on UDP socket `name`, no entry of
    the UDP table maps to `name` — in any state `s` that satisfies the invariant. -/
theorem C11_release_udp (s : NS) (name : String) (l : NLbl)
    (hl : l = .uClose name ∨ l = .uDestroy name ∨ (∃ v4, l = .uOpen name v4)) (hr : RegInv s) :
    ∀ ep, (ep, name) ∉ (s.step l).n.reg.udp :=
  (hr.step l).okU.released (NS.step_closes_rv s name l hl)

theorem C11_release_tcp (s : NS) (name : String) (l : NLbl)
    (hl : (∃ now, l = .tClose now name) ∨ (∃ now, l = .tDestroy now name) ∨ (∃ now, l = .aClose now name)
          ∨ (∃ now v4, l = .tOpen now name v4)) (hr : RegInv s) :
    ∀ ep, (ep, name) ∉ (s.step l).n.reg.tcp := by
  exact (hr.step l).okT.released (NS.step_closes_rvT s name l hl)

/-- `C11_release_udp` and `C11_release_tcp` over all histories -/
theorem C11_release (c : NetCfg) (hc : c.WF) (ls : List NLbl) (name : String) :
    (∀ ep, (ep, name) ∉ (((NS.init c).run ls).step (.uClose name)).n.reg.udp)
    ∧ (∀ ep, (ep, name) ∉ (((NS.init c).run ls).step (.uDestroy name)).n.reg.udp)
    ∧ (∀ v4 ep, (ep, name) ∉ (((NS.init c).run ls).step (.uOpen name v4)).n.reg.udp)
    ∧ (∀ now ep, (ep, name) ∉ (((NS.init c).run ls).step (.tClose now name)).n.reg.tcp)
    ∧ (∀ now ep, (ep, name) ∉ (((NS.init c).run ls).step (.tDestroy now name)).n.reg.tcp)
    ∧ (∀ now ep, (ep, name) ∉ (((NS.init c).run ls).step (.aClose now name)).n.reg.tcp)
    ∧ (∀ now v4 ep, (ep, name) ∉ (((NS.init c).run ls).step (.tOpen now name v4)).n.reg.tcp) := by
  have hr := RegInv.run c hc ls
  exact ⟨C11_release_udp _ name _ (Or.inl rfl) hr,
    C11_release_udp _ name _ (Or.inr (Or.inl rfl)) hr,
    fun v4 => C11_release_udp _ name _ (Or.inr (Or.inr ⟨v4, rfl⟩)) hr,
    fun now => C11_release_tcp _ name _ (Or.inl ⟨now, rfl⟩) hr,
    fun now => C11_release_tcp _ name _ (Or.inr (Or.inl ⟨now, rfl⟩)) hr,
    fun now => C11_release_tcp _ name _ (Or.inr (Or.inr (Or.inl ⟨now, rfl⟩))) hr,
    fun now v4 => C11_release_tcp _ name _ (Or.inr (Or.inr (Or.inr ⟨now, v4, rfl⟩))) hr⟩

/-- the configuration never changes -/
theorem C11_step_cfg (s : NS) (l : NLbl) : (s.step l).n.cfg = s.n.cfg := NS.step_cfg s l

theorem C11_cfg_constant (c : NetCfg) (ls : List NLbl) : ((NS.init c).run ls).n.cfg = c :=
  NS.run_cfg _ ls

/-- **A released endpoint can be bound again.** If UDP socket `name` held `ep`, then right after its
    close / destruction / re-open ANY open, unbound socket `other` of the right family on a
    node that owns the address binds `ep` successfully. -/
theorem C11_release_rebind_udp (c : NetCfg) (hc : c.WF) (ls : List NLbl) (name other : String) (ep : Ep)
    (l : NLbl) (hl : l = .uClose name ∨ l = .uDestroy name ∨ (∃ v4, l = .uOpen name v4))
    (hheld : (ep, name) ∈ ((NS.init c).run ls).n.reg.udp)
    (v : UdpSock) (hv : (((NS.init c).run ls).step l).n.udp? other = some v)
    (ho : v.isOpen = true) (hfam : ep.isV4 = v.isV4) (hub : v.bound.isDefault = true)
    (hown : ep.addr ∈ c.ipsOf v.node) :
    ((((NS.init c).run ls).step l).n.udpBind other ep).2 = .ok := by
  have hr := RegInv.run c hc ls
  have hcfg : (((NS.init c).run ls).step l).n.cfg = c := by
    rw [C11_step_cfg, C11_cfg_constant]
  have hfree : (((NS.init c).run ls).step l).n.reg.udp.lookup ep = none := by
    rw [show (((NS.init c).run ls).step l).n.reg.udp = (((NS.init c).run ls).n.rvU.close name).tbl by
      rcases NS.step_closes_rv _ name l hl with e | e | e <;> exact congrArg RV.tbl e]
    exact hr.udp.close_frees hheld _ (congrFun (NetSt.ub_eq _) name)
  have hport := hr.udp.ports ep name hheld
  rw [C11_error_table_udp_ok _ other ep ep v ⟨hv, ho, hfam, hub, by rw [hcfg]; exact hc.resolve_own hown⟩ hport hfree]


/-- `C11_release_rebind_udp` for TCP sockets and acceptors -/
theorem C11_release_rebind_tcp (c : NetCfg) (hc : c.WF) (ls : List NLbl) (name other : String) (ep : Ep)
    (l : NLbl)
    (hl : (∃ now, l = .tClose now name) ∨ (∃ now, l = .tDestroy now name) ∨ (∃ now, l = .aClose now name)
          ∨ (∃ now v4, l = .tOpen now name v4))
    (hheld : (ep, name) ∈ ((NS.init c).run ls).n.reg.tcp)
    (v : TcpSock) (hv : (((NS.init c).run ls).step l).n.tcp? other = some v)
    (ho : v.isOpen = true) (hfam : ep.isV4 = v.isV4) (hub : v.bound.isDefault = true)
    (hown : ep.addr ∈ c.ipsOf v.node) :
    ((((NS.init c).run ls).step l).n.tcpBind other ep).2 = .ok := by
  have hr := RegInv.run c hc ls
  have hcfg : (((NS.init c).run ls).step l).n.cfg = c := by
    rw [C11_step_cfg, C11_cfg_constant]
  have hfree : (((NS.init c).run ls).step l).n.reg.tcp.lookup ep = none := by
    rw [NS.step_closes_tblT _ name l hl]
    exact hr.tcp.close_frees hheld _ (congrFun (NetSt.tb_eq _) name)
  have hport := hr.tcp.ports ep name hheld
  rw [C11_error_table_tcp_ok _ other ep ep v ⟨hv, ho, hfam, hub, by rw [hcfg]; exact hc.resolve_own hown⟩ hport hfree]

/-- **Move (UDP).** After `udp::socket(socket&&)` from `src` into the new object `dst`, every
    entry that pointed at `src` points at `dst`, `src` holds none and is closed, `dst` carries
    `src`'s endpoint. -/
theorem C11_move_transfers_udp (c : NetCfg) (hc : c.WF) (ls : List NLbl) (src dst : String) (u : UdpSock)
    (hfresh : ((NS.init c).run ls).n.fresh dst = true) (hu : ((NS.init c).run ls).n.udp? src = some u) :
    (∀ ep, (ep, src) ∈ ((NS.init c).run ls).n.reg.udp →
        (ep, dst) ∈ (((NS.init c).run ls).step (.uMove src dst)).n.reg.udp)
    ∧ (∀ ep, (ep, src) ∉ (((NS.init c).run ls).step (.uMove src dst)).n.reg.udp)
    ∧ (∃ u', (((NS.init c).run ls).step (.uMove src dst)).n.udp? src = some u' ∧ u'.isOpen = false ∧ u'.bound = {})
    ∧ (((NS.init c).run ls).step (.uMove src dst)).n.udp? dst = some u := by
  have hr := RegInv.run c hc ls
  have hr' := hr.step (.uMove src dst)
  have hne : dst ≠ src := fun e => by rw [← e, ((fresh_iff _ _).mp hfresh).1] at hu; cases hu
  have hstep : ∀ x, (((NS.init c).run ls).step (.uMove src dst)).n.udp? x
      = if x = src then some u.movedFrom else if x = dst then some u else ((NS.init c).run ls).n.udp? x := by
    intro x
    rw [← udpMove_udp? _ src dst x u hu]
    simp [NS.step, hfresh, hu]
  have hsrc := hstep src; rw [if_pos rfl] at hsrc
  have hdst := hstep dst; rw [if_neg hne, if_pos rfl] at hdst
  refine ⟨fun ep hm => ?_, (hr'.udp.no_entry fun ep he => ?_).1, ⟨_, hsrc, rfl, rfl⟩, hdst⟩
  · obtain ⟨u0, hu0, ho, hb, hd⟩ := hr.udp_entry hm
    rw [hu] at hu0; cases hu0
    exact hr'.udp.complete dst ep (by simp [NetSt.ub, hdst, ho, hb]) hd (by simp)
  · obtain ⟨u', hu', ho, _⟩ := ub_eq_some he
    rw [hsrc] at hu'; cases hu'; cases ho

/-- **Move (TCP).** As `C11_move_transfers_udp`; an accepted socket (no entry of its own) stays one. -/
theorem C11_move_transfers_tcp (c : NetCfg) (hc : c.WF) (ls : List NLbl) (src dst : String) (t : TcpSock)
    (hfresh : ((NS.init c).run ls).n.fresh dst = true) (ht : ((NS.init c).run ls).n.tcp? src = some t) :
    (∀ ep, (ep, src) ∈ ((NS.init c).run ls).n.reg.tcp →
        (ep, dst) ∈ (((NS.init c).run ls).step (.tMove src dst)).n.reg.tcp)
    ∧ (∀ ep, (ep, src) ∉ (((NS.init c).run ls).step (.tMove src dst)).n.reg.tcp)
    ∧ (∃ t', (((NS.init c).run ls).step (.tMove src dst)).n.tcp? src = some t' ∧ t'.isOpen = false ∧ t'.bound = {})
    ∧ (((NS.init c).run ls).step (.tMove src dst)).n.tcp? dst = some t
    ∧ (src ∈ ((NS.init c).run ls).attached → dst ∈ (((NS.init c).run ls).step (.tMove src dst)).attached) := by
  have hr := RegInv.run c hc ls
  have hr' := hr.step (.tMove src dst)
  have hdn := ((fresh_iff _ _).mp hfresh).2
  have hne : dst ≠ src := fun e => by rw [← e, hdn] at ht; cases ht
  have hstep : ∀ x, (((NS.init c).run ls).step (.tMove src dst)).n.tcp? x
      = if x = src then some t.movedFrom else if x = dst then some t else ((NS.init c).run ls).n.tcp? x := by
    intro x
    rw [← tcpMove_tcp? _ src dst x t ht]
    simp [NS.step, hfresh, ht]
  have hatt : (((NS.init c).run ls).step (.tMove src dst)).attached
      = ((NS.init c).run ls).attached.map (fun x => if x = src then dst else x) := by
    simp [NS.step, hfresh, ht]
  have hsrc := hstep src; rw [if_pos rfl] at hsrc
  have hdst := hstep dst; rw [if_neg hne, if_pos rfl] at hdst
  refine ⟨fun ep hm => ?_, (hr'.tcp.no_entry fun ep he => ?_).1, ⟨_, hsrc, rfl, rfl⟩, hdst,
    fun hm => hatt ▸ List.mem_map.mpr ⟨src, hm, if_pos rfl⟩⟩
  · obtain ⟨t0, ht0, ho, hb, hd⟩ := hr.tcp_entry hm
    rw [ht] at ht0; cases ht0
    refine hr'.tcp.complete dst ep (by simp [NetSt.tb, hdst, ho, hb]) hd fun hc' => ?_
    rw [hatt] at hc'
    obtain ⟨y, hy, hyd⟩ := List.mem_map.mp hc'
    by_cases hys : y = src
    · subst hys; exact hr.tcp.att_none y hy ep hm
    · rw [if_neg hys] at hyd; subst hyd
      obtain ⟨e', he', _⟩ := hr.tcp.att_bound y hy
      simp [NetSt.tb, hdn] at he'
  · obtain ⟨t'', ht'', ho, _⟩ := tb_eq_some he
    rw [hsrc] at ht''; cases ht''
    cases ho

/-- `unbind_socket` erases only the caller's own entry -/
theorem C11_unbind_keeps_others (tbl : List (Ep × String)) (name other : String) (ep ep' : Ep)
    (h : (ep', other) ∈ tbl) (hne : other ≠ name) : (ep', other) ∈ simUnbind tbl name ep := by
  rw [mem_simUnbind]; exact ⟨h, fun hc => hne hc.2⟩

/-- **Accepted close.** Closing (or destroying, or re-opening) any TCP object `name` leaves
    every entry that belongs to ANOTHER name in place — in particular the acceptor's entry for
    the endpoint an accepted socket shares with it. -/
theorem C11_accepted_close_keeps_acceptor (s : NS) (name other : String) (ep : Ep)
    (h : (ep, other) ∈ s.n.reg.tcp) (hne : other ≠ name) (now : Int) :
    (ep, other) ∈ (s.step (.tClose now name)).n.reg.tcp
    ∧ (ep, other) ∈ (s.step (.tDestroy now name)).n.reg.tcp
    ∧ (∀ v4, (ep, other) ∈ (s.step (.tOpen now name v4)).n.reg.tcp) := by
  have key : ∀ l, l.closesT name → (ep, other) ∈ (s.step l).n.reg.tcp := fun l hl =>
    NS.step_closes_tblT s name l hl ▸ RV.mem_close_tbl (r := s.n.rvT s.attached) h hne
  exact ⟨key _ (.inl ⟨now, rfl⟩), key _ (.inr (.inl ⟨now, rfl⟩)), fun v4 => key _ (.inr (.inr (.inr ⟨now, v4, rfl⟩)))⟩

/-- `C11_accepted_close_keeps_acceptor` for accepted sockets over all histories: the socket `name`
    carries endpoint `ep` through an accept, `acc` holds the entry for `ep`; after `name.close()` it
    still does. -/
theorem C11_accepted_close (c : NetCfg) (hc : c.WF) (ls : List NLbl) (name acc : String) (ep : Ep)
    (ha : name ∈ ((NS.init c).run ls).attached) (h : (ep, acc) ∈ ((NS.init c).run ls).n.reg.tcp) (now : Int) :
    (ep, acc) ∈ (((NS.init c).run ls).step (.tClose now name)).n.reg.tcp := by
  have hne : acc ≠ name := by
    intro hc'; subst hc'
    exact (RegInv.run c hc ls).tcp.att_none acc ha ep h
  exact (C11_accepted_close_keeps_acceptor _ name acc ep h hne now).1


/-! ## connects and datagrams never reach a socket that no longer holds the binding -/

/-- no entry for the destination at this instant → the datagram has no route (it is dropped) -/
theorem C11_no_stale_delivery_udp_unbound (n : NetSt) (src dst : Ep)
    (h : ∀ nm, (dst, nm) ∉ n.reg.udp) : n.udpRoute src dst = none := by
  unfold NetSt.udpRoute
  rw [(lookup_none_iff _ _).mpr h]

/-- an entry exists → the route ends in the CURRENT forwarder of the socket that holds the
    entry now: that socket is open, bound to exactly `dst`, and the forwarder reaches it -/
theorem C11_no_stale_delivery_udp (c : NetCfg) (hc : c.WF) (ls : List NLbl) (src dst : Ep) (hops : List String)
    (h : ((NS.init c).run ls).n.udpRoute src dst = some hops) :
    ∃ tgt t f, (dst, tgt) ∈ ((NS.init c).run ls).n.reg.udp ∧ ((NS.init c).run ls).n.udp? tgt = some t
      ∧ t.isOpen = true ∧ t.bound = dst ∧ t.fwd = some f ∧ ((NS.init c).run ls).n.fwdTarget f = some tgt
      ∧ hops = c.outRoute src.addr ++ c.netRoute src.addr dst.addr ++ c.inRoute dst.addr ++ [fwdHop f] := by
  cases hl : ((NS.init c).run ls).n.reg.udp.lookup dst with
  | none => rw [(udpRoute_none_iff _ _ _).mpr (.inl hl)] at h; cases h
  | some tgt =>
    obtain ⟨t, f, ht, ho, hb, hf, hft, hr⟩ := (RegInv.run c hc ls).reg_target hl src
    rw [C11_cfg_constant] at hr
    exact ⟨tgt, t, f, mem_of_lookup hl, ht, ho, hb, hf, hft, Option.some.inj (h.symm.trans hr)⟩

/-- a connect to an endpoint without entry is refused -/
theorem C11_no_stale_delivery_tcp_unbound (n : NetSt) (name : String) (target : Ep)
    (h : ∀ nm, (target, nm) ∉ n.reg.tcp) : n.internalConnect name target = (n, [], none) :=
  internalConnect_refused n name target fun ⟨_, _, hl, _⟩ => by rw [(lookup_none_iff _ _).mpr h] at hl; cases hl

/-- a connect that is not refused sends its SYN to the object that holds the entry for
    `target` NOW: it is open, bound to exactly `target`, listening, and the SYN's route ends in
    its current forwarder -/
theorem C11_no_stale_delivery_tcp (c : NetCfg) (hc : c.WF) (ls : List NLbl) (name : String) (target : Ep)
    (cid : Nat) (h : (((NS.init c).run ls).n.internalConnect name target).2.2 = some cid) :
    ∃ s rname r f, ((NS.init c).run ls).n.tcp? name = some s
      ∧ (target, rname) ∈ ((NS.init c).run ls).n.reg.tcp ∧ ((NS.init c).run ls).n.tcp? rname = some r
      ∧ r.isOpen = true ∧ r.bound = target ∧ r.isListening = true ∧ r.fwd = some f
      ∧ ((NS.init c).run ls).n.fwdTarget f = some rname
      ∧ ∃ syn : Pkt, (((NS.init c).run ls).n.internalConnect name target).2.1 = [.forward syn] ∧ syn.ty = .syn
        ∧ syn.hops = c.outRoute s.bound.addr ++ c.netRoute s.bound.addr target.addr ++ c.inRoute target.addr ++ [fwdHop f] := by
  have hr := RegInv.run c hc ls
  have hcfg := C11_cfg_constant c ls
  rcases internalConnect_table ((NS.init c).run ls).n name target with e | ⟨s, rname, r, hs, hl, hrn', hli, e⟩
  · rw [e] at h; cases h
  · have hm := mem_of_lookup hl
    obtain ⟨r', hrn, ho, hb, _⟩ := C11_inv_tcp_sound c hc ls target rname hm
    cases hrn'.symm.trans hrn
    cases hf : r.fwd with
    | none =>
      have := hr.fwd.openT rname r.isOpen r.fwd (by simp [NetSt.tf, hrn])
      rw [hf, ho] at this; simp at this
    | some f =>
      have hft := hr.fwd.ftc rname r.isOpen f (by simp [NetSt.tf, hrn, hf])
      refine ⟨s, rname, r, f, hs, hm, hrn, ho, hb, hli, hf, hft, _, by rw [e], rfl, ?_⟩
      simp [dialSyn, dialChan, NetSt.incomingRoute, hf, hcfg, hb, List.append_assoc]

/-- a detached forwarder swallows whatever arrives: nothing changes -/
theorem C11_detached_swallows (s : NS) (f : Nat) (p : Pkt) (h : s.n.fwdTarget f = none) :
    (s.step (.deliver f p)).n = s.n ∧ (s.step (.deliver f p)).acc = s.acc ∧ (s.step (.deliver f p)).out = s.out := by
  rw [NS.step_deliver_none s f p h]; exact ⟨rfl, rfl, rfl⟩

/-- `close` / the destructor / `open` detach the forwarder the socket held (datagrams and SYNs
    in flight towards it vanish) -/
theorem C11_close_detaches (s : NS) (name : String) (u : UdpSock) (f : Nat)
    (hu : s.n.udp? name = some u) (hf : u.fwd = some f) (hr : RegInv s) :
    (s.step (.uClose name)).n.fwdTarget f = none ∧ (s.step (.uDestroy name)).n.fwdTarget f = none
    ∧ ∀ v4, (s.step (.uOpen name v4)).n.fwdTarget f = none :=
  ⟨(close_like_detaches hr hu hf _ (.inl rfl)).1, (close_like_detaches hr hu hf _ (.inr (.inl rfl))).1,
   fun v4 => (close_like_detaches hr hu hf _ (.inr (.inr ⟨v4, rfl⟩))).1⟩

theorem C11_close_detaches_tcp (s : NS) (name : String) (t : TcpSock) (f : Nat) (now : Int)
    (ht : s.n.tcp? name = some t) (hf : t.fwd = some f) :
    (s.step (.tClose now name)).n.fwdTarget f = none ∧ (s.step (.tDestroy now name)).n.fwdTarget f = none
    ∧ (s.step (.aClose now name)).n.fwdTarget f = none := by
  have key : ∀ {n' : NetSt} {a : List String} {r' : RV}, n'.rvT a = r' →
      r'.ft = ((s.n.rvT s.attached).close name).ft → n'.fwdTarget f = none := by
    intro n' a r' e1 e2
    rw [show n'.fwdTarget = _ from (congrArg RV.ft e1).trans e2]
    show setFo _ ((s.n.tv name).bind (·.2.2)) none f = none
    rw [setFo_apply, tv_some_of_tcp? ht]; exact if_pos hf
  exact ⟨key (tcpClose_rv s.n now name _).1 rfl, key (tcpDestroy_rv s.n now name _).1 rfl,
    key (accClose_rv s.n now name _).1 rfl⟩


namespace C11Ex

/-! ## non-vacuity: a concrete history and every row of the table on it -/

def cfg : NetCfg := { nodes := [("n0", ["10.0.0.1", "10.0.0.2"]), ("n1", ["10.0.1.1"])] }

theorem cfg_wf : cfg.WF := NetCfg.wf_of_nodes (by decide)

def ep5000 : Ep := { addr := "10.0.0.1", port := 5000 }

/-- two UDP sockets and an acceptor on the two-address node `n0`, all open, nothing bound -/
def pre : List NLbl :=
  [.uNew "u0" "n0", .uNew "u1" "n0", .uOpen "u0" true, .uOpen "u1" true, .tNew "a0" "n0" true, .tOpen 0 "a0" true]

def s0 : NS := (NS.init cfg).run pre
def s1 : NS := { s0 with n := s0.n.bindOk "u0" ep5000 }
def hist : List NLbl := pre ++ [.uBind "u0" ep5000]

def u1 : UdpSock := { node := "n0", isOpen := true, fwd := some 1 }
def a0 : TcpSock := { node := "n0", isOpen := true, fwd := some 2, acc := some {} }

/-- both addresses of `n0` are v4 and — not a wildcard, the node's own — resolve to themselves whatever
    the port (third row of `C11_error_table_resolve`) -/
theorem own (a : String) (ha : a ∈ ["10.0.0.1", "10.0.0.2"]) (p : Nat) :
    ({ addr := a, port := p } : Ep).isV4 = true
    ∧ ioResolve ["10.0.0.1", "10.0.0.2"] { addr := a, port := p } = .ok { addr := a, port := p } := by
  have h : ∀ a ∈ ["10.0.0.1", "10.0.0.2"], addrIsV4 a = true ∧ a ≠ "0.0.0.0" ∧ a ≠ "::" := by decide +kernel
  exact ⟨(h a ha).1, (C11_error_table_resolve _ _).2.2.1 (h a ha).2.1 (h a ha).2.2 ha⟩

theorem s1_eq : (NS.init cfg).run hist = s1 := by
  unfold hist
  rw [NS.run_append]
  show ({ s0 with n := (s0.n.udpBind "u0" ep5000).1 } : NS) = s1
  rw [udpBind_explicit s0.n "u0" ep5000 { node := "n0", isOpen := true, fwd := some 0 } rfl rfl
      (own _ (.head _) 5000).1 rfl (own _ (.head _) 5000).2 (by decide) (by decide +kernel)]
  rfl

/-- what the rows below read off `s1` -/
structure S1 : Prop where
  udp  : s1.n.reg.udp = [(ep5000, "u0")]
  tcp  : s1.n.reg.tcp = []
  port : s1.n.reg.nextPort = 2000
  ips  : s1.n.cfg.ipsOf "n0" = ["10.0.0.1", "10.0.0.2"]
  sock_u0 : s1.n.udp? "u0" = some { node := "n0", isOpen := true, fwd := some 0, bound := ep5000 }
  sock_u1 : s1.n.udp? "u1" = some u1
  sock_a0 : s1.n.tcp? "a0" = some a0
  sock_u1_closed : (s1.step (.uClose "u0")).n.udp? "u1" = some u1

/-- evaluated in one go: the four decidable facts by the kernel, the sockets (no `DecidableEq`) by the
    elaborator, which runs `pre` once for all of them -/
theorem s1_is : S1 := by
  have h : s1.n.reg.udp = [(ep5000, "u0")] ∧ s1.n.reg.tcp = [] ∧ s1.n.reg.nextPort = 2000
      ∧ s1.n.cfg.ipsOf "n0" = ["10.0.0.1", "10.0.0.2"] := by decide +kernel
  exact ⟨h.1, h.2.1, h.2.2.1, h.2.2.2, rfl, rfl, rfl, rfl⟩

example : s1.n.reg.udp = [(ep5000, "u0")] ∧ s1.n.reg.tcp = [] ∧ s1.n.udp? "u1" = some u1 ∧ s1.n.tcp? "a0" = some a0 :=
  ⟨s1_is.udp, s1_is.tcp, s1_is.sock_u1, s1_is.sock_a0⟩

theorem u1Pre (ep ep1 : Ep) (hv : ep.isV4 = true) (hr : ioResolve ["10.0.0.1", "10.0.0.2"] ep = .ok ep1) :
    s1.n.udpBindPre "u1" ep u1 ep1 := ⟨s1_is.sock_u1, rfl, hv, rfl, s1_is.ips ▸ hr⟩

/-- `u1` may ask for any port on either address of its node -/
theorem u1Own (a : String) (ha : a ∈ ["10.0.0.1", "10.0.0.2"]) (p : Nat) :
    s1.n.udpBindPre "u1" { addr := a, port := p } u1 { addr := a, port := p } :=
  u1Pre _ _ (own a ha p).1 (own a ha p).2

/-- row "taken": a second socket asking for 10.0.0.1:5000 gets address_in_use, nothing changes -/
example : s1.n.udpBind "u1" ep5000 = (s1.n, .inUse) :=
  C11_error_table_udp_in_use s1.n "u1" ep5000 ep5000 u1 (u1Own _ (.head _) 5000) (by decide)
    (by rw [s1_is.udp]; decide +kernel)

/-- row "privileged": port 1023 → access_denied; port 1024 is fine -/
example : s1.n.udpBind "u1" { addr := "10.0.0.1", port := 1023 } = (s1.n, .denied) :=
  C11_error_table_udp_denied s1.n "u1" _ { addr := "10.0.0.1", port := 1023 } u1 (u1Own _ (.head _) 1023) (by decide)
example : (s1.n.udpBind "u1" { addr := "10.0.0.1", port := 1024 }).2 = .ok := by
  rw [C11_error_table_udp_ok s1.n "u1" _ { addr := "10.0.0.1", port := 1024 } u1 (u1Own _ (.head _) 1024) (by decide)
    (by rw [s1_is.udp]; decide +kernel)]

/-- row "foreign address" -/
example : s1.n.udpBind "u1" { addr := "10.0.1.1", port := 5000 } = (s1.n, .notAvail) :=
  C11_error_table_udp_unresolved s1.n "u1" _ u1 .notAvail s1_is.sock_u1 rfl (by decide +kernel) rfl
    (s1_is.ips ▸ (C11_error_table_resolve _ _).2.2.2 (by decide +kernel) (by decide +kernel) (by decide +kernel))

/-- row "wrong family" -/
example : s1.n.udpBind "u1" { addr := "2001::1", port := 5000 } = (s1.n, .afNoSupport) :=
  C11_error_table_udp_family s1.n "u1" _ u1 s1_is.sock_u1 rfl (by decide +kernel)

/-- row "already bound" -/
example : s1.n.udpBind "u0" { addr := "10.0.0.2", port := 6000 } = (s1.n, .invalid) :=
  C11_error_table_udp_bound s1.n "u0" _ _ s1_is.sock_u0 rfl (own _ (.tail _ (.head _)) 6000).1 (by decide +kernel)

/-- the same port on the node's second address is a different endpoint -/
example : (s1.n.udpBind "u1" { addr := "10.0.0.2", port := 5000 }).2 = .ok := by
  rw [C11_error_table_udp_ok s1.n "u1" _ { addr := "10.0.0.2", port := 5000 } u1 (u1Own _ (.tail _ (.head _)) 5000)
    (by decide) (by rw [s1_is.udp]; decide +kernel)]

/-- row "ephemeral": port 0 yields 10.0.0.1:2000 (the counter's value), counter → 2001 -/
example : ∃ n', s1.n.udpBind "u1" { addr := "10.0.0.1", port := 0 } = (n', .ok)
    ∧ n'.reg.udp = [(ep5000, "u0"), ({ addr := "10.0.0.1", port := 2000 }, "u1")] ∧ n'.reg.nextPort = 2001 := by
  rcases C11_error_table_udp_ephemeral s1.n "u1" _ { addr := "10.0.0.1", port := 0 } u1 (u1Own _ (.head _) 0) rfl
    with ⟨h, _⟩ | ⟨q, hq, e⟩
  · exact absurd h (by rw [s1_is.udp, s1_is.port]; decide +kernel)
  · have : q = 2000 := by
      rw [s1_is.udp, s1_is.port, show probePort [(ep5000, "u0")] "10.0.0.1" 65536 2000 = some 2000 by decide +kernel] at hq
      exact (Option.some.inj hq).symm
    subst this
    exact ⟨_, e, by rw [s1_is.udp]; rfl, by rw [s1_is.port]; rfl⟩

theorem a0Pre : s1.n.tcpBindPre "a0" ep5000 a0 ep5000 :=
  ⟨s1_is.sock_a0, rfl, (own _ (.head _) 5000).1, rfl, s1_is.ips ▸ (own _ (.head _) 5000).2⟩

/-- TCP and UDP are independent: the acceptor binds the endpoint `u0` holds -/
example : (s1.n.tcpBind "a0" ep5000).2 = .ok := by
  rw [C11_error_table_tcp_ok s1.n "a0" ep5000 ep5000 a0 a0Pre (by decide) (by rw [s1_is.tcp]; rfl)]

/-- release and re-bind, instantiated: `u0` closes, `u1` takes 10.0.0.1:5000 -/
example : ((((NS.init cfg).run hist).step (.uClose "u0")).n.udpBind "u1" ep5000).2 = .ok :=
  C11_release_rebind_udp cfg cfg_wf hist "u0" "u1" ep5000 (.uClose "u0") (Or.inl rfl)
    (by rw [s1_eq, s1_is.udp]; exact .head _) u1
    (by rw [s1_eq]; exact s1_is.sock_u1_closed) rfl
    (own _ (.head _) 5000).1 rfl (.head _)

/-- move, instantiated: the entry of `u0` follows it into `u9` -/
example : (ep5000, "u9") ∈ (((NS.init cfg).run hist).step (.uMove "u0" "u9")).n.reg.udp :=
  (C11_move_transfers_udp cfg cfg_wf hist "u0" "u9" _ (by rw [s1_eq]; decide +kernel) (by rw [s1_eq]; exact s1_is.sock_u0)).1
    ep5000 (by rw [s1_eq, s1_is.udp]; exact .head _)

example := C11_exclusive cfg cfg_wf hist
example : s1.n.udpRoute ep5000 { addr := "10.0.0.1", port := 7 } = none :=
  C11_no_stale_delivery_udp_unbound s1.n ep5000 { addr := "10.0.0.1", port := 7 } (fun nm hm => by
    rw [s1_is.udp] at hm; simp [ep5000] at hm)

/-- row "wildcard": 0.0.0.0 resolves to the FIRST v4 address of the node -/
example : ioResolve ["10.0.0.1", "10.0.0.2"] { addr := "0.0.0.0", port := 6000 } = .ok { addr := "10.0.0.1", port := 6000 } := by
  rw [(C11_error_table_resolve _ _).1 rfl]
  have : addrIsV4 "10.0.0.1" = true := by decide +kernel
  simp [List.find?, this]

/-! an accepted socket: `a0` binds 10.0.0.1:5000 and listens, `s5` is attached to a connection
    of `a0` (no entry of its own), then closes: `a0` keeps its entry -/
def s2 : NS := { s1 with n := ({ s1.n with reg := { s1.n.reg with tcp := [(ep5000, "a0")] } }).setTcp "a0" { a0 with bound := ep5000 } }
def hist2 : List NLbl := hist ++ [.tBind "a0" ep5000]
def post2 : List NLbl := [.aListen "a0" (-1), .tNew "s5" "n0" false, .tPatch "a0" { a0 with bound := ep5000, acc := some { queueLimit := 20 } } [{}],
  .tAttach 0 "s5" "a0" 0]

theorem s2_eq : (NS.init cfg).run hist2 = s2 := by
  unfold hist2
  rw [NS.run_append, s1_eq]
  show ({ s1 with n := (s1.n.tcpBind "a0" ep5000).1 } : NS) = s2
  rw [C11_error_table_tcp_ok s1.n "a0" ep5000 ep5000 a0 a0Pre (by decide) (by rw [s1_is.tcp]; rfl)]
  rfl

/-- `s2.run post2`, read once -/
theorem s2_post : (s2.run post2).attached = ["s5"] ∧ (s2.run post2).n.reg.tcp = [(ep5000, "a0")]
    ∧ ((s2.run post2).n.tcp? "s5").map (fun t => (t.isOpen, t.bound)) = some (true, ep5000) := by decide +kernel

example : (s2.run post2).attached = ["s5"] ∧ (s2.run post2).n.reg.tcp = [(ep5000, "a0")]
    ∧ ((s2.run post2).n.tcp? "s5").map (fun t => (t.isOpen, t.bound)) = some (true, ep5000) := s2_post

example : (ep5000, "a0") ∈ (((NS.init cfg).run (hist2 ++ post2)).step (.tClose 7 "s5")).n.reg.tcp :=
  C11_accepted_close cfg cfg_wf (hist2 ++ post2) "s5" "a0" ep5000
    (by rw [NS.run_append, s2_eq, s2_post.1]; exact .head _) (by rw [NS.run_append, s2_eq, s2_post.2.1]; exact .head _) 7

end C11Ex

end SimVerif
