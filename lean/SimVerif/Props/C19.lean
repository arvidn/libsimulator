/-
  C19 — Packet capture is a well-formed, complete, time-ordered record of sends.

  Encoder model: `SimVerif.Pcap` (byte-exact `pcap.cpp` + the `bytes_sent` counter of
  `tcp::socket::send_packet`). Reader: `SimVerif.PcapDecode` (independent; libpcap-style).
  The theorems below say: for EVERY list of sends (within the stated size bounds) the independent
  reader decodes the model's output to exactly the expected records.

  `zeroInit` = the repaired tree (channel::bytes_sent zero-initialised);
  an arbitrary `init : Ctrs` = the pinned tree bb9bed4 (bytes_sent uninitialised).
-/
import SimVerif.PcapDecode
import SimVerif.Lemmas.PcapSites
import SimVerif.Lemmas.HandlersTcpFns
import SimVerif.Lemmas.NetUdp
import SimVerif.TcpEx

namespace SimVerif.Pcap
open SimVerif.PcapDecode

theorem b_toNat (n : Nat) : (b n).toNat = n % 256 := by simp [b]

theorem u16le_le16 (n : Nat) : u16le (b n) (b (n / 256)) = n % 65536 := by
  simp only [u16le, b_toNat]; exact (Nat.mod_mul (a := 256) (b := 256)).symm

theorem u16be_be16 (n : Nat) : u16be (b (n / 256)) (b n) = n % 65536 := by
  rw [← u16le_le16, u16be, u16le, Nat.add_comm]

theorem u32le_le32 (n : Nat) :
    u32le (b n) (b (n / 256)) (b (n / 65536)) (b (n / 16777216)) = n % 4294967296 := by
  have h : ∀ x y z w : UInt8, u32le x y z w = u16le x y + 65536 * u16le z w := by
    intro x y z w; simp only [u32le, u16le]; omega
  rw [h, show n / 16777216 = n / 65536 / 256 from (Nat.div_div_eq_div_mul n 65536 256).symm,
    u16le_le16, u16le_le16]
  exact (Nat.mod_mul (a := 65536) (b := 65536)).symm

theorem u32be_be32 (n : Nat) :
    u32be (b (n / 16777216)) (b (n / 65536)) (b (n / 256)) (b n) = n % 4294967296 := by
  rw [← u32le_le32]; simp only [u32be, u32le]; omega

theorem ipHdr_length (size proto src dst : Nat) : (ipHdr size proto src dst).length = 20 := by
  simp only [ipHdr, be16, be32, le16, List.length_append, List.length_cons, List.length_nil]

theorem pktTcp_length (sip dip sp dp seq : Nat) (pl : List UInt8) :
    (pktTcp sip dip sp dp seq pl).length = 40 + pl.length := by
  simp only [pktTcp, tcpHdr, be16, be32, le16, le32, ipHdr_length, List.length_append, List.length_cons,
    List.length_nil]

theorem pktUdp_length (sip dip sp dp : Nat) (pl : List UInt8) :
    (pktUdp sip dip sp dp pl).length = 28 + pl.length := by
  simp only [pktUdp, udpHdr, be16, le16, ipHdr_length, List.length_append, List.length_cons, List.length_nil]

theorem parsePkt_ipHdr (size proto src dst : Nat) (rest : List UInt8) :
    parsePkt (ipHdr size proto src dst ++ rest) =
      parseTransport 0x45 (size % 65536) 200 (proto % 256) (src % 4294967296) (dst % 4294967296) rest := by
  simp [ipHdr, be16, be32, le16, parsePkt, u32be_be32, u16be_be16, b_toNat]

theorem parsePkt_tcp (sip dip sp dp seq : Nat) (pl : List UInt8) :
    parsePkt (pktTcp sip dip sp dp seq pl) =
      some { verIhl := 0x45, ipLen := (40 + pl.length) % 65536, ttl := 200, proto := 6,
             src := sip % 4294967296, dst := dip % 4294967296,
             sport := sp % 65536, dport := dp % 65536, seq := seq % 4294967296,
             udpLen := 0, payload := pl } := by
  rw [pktTcp, List.append_assoc, parsePkt_ipHdr]
  simp [parseTransport, tcpHdr, be16, be32, le16, le32, u32be_be32, u16be_be16, b_toNat]

theorem parsePkt_udp (sip dip sp dp : Nat) (pl : List UInt8) :
    parsePkt (pktUdp sip dip sp dp pl) =
      some { verIhl := 0x45, ipLen := (28 + pl.length) % 65536, ttl := 200, proto := 17,
             src := sip % 4294967296, dst := dip % 4294967296,
             sport := sp % 65536, dport := dp % 65536, seq := 0,
             udpLen := (8 + pl.length) % 65536, payload := pl } := by
  rw [pktUdp, List.append_assoc, parsePkt_ipHdr]
  simp [parseTransport, udpHdr, be16, le16, u16be_be16]

theorem decodeRec_recHdr (snap t size : Nat) (pkt rest : List UInt8) (p : PcapDecode.Pkt)
    (hlen : pkt.length = size) (hsz : size < 4294967296) (hsnap : size ≤ snap)
    (hp : parsePkt pkt = some p) :
    decodeRec snap (recHdr t size ++ (pkt ++ rest)) =
      some ({ tsSec := tsSec t, tsUsec := tsUsec t, inclLen := size, origLen := size, pkt := p },
            rest) := by
  have hts : tsSec t % 4294967296 = tsSec t := Nat.mod_eq_of_lt (by unfold tsSec; omega)
  have htu : tsUsec t % 4294967296 = tsUsec t := Nat.mod_eq_of_lt (by unfold tsUsec; omega)
  have hs : size % 4294967296 = size := Nat.mod_eq_of_lt hsz
  simp only [recHdr, le32, List.cons_append, List.nil_append, decodeRec, u32le_le32, hts, htu, hs]
  rw [List.take_left' hlen, List.drop_left' hlen, hp]
  simp [hlen, hsnap]

theorem decodeRec_recHdr_oversize (snap t size : Nat) (tail : List UInt8)
    (hsz : size < 4294967296) (hsnap : snap < size) :
    decodeRec snap (recHdr t size ++ tail) = none := by
  have hs : size % 4294967296 = size := Nat.mod_eq_of_lt hsz
  simp only [recHdr, le32, List.cons_append, List.nil_append, decodeRec, u32le_le32, hs]
  have : ¬ size ≤ snap := by omega
  simp [this]

/-- Payload bytes transmitted earlier (in `pre`) by TCP sends of direction `key`. -/
def priorBytes (key : Nat × Nat) : List Send → Nat
  | [] => 0
  | s :: rest =>
    (if s.kind = .tcp ∧ s.key = key then s.payload.length else 0) + priorBytes key rest

/-- The record the property demands for send `s` whose TCP sequence number should be `seq`. -/
def expRec (seq : Nat) (s : Send) : Rec :=
  match s.kind with
  | .tcp =>
    { tsSec := (441794304 + s.t / 1000000000) % 4294967296
      tsUsec := (s.t % 1000000000) / 1000
      inclLen := 40 + s.payload.length
      origLen := 40 + s.payload.length
      pkt := { verIhl := 0x45, ipLen := 40 + s.payload.length, ttl := 200, proto := 6,
               src := s.srcIp, dst := s.dstIp, sport := s.srcPort, dport := s.dstPort,
               seq := seq, udpLen := 0, payload := s.payload } }
  | .udp =>
    { tsSec := (441794304 + s.t / 1000000000) % 4294967296
      tsUsec := (s.t % 1000000000) / 1000
      inclLen := 28 + s.payload.length
      origLen := 28 + s.payload.length
      pkt := { verIhl := 0x45, ipLen := 28 + s.payload.length, ttl := 200, proto := 17,
               src := s.srcIp, dst := s.dstIp, sport := s.srcPort, dport := s.dstPort,
               seq := 0, udpLen := 8 + s.payload.length, payload := s.payload } }

/-- Expected records for `sends` given that `pre` was sent before them: the sequence number of a
    TCP record is the initial counter of its direction plus the payload bytes previously
    transmitted in that direction, modulo 2^32. -/
def expectedFrom (init : Ctrs) (pre : List Send) : List Send → List Rec
  | [] => []
  | s :: rest =>
    expRec ((init s.key + priorBytes s.key pre) % 4294967296) s
      :: expectedFrom init (pre ++ [s]) rest

def expected (init : Ctrs) (sends : List Send) : List Rec := expectedFrom init [] sends

/-- Hypotheses on one send: addresses/ports in range and the packet fits an IPv4 total-length
    field. (No bound on the send time is needed: see `tsUsec_spec`.) -/
structure SendOk (s : Send) : Prop where
  srcIp : s.srcIp < 4294967296
  dstIp : s.dstIp < 4294967296
  srcPort : s.srcPort < 65536
  dstPort : s.dstPort < 65536
  tcpSize : s.kind = .tcp → s.payload.length + 40 ≤ 65535
  udpSize : s.kind = .udp → s.payload.length + 28 ≤ 65535

theorem tsSec_spec (t : Nat) : tsSec t = (441794304 + t / 1000000000) % 4294967296 := by
  unfold tsSec secs32 epoch; omega

/-- The `uint32` truncation of the seconds before they are subtracted is harmless: 2^32 s is a
    multiple of 2^32 µs, so the final `uint32` cast of the microseconds undoes it. -/
theorem tsUsec_spec (t : Nat) : tsUsec t = (t % 1000000000) / 1000 := by
  unfold tsUsec secs32; omega

theorem decodeRec_emit (c : Ctrs) (s : Send) (h : SendOk s) (rest : List UInt8) :
    decodeRec 65535 ((emit c s).1 ++ rest) = some (expRec (c s.key % 4294967296) s, rest) := by
  have m32 : ∀ {x}, x < 4294967296 → x % 4294967296 = x := Nat.mod_eq_of_lt
  have m16 : ∀ {x}, x < 65536 → x % 65536 = x := Nat.mod_eq_of_lt
  cases hk : s.kind with
  | tcp =>
    have hsz := h.tcpSize hk
    simp only [emit, hk, nextSeq, recordTcp, List.append_assoc]
    rw [decodeRec_recHdr 65535 s.t (40 + s.payload.length) _ rest _ (pktTcp_length ..)
      (by omega) (by omega) (parsePkt_tcp ..)]
    simp only [expRec, hk, tsSec_spec, tsUsec_spec, m32 h.srcIp, m32 h.dstIp, m16 h.srcPort, m16 h.dstPort,
      m16 (show 40 + s.payload.length < 65536 by omega)]
  | udp =>
    have hsz := h.udpSize hk
    simp only [emit, hk, recordUdp, List.append_assoc]
    rw [decodeRec_recHdr 65535 s.t (28 + s.payload.length) _ rest _ (pktUdp_length ..)
      (by omega) (by omega) (parsePkt_udp ..)]
    simp only [expRec, hk, tsSec_spec, tsUsec_spec, m32 h.srcIp, m32 h.dstIp, m16 h.srcPort, m16 h.dstPort,
      m16 (show 28 + s.payload.length < 65536 by omega), m16 (show 8 + s.payload.length < 65536 by omega)]

theorem emit_ne_nil (c : Ctrs) (s : Send) : (emit c s).1 ≠ [] := by
  cases hk : s.kind <;> simp [emit, hk, recordTcp, recordUdp, recHdr, le32]

theorem decodeRecs_step (snap fuel : Nat) (bs rest : List UInt8) (r : Rec) (rs : List Rec)
    (hne : bs ≠ []) (h1 : decodeRec snap bs = some (r, rest))
    (h2 : decodeRecs snap fuel rest = some rs) :
    decodeRecs snap (fuel + 1) bs = some (r :: rs) := by
  cases bs with
  | nil => exact absurd rfl hne
  | cons x xs => simp [decodeRecs, h1, h2]

theorem priorBytes_append (key : Nat × Nat) (pre : List Send) (s : Send) :
    priorBytes key (pre ++ [s]) =
      priorBytes key pre + (if s.kind = .tcp ∧ s.key = key then s.payload.length else 0) := by
  induction pre with
  | nil => simp [priorBytes]
  | cons a l ih => simp only [List.cons_append, priorBytes, ih]; omega

theorem emit_ctr (c : Ctrs) (s : Send) (k : Nat × Nat) :
    (emit c s).2 k = if s.kind = .tcp ∧ s.key = k then (c k + s.payload.length) % 4294967296 else c k := by
  cases hk : s.kind with
  | udp => simp [emit, hk]
  | tcp =>
    simp only [emit, hk, nextSeq, Ctrs.set, true_and, eq_comm (a := s.key)]
    split
    · subst k; rfl
    · rfl

/-- Counter invariant: every direction counter is congruent to its initial value plus the bytes
    transmitted so far in that direction. Preserved by `emit`. -/
theorem emit_inv (init c : Ctrs) (pre : List Send) (s : Send)
    (hinv : ∀ k, c k % 4294967296 = (init k + priorBytes k pre) % 4294967296) :
    ∀ k, (emit c s).2 k % 4294967296 = (init k + priorBytes k (pre ++ [s])) % 4294967296 := by
  intro k
  rw [priorBytes_append, emit_ctr]
  split
  · rw [Nat.mod_mod, ← Nat.mod_add_mod, hinv k, Nat.mod_add_mod, Nat.add_assoc]
  · exact hinv k

theorem decodeRecs_body (init : Ctrs) (sends : List Send) :
    ∀ (c : Ctrs) (pre : List Send) (fuel : Nat),
      (∀ s ∈ sends, SendOk s) →
      (∀ k, c k % 4294967296 = (init k + priorBytes k pre) % 4294967296) →
      sends.length ≤ fuel →
      decodeRecs 65535 fuel (captureBody c sends) = some (expectedFrom init pre sends) := by
  induction sends with
  | nil => intro c pre fuel _ _ _; cases fuel <;> simp [captureBody, expectedFrom, decodeRecs]
  | cons s rest ih =>
    intro c pre fuel hok hinv hfuel
    cases fuel with
    | zero => simp at hfuel
    | succ fuel =>
      have hs : SendOk s := hok s (List.mem_cons_self ..)
      have hrest : ∀ s' ∈ rest, SendOk s' := fun s' h => hok s' (List.mem_cons_of_mem _ h)
      simp only [captureBody, expectedFrom]
      apply decodeRecs_step
      · intro h; exact emit_ne_nil c s (List.append_eq_nil_iff.mp h).1
      · rw [decodeRec_emit c s hs, hinv s.key]
      · exact ih (emit c s).2 (pre ++ [s]) fuel hrest (emit_inv init c pre s hinv)
          (by simp at hfuel; omega)

theorem captureBody_length_ge (c : Ctrs) (sends : List Send) :
    sends.length ≤ (captureBody c sends).length := by
  induction sends generalizing c with
  | nil => simp [captureBody]
  | cons s rest ih =>
    simp only [captureBody, List.length_cons, List.length_append]
    have h1 := ih (emit c s).2
    have h2 : 0 < (emit c s).1.length := List.length_pos_iff.mpr (emit_ne_nil c s)
    omega

theorem decodeFile_capture_eq (init : Ctrs) (sends : List Send) :
    decodeFile (capture init sends) =
      decodeRecs 65535 (captureBody init sends).length (captureBody init sends) := by
  simp [capture, fileHeader, le32, le16, decodeFile, u32le, u16le, b]

/-- **C19 (well-formedness, completeness, order; round trip).** For every initial counter
    assignment and every list of sends within the size bounds, the capture file is a valid pcap
    file (raw-IP link type) that an independent reader decodes to exactly one record per send, in
    transmission order, with the expected timestamps, lengths, addresses, ports, payload and TCP
    sequence numbers. -/
theorem C19_wellformed (init : Ctrs) (sends : List Send) (hok : ∀ s ∈ sends, SendOk s) :
    decodeFile (capture init sends) = some (expected init sends) := by
  rw [decodeFile_capture_eq]
  exact decodeRecs_body init sends init [] _ hok (by simp [priorBytes])
    (captureBody_length_ge init sends)

/-! ### Corollaries about `expected` (hence, by `C19_wellformed`, about every decoded capture) -/

theorem decoded_eq {init : Ctrs} {sends : List Send} (hok : ∀ s ∈ sends, SendOk s) {recs : List Rec}
    (h : decodeFile (capture init sends) = some recs) : recs = expected init sends :=
  Option.some.inj (h.symm.trans (C19_wellformed init sends hok))

/-- `expectedFrom` in closed form: the record of the `i`-th send, numbered by what `pre` and the sends before it
    carried in its direction -/
theorem expectedFrom_eq (init : Ctrs) (pre sends : List Send) :
    expectedFrom init pre sends = sends.mapIdx fun i s =>
      expRec ((init s.key + priorBytes s.key (pre ++ sends.take i)) % 4294967296) s := by
  induction sends generalizing pre with
  | nil => rfl
  | cons s rest ih =>
    rw [expectedFrom, ih, List.mapIdx_cons]
    simp [List.append_assoc]

theorem C19_one_record_per_send (init : Ctrs) (sends : List Send) (hok : ∀ s ∈ sends, SendOk s)
    (recs : List Rec) (h : decodeFile (capture init sends) = some recs) :
    recs.length = sends.length := by
  obtain rfl := decoded_eq hok h
  rw [expected, expectedFrom_eq, List.length_mapIdx]

/-- **C19 (lengths match content).** In every decoded record the captured and original lengths
    agree, equal the IP total-length field, and equal header size plus payload length; the UDP
    length field is 8 + payload length. Only TCP (6) and UDP (17) records occur. -/
theorem C19_lengths (init : Ctrs) (sends : List Send) (hok : ∀ s ∈ sends, SendOk s)
    (recs : List Rec) (h : decodeFile (capture init sends) = some recs) :
    ∀ r ∈ recs,
      r.inclLen = r.origLen ∧ r.pkt.ipLen = r.inclLen ∧
      (r.pkt.proto = 6 → r.inclLen = 40 + r.pkt.payload.length) ∧
      (r.pkt.proto = 17 → r.inclLen = 28 + r.pkt.payload.length ∧
        r.pkt.udpLen = 8 + r.pkt.payload.length) ∧
      (r.pkt.proto = 6 ∨ r.pkt.proto = 17) := by
  obtain rfl := decoded_eq hok h
  intro r hr
  rw [expected, expectedFrom_eq] at hr
  obtain ⟨i, hi, rfl⟩ := List.mem_mapIdx.mp hr
  cases hk : sends[i].kind <;> simp [expRec, hk]

theorem expectedFrom_map_of_expRec {α : Type} (f : Rec → α) (g : Send → α)
    (hfg : ∀ q s, f (expRec q s) = g s) (init : Ctrs) (pre sends : List Send) :
    (expectedFrom init pre sends).map f = sends.map g := by
  rw [expectedFrom_eq]
  exact List.ext_getElem (by simp) fun i _ _ => by simp [hfg]

/-- **C19 (true addresses and ports, protocol).** Record by record, in order, the IP header carries
    the send's source and destination address, the transport header its source and destination
    port, and the protocol field its kind. -/
theorem C19_addresses_ports (init : Ctrs) (sends : List Send) (hok : ∀ s ∈ sends, SendOk s)
    (recs : List Rec) (h : decodeFile (capture init sends) = some recs) :
    recs.map (fun r => (r.pkt.proto, r.pkt.src, r.pkt.dst, r.pkt.sport, r.pkt.dport)) =
      sends.map (fun s => ((match s.kind with | .tcp => 6 | .udp => 17),
        s.srcIp, s.dstIp, s.srcPort, s.dstPort)) := by
  obtain rfl := decoded_eq hok h
  apply expectedFrom_map_of_expRec
  intro q s; cases hk : s.kind <;> simp [expRec, hk]

/-- **C19 (payload).** Record by record, in order, the payload bytes equal what was sent. -/
theorem C19_payload (init : Ctrs) (sends : List Send) (hok : ∀ s ∈ sends, SendOk s)
    (recs : List Rec) (h : decodeFile (capture init sends) = some recs) :
    recs.map (fun r => r.pkt.payload) = sends.map (fun s => s.payload) := by
  obtain rfl := decoded_eq hok h
  apply expectedFrom_map_of_expRec
  intro q s; cases hk : s.kind <;> simp [expRec, hk]

/-- **C19 (timestamps are the virtual send times from the fixed epoch).** -/
theorem C19_timestamps (init : Ctrs) (sends : List Send) (hok : ∀ s ∈ sends, SendOk s)
    (recs : List Rec) (h : decodeFile (capture init sends) = some recs) :
    recs.map (fun r => (r.tsSec, r.tsUsec)) =
      sends.map (fun s => ((441794304 + s.t / 1000000000) % 4294967296,
        (s.t % 1000000000) / 1000)) := by
  obtain rfl := decoded_eq hok h
  apply expectedFrom_map_of_expRec
  intro q s; cases hk : s.kind <;> simp [expRec, hk]

def tsLe (a b : Nat × Nat) : Prop := a.1 < b.1 ∨ (a.1 = b.1 ∧ a.2 ≤ b.2)

/-- **C19 (time-ordered).** If send times are non-decreasing and every send happens before the
    32-bit pcap seconds field wraps (`441794304 + t/10^9 < 2^32`, about 122 years of virtual
    time), the decoded (ts_sec, ts_usec) pairs are lexicographically non-decreasing (for every
    pair of records, hence in particular for adjacent ones). -/
theorem C19_time_monotone (init : Ctrs) (sends : List Send) (hok : ∀ s ∈ sends, SendOk s)
    (hmono : sends.Pairwise (fun a b => a.t ≤ b.t))
    (hnowrap : ∀ s ∈ sends, 441794304 + s.t / 1000000000 < 4294967296)
    (recs : List Rec) (h : decodeFile (capture init sends) = some recs) :
    (recs.map (fun r => (r.tsSec, r.tsUsec))).Pairwise tsLe := by
  rw [C19_timestamps init sends hok recs h, List.pairwise_map]
  refine hmono.imp_of_mem fun ha hb hab => ?_
  simp only [tsLe, Nat.mod_eq_of_lt (hnowrap _ ha), Nat.mod_eq_of_lt (hnowrap _ hb)]
  omega

/-- Sequence numbers for an arbitrary initial counter assignment (covers the pinned tree). -/
theorem C19_seq_general (init : Ctrs) (sends : List Send) (hok : ∀ s ∈ sends, SendOk s)
    (recs : List Rec) (h : decodeFile (capture init sends) = some recs)
    (i : Nat) (hi : i < sends.length) (htcp : sends[i].kind = .tcp) :
    ∃ hr : i < recs.length,
      recs[i].pkt.seq =
        (init sends[i].key + priorBytes sends[i].key (sends.take i)) % 4294967296 := by
  obtain rfl := decoded_eq hok h
  refine ⟨by rw [expected, expectedFrom_eq, List.length_mapIdx]; exact hi, ?_⟩
  simp [expected, expectedFrom_eq, expRec, htcp]

/-- **C19 (sequence numbers; repaired tree).** With zero-initialised counters, the sequence number
    of the i-th record, if it is TCP, equals the payload bytes previously transmitted (by earlier
    TCP sends) in the same direction of the same connection, modulo 2^32. -/
theorem C19_seq (sends : List Send) (hok : ∀ s ∈ sends, SendOk s)
    (recs : List Rec) (h : decodeFile (capture zeroInit sends) = some recs)
    (i : Nat) (hi : i < sends.length) (htcp : sends[i].kind = .tcp) :
    ∃ hr : i < recs.length,
      recs[i].pkt.seq = priorBytes sends[i].key (sends.take i) % 4294967296 := by
  obtain ⟨hr, hseq⟩ := C19_seq_general zeroInit sends hok recs h i hi htcp
  exact ⟨hr, by rw [hseq]; simp [zeroInit]⟩

theorem priorBytes_eq_zero (key : Nat × Nat) (l : List Send)
    (h : ∀ s ∈ l, ¬ (s.kind = .tcp ∧ s.key = key)) : priorBytes key l = 0 := by
  induction l with
  | nil => rfl
  | cons a l ih =>
    have ha := h a (List.mem_cons_self ..)
    simp only [priorBytes, ha, if_false, Nat.zero_add]
    exact ih (fun s hs => h s (List.mem_cons_of_mem _ hs))

/-- **C19 (sequence numbers start at zero; repaired tree).** The first TCP record of each
    direction of each connection has sequence number 0. -/
theorem C19_seq_starts_at_zero (sends : List Send) (hok : ∀ s ∈ sends, SendOk s)
    (recs : List Rec) (h : decodeFile (capture zeroInit sends) = some recs)
    (i : Nat) (hi : i < sends.length) (htcp : sends[i].kind = .tcp)
    (hfirst : ∀ s ∈ sends.take i, ¬ (s.kind = .tcp ∧ s.key = sends[i].key)) :
    ∃ hr : i < recs.length, recs[i].pkt.seq = 0 := by
  obtain ⟨hr, hseq⟩ := C19_seq sends hok recs h i hi htcp
  exact ⟨hr, by rw [hseq, priorBytes_eq_zero _ _ hfirst]⟩

/-! ### The pinned tree's defect: `channel::bytes_sent` is uninitialised -/

/-- The value ASan's malloc fill leaves in the uninitialised `bytes_sent` slots. -/
def poisonInit : Ctrs := fun _ => 0xbebebebe

def witnessSend : Send :=
  { kind := .tcp, t := 0, srcIp := 0x0a000001, dstIp := 0x0a000002, srcPort := 1000,
    dstPort := 2000, conn := 0, dir := 0, payload := [1, 2, 3] }

/-- **As-is (pinned tree).** The first sequence number of a direction is whatever the counter
    happened to contain: with a non-zero initial counter the first record's sequence number is
    not 0, so `C19_seq_starts_at_zero` fails for the pinned tree. -/
theorem C19_asis_seq_depends_on_init :
    (decodeFile (capture poisonInit [witnessSend])).map (fun rs => rs.map (fun r => r.pkt.seq))
      = some [0xbebebebe] ∧
    (decodeFile (capture zeroInit [witnessSend])).map (fun rs => rs.map (fun r => r.pkt.seq))
      = some [0] := by
  decide +kernel

/-- **Boundary (oversize datagram).** `udp::socket::send_to` accepts payloads up to 65535 bytes,
    but an IPv4 datagram with a UDP header can carry at most 65507. For larger payloads the model
    (and the code) truncates the 16-bit IP total-length and UDP length fields … -/
theorem C19_oversize_length_fields_wrap (sip dip sp dp : Nat) (pl : List UInt8)
    (h : 65507 < pl.length) (h2 : pl.length ≤ 65535) :
    ∃ p, parsePkt (pktUdp sip dip sp dp pl) = some p ∧
      p.ipLen = pl.length - 65508 ∧ p.udpLen = (8 + pl.length) % 65536 ∧
      p.ipLen ≠ 28 + p.payload.length := by
  refine ⟨_, parsePkt_udp .., ?_, ?_, ?_⟩ <;> simp only <;> omega

/-- **Boundary (oversize datagram).** The record's captured length then exceeds the file's snap
    length (65535), so the capture is not a valid pcap file: the reader rejects it. -/
theorem C19_oversize_udp_rejected (init : Ctrs) (s : Send) (rest : List Send)
    (hk : s.kind = .udp) (h : 65507 < s.payload.length) (h2 : s.payload.length ≤ 65535) :
    decodeFile (capture init (s :: rest)) = none := by
  rw [decodeFile_capture_eq]
  have hne : captureBody init (s :: rest) ≠ [] := by
    simp only [captureBody]
    intro h; exact emit_ne_nil init s (List.append_eq_nil_iff.mp h).1
  have hrec : decodeRec 65535 (captureBody init (s :: rest)) = none := by
    simp only [captureBody, emit, hk, recordUdp, List.append_assoc]
    exact decodeRec_recHdr_oversize 65535 s.t _ _ (by omega) (by omega)
  cases hb : captureBody init (s :: rest) with
  | nil => exact absurd hb hne
  | cons x xs =>
    rw [hb] at hrec
    simp [decodeRecs, hrec]

/-- **Boundary (time).** The microsecond field is always below 10^6, for every send time, even
    beyond 2^32 seconds of virtual time where the seconds field has wrapped. -/
theorem C19_usec_lt (t : Nat) : tsUsec t < 1000000 := by
  rw [tsUsec_spec]; omega

/-- **Boundary (time order).** The `hnowrap` hypothesis of `C19_time_monotone` is needed: one
    second after virtual time `2^32 - 441794304 - 1` s the 32-bit seconds field wraps to 0. -/
theorem C19_time_wraps_after_epoch_range :
    tsSec (3853172991 * 1000000000) = 4294967295 ∧ tsSec (3853172992 * 1000000000) = 0 := by
  decide +kernel

def exSends : List Send :=
  [ { kind := .tcp, t := 1500000000, srcIp := 0x0a000001, dstIp := 0x0a000002, srcPort := 1000,
      dstPort := 2000, conn := 7, dir := 0, payload := [0xde, 0xad, 0xbe] },
    { kind := .udp, t := 1500001999, srcIp := 0xc0a80001, dstIp := 0x08080808, srcPort := 53,
      dstPort := 5353, payload := [0x42] },
    { kind := .tcp, t := 2000000000, srcIp := 0x0a000002, dstIp := 0x0a000001, srcPort := 2000,
      dstPort := 1000, conn := 7, dir := 1, payload := [0x01, 0x02] },
    { kind := .tcp, t := 2000000000, srcIp := 0x0a000001, dstIp := 0x0a000002, srcPort := 1000,
      dstPort := 2000, conn := 7, dir := 0, payload := [] } ]

set_option maxRecDepth 100000 in
example :
    decodeFile (capture zeroInit exSends) = some
      [ { tsSec := 441794305, tsUsec := 500000, inclLen := 43, origLen := 43,
          pkt := { verIhl := 0x45, ipLen := 43, ttl := 200, proto := 6, src := 0x0a000001,
                   dst := 0x0a000002, sport := 1000, dport := 2000, seq := 0, udpLen := 0,
                   payload := [0xde, 0xad, 0xbe] } },
        { tsSec := 441794305, tsUsec := 500001, inclLen := 29, origLen := 29,
          pkt := { verIhl := 0x45, ipLen := 29, ttl := 200, proto := 17, src := 0xc0a80001,
                   dst := 0x08080808, sport := 53, dport := 5353, seq := 0, udpLen := 9,
                   payload := [0x42] } },
        { tsSec := 441794306, tsUsec := 0, inclLen := 42, origLen := 42,
          pkt := { verIhl := 0x45, ipLen := 42, ttl := 200, proto := 6, src := 0x0a000002,
                   dst := 0x0a000001, sport := 2000, dport := 1000, seq := 0, udpLen := 0,
                   payload := [0x01, 0x02] } },
        { tsSec := 441794306, tsUsec := 0, inclLen := 40, origLen := 40,
          pkt := { verIhl := 0x45, ipLen := 40, ttl := 200, proto := 6, src := 0x0a000001,
                   dst := 0x0a000002, sport := 1000, dport := 2000, seq := 3, udpLen := 0,
                   payload := [] } } ] := by
  decide +kernel

/-- The hypotheses of the theorems are satisfiable by that capture. -/
example : ∀ s ∈ exSends, SendOk s := by
  intro s hs
  simp only [exSends, List.mem_cons, List.not_mem_nil, or_false] at hs
  rcases hs with rfl | rfl | rfl | rfl <;> constructor <;> simp

/-- The file header is 24 bytes and the reader accepts an empty capture. -/
example : fileHeader.length = 24 ∧ decodeFile (capture zeroInit []) = some [] := by decide +kernel

end SimVerif.Pcap

/-! # Which sends reach the capture: the socket models' capture sites

  Above, the capture is a function of a list of *sends*. Below: that the mechanism models of
  the sockets (SimVerif/Tcp.lean, SimVerif/Net.lean) emit exactly one capture record
  (`NEff.pcapTcp` / `NEff.pcapUdp`; the world driver turns it into `Pcap.recordTcp/recordUdp`
  bytes, Drv/Kernel.lean) per packet they put on the wire through `send_packet` / `send_to`,
  with the right fields — function by function, and then over every history of the open
  stream system `TS` (SimVerif/StreamSys.lean).

  Captured in the C++ (`log_tcp` is called only in `tcp::socket::send_packet`,
  tcp_socket.cpp:762-779; `log_udp` only in `udp::socket::send_to_impl`, udp_socket.cpp:474):
    * payload segments (`write_some_impl`, tcp_socket.cpp:543),
    * retransmissions (the ACK path's loop, tcp_socket.cpp:854),
    * the end-of-stream marker of `close()` (tcp_socket.cpp:225),
    * UDP datagrams that are actually forwarded.
  NOT captured (they go through `forward_packet` directly): SYN (simulation.cpp:338), SYN-ACK
  (acceptor.cpp:359), the RST of a closed acceptor's queue (acceptor.cpp:301), ACKs
  (tcp_socket.cpp:900). The model does the same: those are bare `.forward` effects of
  `internalConnect`, `accCheckQueue`, `tcpIncoming`.
  Record fields, C++ vs model: time = `now` of the call; source address = `m_bound_to`
  (= `s.bound`); source port = `p.from.port()` in the C++, `s.bound.port` in the model — equal,
  because `from` is set from `m_bound_to` when the packet is built and a NAT hop rewrites only
  its address (nat.cpp:33); destination = `m_channel->ep[remote]`, the peer's REAL endpoint as
  stored in the channel, not `visible_ep` (= `ch.ep (ch.remoteIdx s.bound)`); sequence number =
  `p.byte_counter` = `bytes_sent[self_idx]` BEFORE this send; the counter then grows by the
  payload size in `uint32` arithmetic, for every transmission — a retransmitted segment gets a
  NEW, larger sequence number and its bytes count again. -/

namespace SimVerif

/-- **`send_packet(p)` on a connected socket** (every state, every packet). The effect list is
    exactly: the capture record iff capturing, immediately followed by the forward of `p`
    stamped with the byte counter. Record: `t = now`, `src = s.bound`, `dst` = the peer's
    channel endpoint, `seq` = the direction's byte counter before the send, `payload` = the
    packet's. The direction's counter grows by the payload length (mod 2^32); the other
    direction's counter and the channel's endpoints are untouched. With `pcap = false` the same
    forward, no record. -/
theorem C19_tcp_send_packet (n : NetSt) (now : Int) (name : String) (p : Pkt) (s : TcpSock) (cid : Nat) (ch : Chan)
    (hs : n.tcp? name = some s) (hc : s.chan = some cid) (hch : n.chan? cid = some ch) :
    (n.tcpSendPacket now name p).2 =
      (if n.cfg.pcap then [NEff.pcapTcp now s.bound (ch.ep (ch.remoteIdx s.bound))
                            (ch.sent (ch.selfIdx s.bound)) p.payload] else [])
        ++ [.forward { p with bc := ch.sent (ch.selfIdx s.bound) }]
    ∧ ∃ ch', (n.tcpSendPacket now name p).1.chan? cid = some ch'
        ∧ ch'.sent (ch.selfIdx s.bound) = (ch.sent (ch.selfIdx s.bound) + p.payload.length) % 4294967296
        ∧ ch'.sent (1 - ch.selfIdx s.bound) = ch.sent (1 - ch.selfIdx s.bound)
        ∧ ch'.ep0 = ch.ep0 ∧ ch'.ep1 = ch.ep1 := by
  rw [tcpSendPacket_conn n now name p s cid ch hs hc hch]
  refine ⟨rfl, ch.bump (ch.selfIdx s.bound) p.payload.length, chan?_setChan_same n cid _ (by rw [hch]; rfl),
    Chan.bump_sent_same _ _ _, ?_, Chan.bump_ep0 _ _ _, Chan.bump_ep1 _ _ _⟩
  rcases Chan.selfIdx_cases ch s.bound with h | h <;> rw [h] <;>
    exact Chan.bump_sent_other _ _ _ _ (by simp) (by simp) (by simp)

/-- Without a socket object, a channel, or with a dangling channel id `send_packet` does
    nothing at all: no record, no packet (in the C++ a null `m_channel` here is a crash,
    Props/C12) -/
theorem C19_tcp_send_packet_detached (n : NetSt) (now : Int) (name : String) (p : Pkt)
    (h : ((n.tcp? name).bind (·.chan)).bind n.chan? = none) : n.tcpSendPacket now name p = (n, []) :=
  NoChan.sendPacket h now p

/-- **Payload segments** (`write_some_impl`'s loop body): one record right before the one
    packet, whose payload is the segment. -/
theorem C19_tcp_segment (n : NetSt) (now : Int) (name : String) (hops : List String) (seg : List UInt8)
    (s : TcpSock) (cid : Nat) (ch : Chan)
    (hs : n.tcp? name = some s) (hc : s.chan = some cid) (hch : n.chan? cid = some ch) :
    (n.tcpSendSeg now name hops seg).2 =
      (if n.cfg.pcap then [NEff.pcapTcp now s.bound (ch.ep (ch.remoteIdx s.bound))
                            (ch.sent (ch.selfIdx s.bound)) seg] else [])
        ++ [.forward { id := s.nextOut, ty := .payload, len := seg.length, ovh := 40, hops := hops,
                       src := s.bound.toString, payload := seg, hasDrop := true, dropFwd := s.fwd,
                       bc := ch.sent (ch.selfIdx s.bound) }] := by
  rw [tcpSendSeg_some n now name hops seg s hs,
    tcpSendPacket_conn (n.setTcp name { s with nextOut := s.nextOut + 1 }) now name _
      { s with nextOut := s.nextOut + 1 } cid ch (tcp?_setTcp_same _ _ _) hc hch]
  rfl

/-- **Retransmissions** (the ACK path's loop): when the head of the retransmission list is
    sent, one record right before the one packet; the record carries the CURRENT byte counter
    (not the one of the first transmission) and the packet's bytes. -/
theorem C19_tcp_retransmission (n : NetSt) (now : Int) (name : String) (s : TcpSock) (cid : Nat) (ch : Chan)
    (r : NetSt × List NEff)
    (hs : n.tcp? name = some s) (hc : s.chan = some cid) (hch : n.chan? cid = some ch)
    (h : n.tcpResendOne now name = some r) :
    ∃ p rest, s.resend = p :: rest ∧
      r.2 = (if n.cfg.pcap then [NEff.pcapTcp now s.bound (ch.ep (ch.remoteIdx s.bound))
                                  (ch.sent (ch.selfIdx s.bound)) p.payload] else [])
              ++ [.forward { p with bc := ch.sent (ch.selfIdx s.bound) }] := by
  obtain ⟨s', p, rest, hs', hr, _, _, rfl⟩ := tcpResendOne_some n now name r h
  obtain rfl : s = s' := Option.some.inj (hs.symm.trans hs')
  refine ⟨p, rest, hr, ?_⟩
  rw [tcpSendPacket_conn (n.setTcp name { s with resend := rest }) now name p
    { s with resend := rest } cid ch (tcp?_setTcp_same _ _ _) hc hch]
  rfl

/-- **The closing segment** (`close()` on an established connection): the end-of-stream marker
    goes through `send_packet`, so: one record with an empty payload right before it, then
    only completions (the aborted operations). No route / connect still pending: nothing. -/
theorem C19_tcp_close (n : NetSt) (now : Int) (name : String) (s : TcpSock) (cid : Nat) (ch : Chan)
    (hs : n.tcp? name = some s) (hc : s.chan = some cid) (hch : n.chan? cid = some ch) :
    ∃ e1, capsTcp e1 = [] ∧ capsUdp e1 = [] ∧ s5_fwdsOf e1 = [] ∧
      (n.tcpClose now name).2 =
        (if !(ch.hops (ch.remoteIdx s.bound)).isEmpty && s.connectH.isNone then
          (if n.cfg.pcap then [NEff.pcapTcp now s.bound (ch.ep (ch.remoteIdx s.bound))
                                (ch.sent (ch.selfIdx s.bound)) []] else [])
            ++ [.forward { id := s.nextOut, ty := .err, ec := .eof, len := 0, ovh := 40,
                           hops := ch.hops (ch.remoteIdx s.bound), src := s.bound.toString,
                           bc := ch.sent (ch.selfIdx s.bound) }]
         else []) ++ e1 := by
  obtain ⟨cs, -, e⟩ := tcpClose_exact n now name s hs
  obtain ⟨h1, h2, h3⟩ := (aborts_tcpCancelEffs s).posts.quiet
  refine ⟨_, h1, h2, h3, ?_⟩
  rw [e, tcpCloseEof_conn n now name s cid ch hc hch]
  dsimp only
  congr 1
  split <;> rfl

/-- **Not captured**: `incoming_packet` (whatever arrives, in whatever state) emits no record —
    its ACKs go out through `forward_packet` directly —, nor do the reader's API functions and
    the rest of the writer's. -/
theorem C19_tcp_not_captured (tp : TParams) (n : NetSt) (now : Int) (name : String) :
    (∀ p, capsTcp (n.tcpIncoming tp now name p).2 = [])
    ∧ (∀ op, capsTcp (n.tcpAsyncRead name op).2 = [])
    ∧ (∀ h, capsTcp (n.tcpWaitRead name h).2 = [])
    ∧ (∀ op, capsTcp (n.tcpAsyncWrite name op).2 = [])
    ∧ (∀ op r, capsTcp (n.tcpWriteFinish name op r).2 = [])
    ∧ (∀ target, capsTcp (n.internalConnect name target).2.1 = []) :=
  ⟨capsTcp_tcpIncoming tp n now name, fun op => (capQuiet_tcpAsyncRead n name op).2.1,
   fun h => (capQuiet_tcpWaitRead n name h).2.1, fun op => (capQuiet_tcpAsyncWrite n name op).2.1,
   fun op r => (capQuiet_tcpWriteFinish n name op r).2.1,
   fun target => by rcases internalConnect_table n name target with e | ⟨_, _, _, -, -, -, -, e⟩ <;> rw [e] <;> rfl⟩

/-- **Every TCP function through which a packet can reach `send_packet`** — `send_packet`
    itself, the segmentation step, the retransmission step, `close()`, and everything that
    calls `close()`: `open()`, `async_connect` (opens a closed socket first), the acceptor's
    `internal_connect` (`tcpAttach`: re-opens the socket accepted into), `check_accept_queue`,
    the acceptor's `incoming_packet`, `async_accept` (closes an open peer socket first),
    `acceptor::close` — and `incoming_packet` of a socket: in EVERY state the effect list is a
    sequence of blocks (`CapBlocks`, SimVerif/Lemmas/CapShape.lean), each of which is a
    non-packet effect, or a packet forwarded directly that is a SYN / SYN-ACK / ACK / RST, or
    a `send_packet` block = the record iff capturing, immediately followed by its packet.
    (The direct forwards are exactly the C++ `forward_packet` call sites outside
    `send_packet`: simulation.cpp:338, acceptor.cpp:301, acceptor.cpp:359, tcp_socket.cpp:900.) -/
theorem C19_tcp_effect_shape (n : NetSt) (now : Int) (name : String) :
    (∀ p, CapBlocks n.cfg.pcap now (n.tcpSendPacket now name p).2)
    ∧ (∀ hops seg, CapBlocks n.cfg.pcap now (n.tcpSendSeg now name hops seg).2)
    ∧ (∀ r, n.tcpResendOne now name = some r → CapBlocks n.cfg.pcap now r.2)
    ∧ CapBlocks n.cfg.pcap now (n.tcpClose now name).2
    ∧ (∀ v4, CapBlocks n.cfg.pcap now (n.tcpOpen now name v4).2)
    ∧ (∀ target h, CapBlocks n.cfg.pcap now (n.tcpConnect now name target h).2)
    ∧ (∀ ep cid, CapBlocks n.cfg.pcap now (n.tcpAttach now name ep cid).2)
    ∧ CapBlocks n.cfg.pcap now (n.accCheckQueue now name).2
    ∧ (∀ p, CapBlocks n.cfg.pcap now (n.accIncoming now name p).2)
    ∧ (∀ op, CapBlocks n.cfg.pcap now (n.accAsyncAccept now name op).2)
    ∧ CapBlocks n.cfg.pcap now (n.accClose now name).2
    ∧ (∀ tp p, CapBlocks n.cfg.pcap now (n.tcpIncoming tp now name p).2) :=
  ⟨fun p => (tcpSendPacket_parts n now name p).2.2.2.1,
   fun hops seg => (viaSend_sendSeg n now name hops seg).act.shape,
   fun r h => (viaSend_resendOne n now name r h).act.shape,
   (act_tcpClose n now name).shape,
   fun v4 => (act_tcpOpen n now name v4).shape,
   fun target h => (tcpConnect_parts n now name target h).2,
   fun ep cid => (act_tcpAttach n now name ep cid).shape,
   (act_accCheckQueue n now name).shape,
   fun p => (act_accIncoming n now name p).shape,
   fun op => (act_accAsyncAccept n now name op).shape,
   (act_accClose n now name).shape,
   fun tp p => (own_tcpIncoming tp n now name p).shape _ _⟩

/-- **What the block shape says**, for any effect list of that shape: (i) every record is
    immediately followed by a packet, carries the time of the call, that packet's payload, and
    the sequence number the packet is stamped with, and occurs only when capturing; (ii) when
    capturing, every packet NOT immediately preceded by a record is a SYN, SYN-ACK, ACK or RST;
    (iii) with capture off there is no record; (iv) never more records than packets. So: exactly
    one record per packet that is not one of those four kinds, right before it. -/
theorem C19_tcp_shape_meaning (pcap : Bool) (now : Int) (l : List NEff) (h : CapBlocks pcap now l) :
    RecThenPkt pcap now l ∧ BarePkts pcap false l ∧ (pcap = false → capsTcp l = [])
    ∧ (capsTcp l).length ≤ (s5_fwdsOf l).length :=
  ⟨h.recThenPkt, h.barePkts, fun hp => by subst hp; exact h.no_record_when_off, h.records_le_packets⟩

/-- **`send_to`** (every state, every argument): either nothing is forwarded and nothing is
    captured (no such socket, failed implicit bind, empty datagram, more than 65535 bytes,
    don't-fragment above the path MTU, pacing queue full, nothing bound at the destination —
    the rows of `C08_send_errors`), or the effect list is: completions/timer effects of
    `abort_send_handlers()` (`e0`: no record, no packet), then the capture record iff capturing,
    immediately followed by the forward of the one datagram. Record: `t = now`, `src` = the
    sender's bound endpoint (after the implicit bind), `dst` = the destination the caller gave
    (UDP has no channel: the C++ logs `dst` as passed), `payload` = the caller's bytes = the
    packet's payload; the packet's source is the same endpoint. -/
theorem C19_udp_send_to (n : NetSt) (now : Int) (name : String) (dst : Ep) (payload : List UInt8) :
    (fwdsOf (n.udpSendTo now name dst payload).2.1 = [] ∧ capsUdp (n.udpSendTo now name dst payload).2.1 = []
      ∧ capsTcp (n.udpSendTo now name dst payload).2.1 = [])
    ∨ ∃ (u : UdpSock) (hops : List String) (e0 : List NEff),
        fwdsOf e0 = [] ∧ capsUdp e0 = [] ∧ capsTcp e0 = []
        ∧ (n.udpSendTo now name dst payload).2.1 =
            e0 ++ (if n.cfg.pcap then [NEff.pcapUdp now u.bound dst payload] else [])
               ++ [.forward (sendPkt u.bound hops payload)]
        ∧ (sendPkt u.bound hops payload).payload = payload
        ∧ (sendPkt u.bound hops payload).src = u.bound.toString
        ∧ 0 < payload.length ∧ payload.length ≤ 65535
        ∧ (n.udpSendTo now name dst payload).2.2 = (.ok, payload.length) := by
  have hab : ∀ u0 : UdpSock, fwdsOf (u0.abortSend name).2 = [] ∧ capsUdp (u0.abortSend name).2 = []
      ∧ capsTcp (u0.abortSend name).2 = [] := by
    intro u0; unfold UdpSock.abortSend; cases u0.waitSendH <;> exact ⟨rfl, rfl, rfl⟩
  cases hu : n.udp? name with
  | none => left; rw [udpSendTo_none n now name dst payload hu]; exact ⟨rfl, rfl, rfl⟩
  | some u0 =>
    obtain ⟨rb, hcfg, e⟩ := udpSendTo_tail (P := fun r => r.1.cfg = n.cfg) n now name dst payload u0 hu rfl
      (udpBind_rstep _ name {}).2.2.cfg
    rw [e]
    rcases udpSendTail_total rb.1 (u0.abortSend name).2 rb.2 now name dst payload
      with ⟨e, _⟩ | ⟨u, hops, hu1, _, h0, h1, hr, e⟩
    · left; rw [e]; exact hab u0
    · right
      refine ⟨u, hops, (u0.abortSend name).2, (hab u0).1, (hab u0).2.1, (hab u0).2.2, ?_, rfl, rfl, h0, h1, ?_⟩
      · rw [e, hcfg]
      · rw [e]

/-! ## System level: every history of the open stream system

  `TS` (SimVerif/StreamSys.lean; one direction of one established connection, adversarial
  network: any delay, reordering, drops with retransmission, any API interleaving) discards the
  capture effects. `CS` (SimVerif/Lemmas/PcapSites.lean) wraps it WITHOUT changing it
  (`C19_stream_same_system`): `CS.step` runs `TS.step` and appends to two ghost logs —
  `log`: the `pcapTcp` effects of all effect lists of the step, in emission order (the capture
  log), `wire`: the packets forwarded by the writer's functions in that step, with the step's
  time. The effect lists are re-collected by `TS.effs = TS.effsA ++ TS.effsB`, which follow
  `TS.step` case by case and call the same mechanism functions on the same states;
  `C19_stream_effects_are_the_steps` ties them to what `TS.step` does: the bag grows by exactly
  their forwards (so `wire` is exactly what the writer put into the bag, in order) and the
  completion log by exactly their completions.

  Start state: ANY network state `n` in which the writer is connected (`ConnAt`: it holds an
  existing channel `k.cid`, is bound to `k.src`, sits at index `k.idx`, the peer's channel
  endpoint is `k.dst`, its direction's byte counter is `k.init`) and the capture switch is
  `k.pcap`. `k.init` is arbitrary: 0 is the repaired tree (`bytes_sent{0,0}`), any other value
  the pinned tree's uninitialised counter (F1). -/

theorem C19_stream_same_system (c : TcpCfg) (n : NetSt) (ls : List TLbl) :
    (CS.run c (CS.init c n) ls).ts = TS.run c (TS.init c n) ls := CS.run_ts c _ ls

/-- **The re-collected effect lists are the ones `TS.step` interprets.** For every state and
    label: the bag after the step is the bag before minus the element delivered / dropped (if
    any) plus exactly the forwards of `effsA` (the writer's: these are the step's `wire`
    entries) then of `effsB` (the reader's), in order; the completion log grows by exactly the
    completions of `effs`. -/
theorem C19_stream_effects_are_the_steps (c : TcpCfg) (s : CS) (l : TLbl) :
    ∃ b0, (b0 = s.ts.bag ∨ ∃ i, b0 = s.ts.bag.eraseIdx i)
      ∧ (s.step c l).ts.bag = b0 ++ ((s.step c l).wire.drop s.wire.length).map (·.2) ++ s5_fwdsOf (s.ts.effsB c l)
      ∧ (s.step c l).ts.posts = s.ts.posts ++ postsOf (s.ts.effs c l)
      ∧ (s.step c l).log = s.log ++ capsTcp (s.ts.effs c l)
      ∧ capsTcp (s.ts.effsB c l) = [] := by
  have ok := TS.step_ok c s.ts l
  obtain ⟨b0, h0, h1⟩ := ok.bag
  refine ⟨b0, h0.imp_right And.right, ?_, ok.posts, rfl, ok.noCapB⟩
  show (s.ts.step c l).bag = b0 ++ ((s.wire ++ _).drop s.wire.length).map (·.2) ++ _
  rw [List.drop_left, List.map_map, h1, s5_fwdsOf_append, List.append_assoc]
  congr 2
  simp [Function.comp_def]

/-- **One record per packet the writer puts on the wire, in the same order —
    retransmissions and the closing segment included —, with the right fields.** Over every
    history: with capture on, the capture log is the wire log mapped record by record:
    `t` = the time of the step that sent the packet, `src` = the writer's bound endpoint,
    `dst` = the peer's endpoint in the channel (real, not NAT-visible), `seq` = the byte counter
    the packet was stamped with (`bc`), `payload` = the packet's payload. With capture off the
    log is empty (and the wire log — hence the bag — is what it is with capture on: the switch
    is not an input of anything but the record, `C19_tcp_send_packet`). -/
theorem C19_stream_one_record_per_packet (c : TcpCfg) (n : NetSt) (hne : c.a ≠ c.b) (k : CapKey)
    (hk : ConnAt n c.a k.cid k.idx k.src k.dst k.init) (hp : n.cfg.pcap = k.pcap) (ls : List TLbl) :
    (CS.run c (CS.init c n) ls).log =
      if k.pcap then (CS.run c (CS.init c n) ls).wire.map
        (fun e => ({ t := e.1, src := k.src, dst := k.dst, seq := e.2.bc, payload := e.2.payload } : CapT))
      else [] :=
  (CS.capOk_init_run c hne k n hk hp ls).log

/-- **Sequence numbers.** Over every history: every packet on the wire is stamped with the
    value the direction's byte counter had when it was sent (`WireSeq`), so record `i`'s
    sequence number is the start value plus the payload bytes of ALL records before it in that
    direction, modulo 2^32. Retransmitted bytes count again, as in the C++ (`bytes_sent[idx] +=
    size` runs in `send_packet` for every transmission): a retransmission carries a new, larger
    number, not the one of the first transmission. -/
theorem C19_stream_seq_general (c : TcpCfg) (n : NetSt) (hne : c.a ≠ c.b) (k : CapKey)
    (hk : ConnAt n c.a k.cid k.idx k.src k.dst k.init) (hp : n.cfg.pcap = k.pcap) (hpc : k.pcap = true)
    (hinit : k.init < 4294967296) (ls : List TLbl)
    (i : Nat) (hi : i < (CS.run c (CS.init c n) ls).log.length) :
    (CS.run c (CS.init c n) ls).log[i].seq =
      (k.init + (((CS.run c (CS.init c n) ls).log.take i).map (fun r => r.payload.length)).sum) % 4294967296 := by
  exact capSeq_getElem k.init hinit _ ((CS.capOk_init_run c hne k n hk hp ls).capSeq hpc) i hi

/-- **Sequence numbers, repaired tree**: counters start at 0, so the first record of the direction has
    sequence number 0 and record `i` the payload bytes previously transmitted, mod 2^32. -/
theorem C19_stream_seq (c : TcpCfg) (n : NetSt) (hne : c.a ≠ c.b) (k : CapKey)
    (hk : ConnAt n c.a k.cid k.idx k.src k.dst k.init) (hp : n.cfg.pcap = k.pcap) (hpc : k.pcap = true)
    (hinit : k.init = 0) (ls : List TLbl)
    (i : Nat) (hi : i < (CS.run c (CS.init c n) ls).log.length) :
    (CS.run c (CS.init c n) ls).log[i].seq =
      ((((CS.run c (CS.init c n) ls).log.take i).map (fun r => r.payload.length)).sum) % 4294967296 := by
  have := C19_stream_seq_general c n hne k hk hp hpc (by omega) ls i hi
  rw [this, hinit, Nat.zero_add]

/-- The packets on the wire carry the sequence numbers of their records (`bc`, the model's
    `p.byte_counter`). -/
theorem C19_stream_packets_stamped (c : TcpCfg) (n : NetSt) (hne : c.a ≠ c.b) (k : CapKey)
    (hk : ConnAt n c.a k.cid k.idx k.src k.dst k.init) (hp : n.cfg.pcap = k.pcap) (ls : List TLbl) :
    WireSeq k.init (CS.run c (CS.init c n) ls).wire :=
  (CS.capOk_init_run c hne k n hk hp ls).seq

/-- **Payload.** From a start state of the stream theorems (`TcpStart`: nothing sent or
    received yet on the connection): every packet the writer ever put on the wire is a segment
    carrying exactly `segs[id]` — the bytes the ghost log of C05 holds for its sequence number,
    first transmission or retransmission — or the empty end-of-stream marker; by
    `C19_stream_one_record_per_packet` the record's payload is that packet's payload. -/
theorem C19_stream_payload_genuine (c : TcpCfg) (n : NetSt) (h : TcpStart c n) (ls : List TLbl) :
    ∀ e ∈ (CS.run c (CS.init c n) ls).wire,
      (e.2.ty = .payload ∧ (TS.run c (TS.init c n) ls).segs[e.2.id]? = some e.2.payload)
      ∨ (e.2.ty = .err ∧ e.2.payload = []) := by
  have := CS.genuine_run c ls (CS.init c n) (TInv.init h) (by intro e he; cases he)
  rw [CS.run_ts] at this
  exact this

/-- No packet on the wire, hence no record, is larger than the writer's segment size. -/
theorem C19_stream_payload_bound (c : TcpCfg) (n : NetSt) (h : TcpStart c n) (ls : List TLbl)
    (hm : 0 < (TS.init c n).mss0) :
    ∀ e ∈ (CS.run c (CS.init c n) ls).wire, e.2.payload.length ≤ (TS.init c n).mss0 := by
  intro e he
  have hI := (TInv.reach h ls).core
  have hm0 : (TS.run c (TS.init c n) ls).mss0 = (TS.init c n).mss0 := TS.run_mss0 c ls _
  rcases C19_stream_payload_genuine c n h ls e he with ⟨_, h2⟩ | ⟨_, h2⟩
  · have hmem : e.2.payload ∈ (TS.run c (TS.init c n) ls).segs := List.mem_of_getElem? h2
    have := (hI.segsB (by rw [hm0]; exact hm) _ hmem).2
    rw [hm0] at this; exact this
  · rw [h2]; simp

/-- **Composition with the round trip.** The capture file the world driver writes for the log
    (header, then `Pcap.recordTcp` of every record in emission order; `ip` = the driver's
    dotted-quad parser, any function here) is decoded by the independent reader to exactly the
    expected records (`Pcap.expected`, whose sequence numbers are recomputed from the payload
    lengths alone) of the list of sends read off the history: one TCP send per packet the writer
    put on the wire, at the step's time, from the writer's endpoint to the peer's, with the
    packet's payload — for every history, every initial counter value `k.init` (0 = repaired
    tree), every labelling `(conn, dir)` of the direction. Hence all corollaries of
    `C19_wellformed` (`C19_one_record_per_send`, `C19_lengths`, `C19_addresses_ports`,
    `C19_payload`, `C19_timestamps`, `C19_time_monotone`, `C19_seq_general`) hold of the decoded
    file with `sends` := these. -/
theorem C19_stream_file (c : TcpCfg) (n : NetSt) (hne : c.a ≠ c.b) (k : CapKey)
    (hk : ConnAt n c.a k.cid k.idx k.src k.dst k.init) (hp : n.cfg.pcap = k.pcap) (hpc : k.pcap = true)
    (ls : List TLbl) (ip : String → Nat) (conn dir : Nat)
    (hsrc : ip k.src.addr < 4294967296) (hdst : ip k.dst.addr < 4294967296)
    (hsp : k.src.port < 65536) (hdp : k.dst.port < 65536)
    (hsz : ∀ e ∈ (CS.run c (CS.init c n) ls).wire, e.2.payload.length + 40 ≤ 65535) :
    PcapDecode.decodeFile (capFile ip (CS.run c (CS.init c n) ls).log) =
      some (Pcap.expected (fun _ => k.init)
        ((CS.run c (CS.init c n) ls).wire.map (fun e =>
          ({ kind := .tcp, t := e.1.toNat, srcIp := ip k.src.addr, dstIp := ip k.dst.addr,
             srcPort := k.src.port, dstPort := k.dst.port, conn := conn, dir := dir,
             payload := e.2.payload } : Pcap.Send)))) := by
  have hI := CS.capOk_init_run c hne k n hk hp ls
  rw [capFile_eq_capture ip conn dir _ k.init (hI.capSeq hpc), hI.log, hpc, if_pos rfl, List.map_map]
  apply Pcap.C19_wellformed
  intro s hs
  rw [List.mem_map] at hs
  obtain ⟨e, he, rfl⟩ := hs
  exact ⟨hsrc, hdst, hsp, hdp, fun _ => by have := hsz e he; simp [CapT.toSend, recOf]; omega,
    fun hk => by simp [CapT.toSend] at hk⟩

/-- **As-is (pinned tree, F1).** `channel::bytes_sent` was uninitialised: the direction starts
    with whatever the allocator left (`k.init` arbitrary). The same theorems hold with that start
    value — the first record's sequence number is `k.init`, not 0 (`C19_stream_seq_general` at
    `i = 0`); with ASan's fill pattern: -/
theorem C19_stream_asis_first_seq (c : TcpCfg) (n : NetSt) (hne : c.a ≠ c.b) (k : CapKey)
    (hk : ConnAt n c.a k.cid k.idx k.src k.dst k.init) (hp : n.cfg.pcap = k.pcap) (hpc : k.pcap = true)
    (hinit : k.init = 0xbebebebe) (ls : List TLbl) (h0 : 0 < (CS.run c (CS.init c n) ls).log.length) :
    (CS.run c (CS.init c n) ls).log[0].seq = 0xbebebebe := by
  have := C19_stream_seq_general c n hne k hk hp hpc (by omega) ls 0 h0
  rw [this, hinit]; simp

/-! ## Non-vacuity: the history of SimVerif/TcpEx.lean with capture on

  Segment 0 `[1,2,3]` is sent and dropped by the first hop, segment 1 `[4]` is sent, the ACK of
  segment 1 triggers the retransmission of segment 0, the writer closes. Step `i` of the
  history happens at 1 s + i · 1.5 ms. -/

def TLbl.atTime (t : Int) : TLbl → TLbl
  | .write _ op => .write t op
  | .run _ => .run t
  | .deliver _ i tr => .deliver t i tr
  | .closeA _ => .closeA t
  | l => l

namespace C19Ex

def cfg : NetCfg := { mtu := [("*", 3)], pcap := true }
def epA : Ep := { addr := "10.0.0.1", port := 2000 }
def epB : Ep := { addr := "10.0.0.2", port := 80 }
def n0 : NetSt := established cfg TcpEx.c epA epB ["q1"] ["q2"]
def key : CapKey := { cid := 0, idx := 0, src := epA, dst := epB, init := 0, pcap := true }
def hist : List TLbl := TcpEx.hist.zipIdx.map (fun x => x.1.atTime (1000000000 + x.2 * 1500000))
def final : CS := CS.run TcpEx.c (CS.init TcpEx.c n0) hist
def ip (a : String) : Nat := if a = "10.0.0.1" then 0x0a000001 else 0x0a000002

theorem start : ConnAt n0 TcpEx.c.a key.cid key.idx key.src key.dst key.init :=
  ⟨_, _, rfl, rfl, rfl, rfl, rfl, rfl, rfl⟩

theorem final_log : final.log = [⟨1001500000, epA, epB, 0, [1, 2, 3]⟩, ⟨1004500000, epA, epB, 3, [4]⟩,
    ⟨1010500000, epA, epB, 4, [1, 2, 3]⟩, ⟨1021000000, epA, epB, 7, []⟩] := by decide +kernel

/-- the capture log: first transmissions at sequence numbers 0 and 3, the retransmission of
    `[1,2,3]` at 4 (its bytes count again), the closing segment at 7 with no payload -/
example : final.log =
    [ { t := 1001500000, src := epA, dst := epB, seq := 0, payload := [1, 2, 3] },
      { t := 1004500000, src := epA, dst := epB, seq := 3, payload := [4] },
      { t := 1010500000, src := epA, dst := epB, seq := 4, payload := [1, 2, 3] },
      { t := 1021000000, src := epA, dst := epB, seq := 7, payload := [] } ] := final_log

/-- the packets the writer put into the bag: sequence numbers 0, 1, 0 (retransmission), 2 (EOF) -/
example : final.wire.map (fun e => (e.1, e.2.id, e.2.ty, e.2.bc, e.2.payload)) =
    [ (1001500000, 0, .payload, 0, [1, 2, 3]), (1004500000, 1, .payload, 3, [4]),
      (1010500000, 0, .payload, 4, [1, 2, 3]), (1021000000, 2, .err, 7, []) ]
    ∧ final.ts.segs = [[1, 2, 3], [4]] := by decide +kernel

/-- with capture off: same packets, no record -/
example : (CS.run TcpEx.c (CS.init TcpEx.c (established { mtu := [("*", 3)] } TcpEx.c epA epB ["q1"] ["q2"])) hist).log = []
    ∧ (CS.run TcpEx.c (CS.init TcpEx.c (established { mtu := [("*", 3)] } TcpEx.c epA epB ["q1"] ["q2"])) hist).wire
        = final.wire := by decide +kernel

/-- the hypotheses of the system-level theorems hold of this history; the theorems instantiated -/
example := C19_stream_one_record_per_packet TcpEx.c n0 (by decide) key start rfl hist
example := C19_stream_seq TcpEx.c n0 (by decide) key start rfl rfl rfl hist 2 (by decide +kernel)
example := C19_stream_payload_genuine TcpEx.c n0 (established_start _ _ _ _ _ _ (by decide)).1 hist
example := C19_stream_file TcpEx.c n0 (by decide) key start rfl rfl hist ip 0 0
  (by decide) (by decide) (by decide) (by decide) (by decide +kernel)

-- the capture file of the log, read back by the independent decoder
set_option maxRecDepth 100000 in
example : PcapDecode.decodeFile (capFile ip final.log) = some
    [ { tsSec := 441794305, tsUsec := 1500, inclLen := 43, origLen := 43,
        pkt := { verIhl := 0x45, ipLen := 43, ttl := 200, proto := 6, src := 0x0a000001,
                 dst := 0x0a000002, sport := 2000, dport := 80, seq := 0, udpLen := 0,
                 payload := [1, 2, 3] } },
      { tsSec := 441794305, tsUsec := 4500, inclLen := 41, origLen := 41,
        pkt := { verIhl := 0x45, ipLen := 41, ttl := 200, proto := 6, src := 0x0a000001,
                 dst := 0x0a000002, sport := 2000, dport := 80, seq := 3, udpLen := 0,
                 payload := [4] } },
      { tsSec := 441794305, tsUsec := 10500, inclLen := 43, origLen := 43,
        pkt := { verIhl := 0x45, ipLen := 43, ttl := 200, proto := 6, src := 0x0a000001,
                 dst := 0x0a000002, sport := 2000, dport := 80, seq := 4, udpLen := 0,
                 payload := [1, 2, 3] } },
      { tsSec := 441794305, tsUsec := 21000, inclLen := 40, origLen := 40,
        pkt := { verIhl := 0x45, ipLen := 40, ttl := 200, proto := 6, src := 0x0a000001,
                 dst := 0x0a000002, sport := 2000, dport := 80, seq := 7, udpLen := 0,
                 payload := [] } } ] := by rw [final_log]; decide +kernel

/-- `close()` of the connected writer at time 5: the record of the (empty) closing segment right
    before it; the handshake with capture on: the SYN-ACK goes out bare -/
example :
    capsTcp (n0.tcpClose 5 "s1").2 = [{ t := 5, src := epA, dst := epB, seq := 0, payload := [] }]
    ∧ (s5_fwdsOf (n0.tcpClose 5 "s1").2).map (fun p => (p.ty, p.ec, p.bc)) = [(.err, .eof, 0)]
    ∧ capsTcp (({ Hs.nA with cfg := { Hs.cfg with pcap := true } } : NetSt).accIncoming 0 "a" Hs.synA).2 = []
    ∧ (s5_fwdsOf (({ Hs.nA with cfg := { Hs.cfg with pcap := true } } : NetSt).accIncoming 0 "a" Hs.synA).2).map (·.ty)
        = [.synack] := by decide +kernel

example := C19_tcp_shape_meaning _ 5 _ (C19_tcp_effect_shape n0 5 "s1").2.2.2.1

/-- UDP: a bound sender, a bound receiver: one record right before the one datagram -/
def nU : NetSt :=
  { cfg := { pcap := true }, reg := { udp := [({ addr := "10.0.0.2", port := 5000 }, "b")] }, fwds := [some "b"],
    udps := [("a", { node := "A", isOpen := true, bound := { addr := "10.0.0.1", port := 4000 } }),
             ("b", { node := "B", isOpen := true, bound := { addr := "10.0.0.2", port := 5000 }, fwd := some 0 })] }

example :
    capsUdp (nU.udpSendTo 7000 "a" { addr := "10.0.0.2", port := 5000 } [9, 8]).2.1
      = [{ t := 7000, src := { addr := "10.0.0.1", port := 4000 }, dst := { addr := "10.0.0.2", port := 5000 }, payload := [9, 8] }]
    ∧ (fwdsOf (nU.udpSendTo 7000 "a" { addr := "10.0.0.2", port := 5000 } [9, 8]).2.1).map
        (fun p => (p.ty, p.src, p.hops, p.payload)) = [(.payload, "10.0.0.1:4000", ["@0"], [9, 8])]
    ∧ (nU.udpSendTo 7000 "a" { addr := "10.0.0.2", port := 5000 } [9, 8]).2.1.length = 3
    -- empty datagram / nothing bound at the destination: no packet, no record
    ∧ capsUdp (nU.udpSendTo 7000 "a" { addr := "10.0.0.2", port := 5000 } []).2.1 = []
    ∧ (fwdsOf (nU.udpSendTo 7000 "a" { addr := "10.0.0.2", port := 5000 } []).2.1).length = 0
    ∧ capsUdp (nU.udpSendTo 7000 "a" { addr := "10.0.0.9", port := 1 } [9, 8]).2.1 = []
    ∧ (fwdsOf (nU.udpSendTo 7000 "a" { addr := "10.0.0.9", port := 1 } [9, 8]).2.1).length = 0 := by
  decide +kernel

end C19Ex

end SimVerif
