/-
  C14 — resolver: serial FIFO lookups with compounding latency, literals at once.

  The property theorems, the witness histories `REx` and examples (mechanism model:
  SimVerif/Resolver.lean; open system and the kernel's guarantees as side condition `RS.okRun`:
  SimVerif/ResolverSys.lean; invariant: SimVerif/Lemmas/ResolverInv.lean). All statements quantify over every well-timed history
  `ls` of the repaired tree (`RParams.fixed`) from the initial state: every sequence of
  `async_resolve` of host names (arbitrary oracle answers: error, addresses, latency ≥ 0),
  of IPv4/IPv6 literals, and of `cancel()`, at arbitrary instants — including calls made by a
  lookup handler while `on_lookup` is invoking it (`timerFires t re`), and calls made between
  the instant the kernel posts `on_lookup` (`timerExpires t`) and the moment it runs.

  Vocabulary of the ghost logs: a request `q : RReq` has `q.t` (instant), `q.h` (handler),
  `q.literal`, the oracle's `q.err/q.ips/q.lat` and `q.nominal` — C14's recurrence
  `max (q.t) (nominal of the previous host-name request) + q.lat`, restarted by `cancel()`
  (`C14_nominal_is_recurrence`); for a literal `q.nominal = q.t + 1000`. A completion
  `c : RComp` has `c.t`, `c.h`, `c.ec`, `c.res`, `c.inline` (invoked by `on_lookup`, as
  opposed to posted by `cancel()`), and the ghosts `c.literal`, `c.sched` (the
  `completion_time` the queue entry carried). Times are ns; 1000 = one microsecond.
-/
import SimVerif.Lemmas.ResolverInv

namespace SimVerif

/-- **None lost, none invented.** At every state the handlers completed so far together with
    the handlers still queued are exactly the handlers requested (as multisets). With fresh
    handler ids nothing is completed twice nor completed while still queued; once the queue
    has drained everything requested has completed. -/
theorem C14_exactly_once (ls : List RLbl) (h : RS.okRun .fixed {} ls) :
    ((RS.run .fixed {} ls).compLog.map RComp.h ++ (RS.run .fixed {} ls).r.queue.map REntry.h).Perm
        ((RS.run .fixed {} ls).reqLog.map RReq.h)
    ∧ ((RS.run .fixed {} ls).fresh →
        ((RS.run .fixed {} ls).compLog.map RComp.h
          ++ (RS.run .fixed {} ls).r.queue.map REntry.h).Nodup)
    ∧ ((RS.run .fixed {} ls).r.queue = [] →
        ((RS.run .fixed {} ls).compLog.map RComp.h).Perm ((RS.run .fixed {} ls).reqLog.map RReq.h)) := by
  have hI := (RInv.run_init ls h).core
  have hperm : ((RS.run .fixed {} ls).compLog.map RComp.h
      ++ (RS.run .fixed {} ls).r.queue.map REntry.h).Perm ((RS.run .fixed {} ls).reqLog.map RReq.h) := by
    rw [List.perm_iff_count]
    intro a
    have := hI.cnt a
    rw [List.count_append]; omega
  refine ⟨hperm, fun hf => (List.Perm.nodup_iff hperm).mpr hf, fun hq => ?_⟩
  rw [hq] at hperm
  simpa using hperm

/-- a non-empty queue always has the timer armed for its front entry, or `on_lookup` posted
    (nothing is stranded); the unconditional `m_queue.front()` of `on_lookup` is never
    evaluated on an empty vector -/
theorem C14_pending_has_timer (ls : List RLbl) (h : RS.okRun .fixed {} ls) :
    (∀ z, (RS.run .fixed {} ls).r.queue.head? = some z →
        (∃ a, (RS.run .fixed {} ls).timer = some (z.completion, a))
        ∨ (RS.run .fixed {} ls).posted = true)
    ∧ (RS.run .fixed {} ls).ub = false :=
  ⟨fun z hz => ((RInv.run_init ls h).armed z hz).imp (fun ⟨a, ha, _⟩ => ⟨a, ha⟩) id,
    (RInv.run_init ls h).core.ub⟩

/-- **Results.** Every completion belongs to a request with the same handler; a completion
    made by `on_lookup` carries exactly the oracle's error and the oracle's addresses, in
    order, each paired with the port; for a literal that is success and the literal itself;
    a completion posted by `cancel()` carries `operation_aborted`. -/
theorem C14_results (ls : List RLbl) (h : RS.okRun .fixed {} ls) :
    ∀ c ∈ (RS.run .fixed {} ls).compLog, ∃ q ∈ (RS.run .fixed {} ls).reqLog,
      q.h = c.h ∧ q.literal = c.literal
      ∧ (c.inline = false → c.ec = .aborted)
      ∧ (c.inline = true → c.ec = q.err ∧ c.res = q.ips.map (fun a => (a, q.port)))
      ∧ (c.inline = true → c.literal = true →
          c.ec = .ok ∧ ∃ addr, q.ips = [addr] ∧ c.res = [(addr, q.port)]) := by
  intro c hc
  have hI := (RInv.run_init ls h).core
  obtain ⟨q, hq, m⟩ := hI.match_c c hc
  have hexp := fun hi => Prod.mk.inj (m.timed hi).answer
  refine ⟨q, hq, m.h, m.literal, m.aborted, hexp, fun hi hl => ?_⟩
  obtain ⟨he, addr, ha⟩ := hI.reqwf q hq (m.literal.trans hl)
  exact ⟨(hexp hi).1.trans he, addr, ha, by rw [(hexp hi).2, ha]; rfl⟩

/-- … in particular any completion whose error code is not `operation_aborted` was made by
    `on_lookup` and carries the oracle's answer. -/
theorem C14_results_not_aborted (ls : List RLbl) (h : RS.okRun .fixed {} ls) :
    ∀ c ∈ (RS.run .fixed {} ls).compLog, c.ec ≠ .aborted →
      ∃ q ∈ (RS.run .fixed {} ls).reqLog, q.h = c.h
        ∧ c.ec = q.err ∧ c.res = q.ips.map (fun a => (a, q.port)) := by
  intro c hc hne
  obtain ⟨q, hq, h1, _, h3, h4, _⟩ := C14_results ls h c hc
  cases hi : c.inline with
  | false => exact absurd (h3 hi) hne
  | true => exact ⟨q, hq, h1, h4 hi⟩

/-- **Request order.** Host-name lookups complete (successfully or aborted) in the order they
    were requested, none skipped: requested = completed ++ still queued. (A completion posted
    by `cancel()` is logged when it is posted; C02 runs it later at that same instant, after
    anything posted before it — e.g. an `on_lookup` the kernel had already posted.) -/
theorem C14_serial_fifo (ls : List RLbl) (h : RS.okRun .fixed {} ls) :
    ((RS.run .fixed {} ls).reqLog.filter (fun q => !q.literal)).map RReq.h
      = ((RS.run .fixed {} ls).compLog.filter (fun c => !c.literal)).map RComp.h
        ++ ((RS.run .fixed {} ls).r.queue.filter (fun e => !e.literal)).map REntry.h :=
  (RInv.run_init ls h).core.fifo

/-- the `nominal` field of a host-name request is C14's recurrence on the requests alone:
    max(request instant, nominal completion of the previous host-name request) + latency;
    `cancel()` restarts the chain -/
theorem C14_nominal_is_recurrence (p : RParams) (s : RS) (err : Ec) (ips : List String)
    (lat : Int) (port h : Nat) :
    (s.doName p err ips lat port h).reqLog
        = s.reqLog ++ [RReq.ofName s.now err ips lat port h (max s.now (s.lastNom.getD s.now) + lat)]
    ∧ (s.doName p err ips lat port h).lastNom = some (max s.now (s.lastNom.getD s.now) + lat)
    ∧ s.doCancel.lastNom = none := by
  exact ⟨by rw [doName_eq]; rfl, by rw [doName_eq]; rfl, by rw [doCancel_eq]⟩

/-- **Timing, the tight statement.** A host-name lookup completed by `on_lookup` at `c.t`:
    * its entry was scheduled (`c.sched`) at its nominal completion, or up to 1 µs later
      (`litSlack` is 0 until some literal has been requested, 1000 afterwards: the extra comes
      from chaining off a pending literal's deadline);
    * it never completes before its schedule;
    * it completes exactly on schedule, or exactly at the deadline (request + 1 µs) of some
      literal. -/
theorem C14_serial_timing (ls : List RLbl) (h : RS.okRun .fixed {} ls) :
    ∀ c ∈ (RS.run .fixed {} ls).compLog, c.inline = true → c.literal = false →
      ∃ q ∈ (RS.run .fixed {} ls).reqLog, q.h = c.h ∧ q.literal = false
        ∧ q.nominal ≤ c.sched ∧ c.sched ≤ q.nominal + litSlack (RS.run .fixed {} ls).reqLog
        ∧ c.sched ≤ c.t
        ∧ (c.t = c.sched ∨ LitDl (RS.run .fixed {} ls).reqLog c.t) := by
  intro c hc hi hl
  obtain ⟨q, hq, m⟩ := (RInv.run_init ls h).core.match_c c hc
  have t := m.timed hi
  exact ⟨q, hq, m.h, m.literal.trans hl, (t.name hl).1, (t.name hl).2, t.late, t.exact⟩

/-- **Timing, as bounds on the completion instant**: never before the nominal completion;
    at most 1 µs after it, unless it is exactly 1 µs after the request of some literal. -/
theorem C14_serial_bounds (ls : List RLbl) (h : RS.okRun .fixed {} ls) :
    ∀ c ∈ (RS.run .fixed {} ls).compLog, c.inline = true → c.literal = false →
      ∃ q ∈ (RS.run .fixed {} ls).reqLog, q.h = c.h ∧ q.literal = false
        ∧ q.nominal ≤ c.t
        ∧ (c.t ≤ q.nominal + 1000
            ∨ ∃ l ∈ (RS.run .fixed {} ls).reqLog, l.literal = true ∧ c.t = l.t + 1000) := by
  intro c hc hi hl
  obtain ⟨q, hq, h1, h2, h3, h4, h5, h6⟩ := C14_serial_timing ls h c hc hi hl
  have := litSlack_le (RS.run .fixed {} ls).reqLog
  refine ⟨q, hq, h1, h2, by omega, ?_⟩
  rcases h6 with h6 | h6
  · left; omega
  · exact Or.inr h6

/-- **Exact compounding.** In a history without literals every host-name lookup that is not
    aborted completes at exactly max(request, nominal of the previous one) + latency. -/
theorem C14_serial_exact_without_literals (ls : List RLbl) (h : RS.okRun .fixed {} ls)
    (hnl : ∀ q ∈ (RS.run .fixed {} ls).reqLog, q.literal = false) :
    ∀ c ∈ (RS.run .fixed {} ls).compLog, c.inline = true →
      ∃ q ∈ (RS.run .fixed {} ls).reqLog, q.h = c.h ∧ c.t = q.nominal := by
  intro c hc hi
  obtain ⟨q, hq, m⟩ := (RInv.run_init ls h).core.match_c c hc
  have t := m.timed hi
  have hn := t.name (m.literal.symm.trans (hnl q hq))
  rw [litSlack_nolit hnl] at hn
  refine ⟨q, hq, m.h, ?_⟩
  rcases t.exact with h6 | ⟨l, hl', hll, _⟩
  · omega
  · rw [hnl l hl'] at hll; cases hll

/-- **When the 1 µs clause does hold.** A lookup (host name or literal) completes exactly on
    its schedule unless some literal was requested in the window that opens 1 µs before that
    schedule and closes at the completion. -/
theorem C14_on_schedule_unless_literal_in_window (ls : List RLbl) (h : RS.okRun .fixed {} ls) :
    ∀ c ∈ (RS.run .fixed {} ls).compLog, c.inline = true →
      (∀ l ∈ (RS.run .fixed {} ls).reqLog, l.literal = true → ¬ (c.sched - 1000 < l.t ∧ l.t < c.t)) →
      c.t = c.sched := by
  intro c hc hi hw
  obtain ⟨q, _, m⟩ := (RInv.run_init ls h).core.match_c c hc
  have t := m.timed hi
  rcases t.exact with h7 | ⟨l, hl, hll, hlt⟩
  · exact h7
  · have := hw l hl hll
    have := t.late
    omega

/-- **Literals.** A literal requested at `q.t` is scheduled for `q.t + 1 µs`, never completes
    before that, and completes exactly 1 µs after the request of some literal requested no
    earlier than itself (itself, unless a later literal took the timer over). The transcription
    of a literal's `async_resolve` (`R.resolveLiteral`, label `resolveLit`) has no oracle input. -/
theorem C14_literal_fast (ls : List RLbl) (h : RS.okRun .fixed {} ls) :
    ∀ c ∈ (RS.run .fixed {} ls).compLog, c.inline = true → c.literal = true →
      ∃ q ∈ (RS.run .fixed {} ls).reqLog, q.h = c.h ∧ q.literal = true
        ∧ c.sched = q.t + 1000 ∧ q.t + 1000 ≤ c.t
        ∧ ∃ l ∈ (RS.run .fixed {} ls).reqLog, l.literal = true ∧ q.t ≤ l.t ∧ c.t = l.t + 1000 := by
  intro c hc hi hl
  obtain ⟨q, hq, m⟩ := (RInv.run_init ls h).core.match_c c hc
  have t := m.timed hi
  have hs := t.lit hl
  have h6 := t.late
  have hql := m.literal.trans hl
  refine ⟨q, hq, m.h, hql, hs, by omega, ?_⟩
  rcases t.exact with h7 | ⟨l, hl', hll, hlt⟩
  · exact ⟨q, hq, hql, Int.le_refl _, by omega⟩
  · exact ⟨l, hl', hll, by omega, hlt⟩

/-- **cancel().** At a `cancel()` every queued entry is posted once with `operation_aborted`,
    in queue order, and the queue is left empty; with fresh handler ids none of them is ever
    completed again, whatever happens afterwards. -/
theorem C14_cancel (pre post : List RLbl) (t : Int)
    (h : RS.okRun .fixed {} (pre ++ .cancel t :: post)) :
    (RS.run .fixed {} (pre ++ [.cancel t])).compLog
        = (RS.run .fixed {} pre).compLog
          ++ (RS.run .fixed {} pre).r.queue.map (RComp.ofEntry t false .aborted)
    ∧ (RS.run .fixed {} (pre ++ [.cancel t])).r.queue = []
    ∧ ((RS.run .fixed {} (pre ++ .cancel t :: post)).fresh →
        ∀ e ∈ (RS.run .fixed {} pre).r.queue,
          ((RS.run .fixed {} (pre ++ .cancel t :: post)).compLog.map RComp.h).count e.h = 1) := by
  have hstep : RS.run .fixed {} (pre ++ [.cancel t])
      = ({ (RS.run .fixed {} pre) with now := t }).doCancel := by
    rw [RS.run_append]; rfl
  refine ⟨by rw [hstep, doCancel_eq], by rw [hstep, doCancel_eq], ?_⟩
  intro hf e he
  have hnd := (C14_exactly_once _ h).2.1 hf
  have hsplit : pre ++ .cancel t :: post = (pre ++ [.cancel t]) ++ post := by simp
  obtain ⟨ext, hext⟩ := rs_run_compLog .fixed post (RS.run .fixed {} (pre ++ [.cancel t]))
  rw [← RS.run_append, ← hsplit] at hext
  have hmem : e.h ∈ (RS.run .fixed {} (pre ++ .cancel t :: post)).compLog.map RComp.h := by
    rw [← hext, hstep, doCancel_eq]
    simp only [List.map_append, List.mem_append, List.mem_map]
    left; right
    exact ⟨RComp.ofEntry t false .aborted e, ⟨e, he, rfl⟩, rfl⟩
  exact (List.nodup_append.mp hnd).1.count.trans (if_pos hmem)

namespace REx

def ms (n : Int) : Int := n * 1000000

/-- three host names at 0 with latencies 100 ms, 100 ms, 10 ms — pinned tree: the third is
    scheduled for 0 + 100 + 10 = 110 ms but sits behind the second, whose pop re-arms the timer
    with that past expiry -/
def overlapPinned : List RLbl :=
  [.resolveName 0 .ok ["1.2.3.4"] (ms 100) 80 0, .resolveName 0 .ok ["1.2.3.5"] (ms 100) 80 1,
   .resolveName 0 .ok ["1.2.3.6"] (ms 10) 80 2,
   .timerExpires (ms 100), .timerFires (ms 100) [], .timerExpires (ms 200), .timerFires (ms 200) [], .timerExpires (ms 200), .timerFires (ms 200) []]

def overlapFixed : List RLbl :=
  [.resolveName 0 .ok ["1.2.3.4"] (ms 100) 80 0, .resolveName 0 .ok ["1.2.3.5"] (ms 100) 80 1,
   .resolveName 0 .ok ["1.2.3.6"] (ms 10) 80 2,
   .timerExpires (ms 100), .timerFires (ms 100) [], .timerExpires (ms 200), .timerFires (ms 200) [], .timerExpires (ms 210), .timerFires (ms 210) []]

/-- literals 999 ns apart: each re-arms the timer to its own deadline and is popped first -/
def chain : List RLbl :=
  [.resolveName 0 .ok ["1.2.3.4"] 500 80 0, .resolveLit 0 "1.1.1.1" 80 1,
   .resolveLit 999 "1.1.1.2" 80 2, .resolveLit 1998 "::1" 80 3,
   .timerExpires 2998, .timerFires 2998 [], .timerExpires 2998, .timerFires 2998 [], .timerExpires 2998, .timerFires 2998 [], .timerExpires 2998, .timerFires 2998 []]

/-- one literal pending when the host name is requested (+1 µs on its schedule), another
    requested 1 ns before it is due (+999 ns): 1999 ns after the nominal completion -/
def two : List RLbl :=
  [.resolveLit 0 "1.1.1.1" 80 0, .resolveName 0 .ok ["1.2.3.4"] 5000 80 1, .timerExpires 1000, .timerFires 1000 [],
   .resolveLit 5999 "1.1.1.2" 80 2, .timerExpires 6999, .timerFires 6999 [], .timerExpires 6999, .timerFires 6999 []]

/-- a host name requested while an overdue entry waits behind a literal -/
def early : List RLbl :=
  [.resolveLit 0 "1.1.1.1" 80 0, .resolveLit 999 "1.1.1.2" 80 1,
   .resolveName 1500 .ok ["1.2.3.4"] 600 80 2,
   .timerExpires 1999, .timerFires 1999 [], .timerExpires 1999, .timerFires 1999 [], .timerExpires 1999, .timerFires 1999 []]

def earlyFixed : List RLbl :=
  [.resolveLit 0 "1.1.1.1" 80 0, .resolveLit 999 "1.1.1.2" 80 1,
   .resolveName 1500 .ok ["1.2.3.4"] 600 80 2,
   .timerExpires 1999, .timerFires 1999 [], .timerExpires 1999, .timerFires 1999 [], .timerExpires 2100, .timerFires 2100 []]

/-- the first handler calls `cancel()` while a second lookup is queued -/
def recancel : List RLbl :=
  [.resolveName 0 .ok ["1.2.3.4"] 1000 80 0, .resolveName 0 .ok ["1.2.3.5"] 1000 80 1,
   .timerExpires 1000, .timerFires 1000 [.cancel]]

/-- a bit of everything: results, errors, a literal, a lookup issued later, a handler that
    cancels and issues an IPv6 literal from inside `on_lookup` -/
def mixed : List RLbl :=
  [.resolveName 0 .ok ["1.2.3.4", "5.6.7.8"] (ms 100) 80 0, .resolveLit 0 "10.9.8.7" 8080 1,
   .timerExpires 1000, .timerFires 1000 [], .resolveName (ms 30) .hostNotFound [] (ms 50) 81 3,
   .timerExpires (ms 100), .timerFires (ms 100) [.cancel, .lit "::1" 0 4, .name .ok ["9.9.9.9"] (ms 50) 65535 5],
   .timerExpires (ms 100 + 1000), .timerFires (ms 100 + 1000) [], .timerExpires (ms 150 + 1000), .timerFires (ms 150 + 1000) []]

theorem mixed_ok : RS.okRun .fixed {} mixed := by decide +kernel

/-- a wait `cancel()` left armed expires at the instant another handler queues a lookup: the
    posted `on_lookup` finds that lookup at the front -/
def stale : List RLbl :=
  [.resolveLit 0 "127.0.0.1" 0 0, .cancel 500, .timerExpires 1000,
   .resolveName 1000 .ok ["1.2.3.4"] (ms 50) 80 1, .timerFires 1000 []]

def staleFixed : List RLbl :=
  stale ++ [.timerExpires (ms 50 + 1000), .timerFires (ms 50 + 1000) []]

/-- the timer expires for a due host name; a handler due at the same instant runs first and
    requests a literal, which is inserted at the front -/
def race : List RLbl :=
  [.resolveName 1000 .ok ["3.3.3.3"] 500 80 0, .timerExpires 1500, .resolveLit 1500 "10.9.8.7" 80 1,
   .timerFires 1500 []]

def raceFixed : List RLbl :=
  race ++ [.timerExpires 2500, .timerFires 2500 [], .timerExpires 2500, .timerFires 2500 []]

end REx

/-- **As-is chaining defect** (`start = m_queue.front().completion_time`): three host-name
    lookups requested at 0 with latencies 100 ms, 100 ms, 10 ms. The third is *scheduled* for
    110 ms; `on_lookup` pops in queue order, so (on the repaired kernel, where an overdue timer
    fires at the current instant) it completes at 200 ms, together with the second one —
    10 ms early. The repaired chaining completes them at 100, 200, 210 ms. -/
theorem C14_asis_overlap :
    RS.okRun .pinned {} REx.overlapPinned
    ∧ (RS.run .pinned {} REx.overlapPinned).compLog.map (fun c => (c.h, c.sched, c.t))
        = [(0, 100000000, 100000000), (1, 200000000, 200000000), (2, 110000000, 200000000)]
    ∧ RS.okRun .fixed {} REx.overlapFixed
    ∧ (RS.run .fixed {} REx.overlapFixed).compLog.map (fun c => (c.h, c.sched, c.t))
        = [(0, 100000000, 100000000), (1, 200000000, 200000000), (2, 210000000, 210000000)]
    ∧ (RS.run .fixed {} REx.overlapFixed).reqLog.map (fun q => (q.h, q.nominal))
        = [(0, 100000000), (1, 200000000), (2, 210000000)] := by decide +kernel

/-- **As-is re-entrancy defect**: a handler that calls `cancel()` while another lookup is
    queued makes `on_lookup` read `m_queue.front()` of the empty vector (the `empty` flag was
    read before the handler ran). Repaired: the second lookup is aborted, nothing else. -/
theorem C14_asis_cancel_in_handler :
    RS.okRun .pinned {} REx.recancel ∧ (RS.run .pinned {} REx.recancel).ub = true
    ∧ RS.okRun .fixed {} REx.recancel ∧ (RS.run .fixed {} REx.recancel).ub = false
    ∧ (RS.run .fixed {} REx.recancel).compLog.map (fun c => (c.h, c.t, c.ec, c.inline))
        = [(0, 1000, .ok, true), (1, 1000, .aborted, false)] := by decide +kernel

/-- **As-is stale-completion defect** (`on_lookup` pops the front whatever its time; everything
    else repaired). (a) A literal is cancelled at 500 ns, `cancel()` leaves the timer armed for
    1000; it expires at the instant another handler requests a host name with latency 50 ms:
    the posted `on_lookup` completes that lookup at 1000 ns, 50 ms early. (b) The timer expires
    for a due host name; a handler due at the same instant requests a literal first: it
    completes 0 ns after the request (harmless for C14, but not what was scheduled). Repaired
    (`on_lookup` re-arms when the front is not due): 50 ms + 1 µs; literal at 2500, the host
    name after it. -/
theorem C14_asis_stale_completion :
    RS.okRun .noDueCheck {} REx.stale
    ∧ (RS.run .noDueCheck {} REx.stale).compLog.map (fun c => (c.h, c.ec, c.sched, c.t))
        = [(0, .aborted, 1000, 500), (1, .ok, 50001000, 1000)]
    ∧ RS.okRun .fixed {} REx.staleFixed
    ∧ (RS.run .fixed {} REx.staleFixed).compLog.map (fun c => (c.h, c.ec, c.sched, c.t))
        = [(0, .aborted, 1000, 500), (1, .ok, 50001000, 50001000)]
    ∧ RS.okRun .noDueCheck {} REx.race
    ∧ (RS.run .noDueCheck {} REx.race).compLog.map (fun c => (c.h, c.sched, c.t)) = [(1, 2500, 1500)]
    ∧ RS.okRun .fixed {} REx.raceFixed
    ∧ (RS.run .fixed {} REx.raceFixed).compLog.map (fun c => (c.h, c.sched, c.t))
        = [(1, 2500, 2500), (0, 1500, 2500)] := by decide +kernel

/-- **Why `back()` alone is not the repair**: literals at 0 and 999 ns keep the timer until
    1999; a host name with latency 600 ns requested at 1500 chains off the overdue literal
    (1000) and completes at 1999 — 499 ns after the request. With `max(now, ·)`: 2100. -/
theorem C14_naive_back_early :
    RS.okRun .naiveBack {} REx.early
    ∧ (RS.run .naiveBack {} REx.early).compLog.map (fun c => (c.h, c.t)) = [(1, 1999), (0, 1999), (2, 1999)]
    ∧ (RS.run .naiveBack {} REx.early).reqLog.map (fun q => (q.h, q.t, q.nominal))
        = [(0, 0, 1000), (1, 999, 1999), (2, 1500, 2100)]
    ∧ RS.okRun .fixed {} REx.earlyFixed
    ∧ (RS.run .fixed {} REx.earlyFixed).compLog.map (fun c => (c.h, c.t)) = [(1, 1999), (0, 1999), (2, 2100)] := by
  decide +kernel

/-- **"Literals complete within a microsecond" fails when literals follow each other closely**
    (repaired tree): literals requested at 0, 999, 1998 ns all complete at 2998 ns, newest
    first, and so does the host name (latency 500 ns) queued behind them. Each further literal
    requested within 1 µs of the previous one postpones everything again: no bound. -/
theorem C14_literal_chain_corner :
    RS.okRun .fixed {} REx.chain
    ∧ (RS.run .fixed {} REx.chain).compLog.map (fun c => (c.h, c.literal, c.sched, c.t))
        = [(3, true, 2998, 2998), (2, true, 1999, 2998), (1, true, 1000, 2998), (0, false, 500, 2998)] := by
  decide +kernel

/-- **"A pending literal delays a host name by at most 1 µs" fails with two literals that are
    never pending together** (repaired tree): a literal pending at the request moves the
    schedule to nominal + 1 µs, a second one requested 1 ns before that schedule holds the
    timer 999 ns longer: nominal 5000, completion 6999. -/
theorem C14_two_literals_corner :
    RS.okRun .fixed {} REx.two
    ∧ (RS.run .fixed {} REx.two).compLog.map (fun c => (c.h, c.literal, c.sched, c.t))
        = [(0, true, 1000, 1000), (2, true, 6999, 6999), (1, false, 6000, 6999)]
    ∧ (RS.run .fixed {} REx.two).reqLog.map (fun q => (q.h, q.nominal))
        = [(0, 1000), (1, 5000), (2, 6999)] := by decide +kernel

example : RS.okRun .fixed {} REx.mixed := REx.mixed_ok

example : (RS.run .fixed {} REx.mixed).compLog.map (fun c => (c.h, c.t, c.ec, c.inline))
    = [(1, 1000, .ok, true), (0, 100000000, .ok, true), (3, 100000000, .aborted, false),
       (4, 100001000, .ok, true), (5, 150001000, .ok, true)] := by decide +kernel

example : (RS.run .fixed {} REx.mixed).compLog.map (fun c => c.res)
    = [[("10.9.8.7", 8080)], [("1.2.3.4", 80), ("5.6.7.8", 80)], [], [("::1", 0)],
       [("9.9.9.9", 65535)]] := by decide +kernel

example : (RS.run .fixed {} REx.mixed).fresh := by decide +kernel
example : (RS.run .fixed {} REx.mixed).r.queue = [] := by decide +kernel

example := C14_exactly_once REx.mixed REx.mixed_ok
example := C14_results REx.mixed REx.mixed_ok
example := C14_serial_timing REx.mixed REx.mixed_ok
example := C14_literal_fast REx.mixed REx.mixed_ok
example := C14_cancel [.resolveLit 0 "127.0.0.1" 0 0] [.timerExpires 1000] 500 (by decide +kernel)
/-- the repaired run of the witness is well-timed: clause 3 of `C14_asis_stale_completion` -/
example := C14_exactly_once REx.staleFixed C14_asis_stale_completion.2.2.1
example := C14_serial_bounds REx.raceFixed (by decide +kernel)

end SimVerif
