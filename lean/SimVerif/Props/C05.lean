/-
  C05 — TCP delivers an exact in-order prefix of what was written; EOF comes last; a socket
        object that is closed and reused starts with an empty stream.

  Property theorems only. Mechanism model: SimVerif/Tcp.lean (unchanged). Open system
  (SimVerif/StreamSys.lean): ONE direction — writer `c.a`, reader `c.b` — of one established
  connection, with an adversarial network: a bag of in-flight packets from which the adversary
  delivers ANY element at ANY time (arbitrary delay and reordering) and drops any packet that
  carries a drop callback (which calls the writer's `packet_dropped`, as queues and droppers
  do); it never duplicates or alters a packet (the simulated network never does: C10). The
  writer's synchronous sections (segmentation loop; ACK path: retransmission loop, window
  growth, wake-up of a blocked writer) run one iteration per `run` label, so that the drop of a
  just-sent packet by the first hop can be interleaved anywhere. Labels: `write` (any buffer
  layout), `run`, `deliver i`, `drop i`, `read` (any buffer sizes; completed at once or later by
  `maybe_wakeup_reader`), `readNb`, `waitRead`, `closeA`.

  All theorems quantify over EVERY label sequence `ls` from ANY initial network state `n` in
  which the two sockets exist and have not sent / received anything yet (`TcpStart`;
  `established` builds one explicitly for arbitrary routes, and the last section shows that the
  real handshake functions produce one). The invariant (SimVerif/Lemmas/TcpSysInv.lean) never
  mentions the congestion window or the in-flight account: whatever those do, what reaches the
  reader is right. The reorder buffer's stale entries (numbers below
  the expected one: first insertion wins, never erased) are tolerated by only requiring every
  entry to be genuine.

  Ghost logs: `segs` (payload of sequence number k, appended when `tcpSendSeg` creates the
  packet), `written` (their concatenation), `accepted` (for every completed write: the first `n`
  bytes of its buffers, `n` = the count its handler is posted with), `delivered` (bytes returned
  by completed reads — `readSome` results — in order), `eofAt` (length of `delivered` when
  end-of-file was first reported to the reader, by a read or by a wait).
-/
import SimVerif.Lemmas.TcpSysInv
import SimVerif.TcpAsIs
import SimVerif.TcpEx
import SimVerif.Lemmas.TcpGhost

namespace SimVerif

/-- **Prefix.** The bytes handed to the reader so far are exactly a prefix of the bytes
    written: nothing missing inside the prefix, duplicated, reordered or altered — whatever the
    write sizes, scatter/gather layouts, read-buffer sizes, waits plus non-blocking reads,
    drops, delays, reorderings and retransmissions. -/
theorem C05_prefix (c : TcpCfg) (n : NetSt) (h : TcpStart c n) (ls : List TLbl) :
    (TS.run c (TS.init c n) ls).delivered <+: (TS.run c (TS.init c n) ls).written := by
  have hI := (TInv.reach h ls).core
  obtain ⟨sb, _, hq⟩ := hI.exB
  exact hI.flat ▸ hq.isPrefix

/-- **"Written" is what completed writes reported.** Outside a segmentation loop the bytes
    written are exactly the concatenation, over all completed writes in order, of the first `n`
    bytes of each write's buffers, `n` being the count its handler got; during a loop the
    segments sent so far by the write in progress come on top (they are a prefix of its buffers
    and will be reported when the loop ends). -/
theorem C05_written_is_accepted (c : TcpCfg) (n : NetSt) (h : TcpStart c n) (ls : List TLbl) :
    match (TS.run c (TS.init c n) ls).ctl with
    | .segs op _ rest acc =>
      ∃ cur, (TS.run c (TS.init c n) ls).written = (TS.run c (TS.init c n) ls).accepted ++ cur
        ∧ cur ++ rest.flatten = op.bufs.flatten ∧ acc = cur.length
    | _ => (TS.run c (TS.init c n) ls).written = (TS.run c (TS.init c n) ls).accepted := by
  have hI := (TInv.reach h ls).ctl
  cases hc : (TS.run c (TS.init c n) ls).ctl with
  | idle | resend _ _ _ => rw [hc] at hI; exact hI
  | segs op hops rest acc => rw [hc] at hI; exact hI.2.1

/-- … so between API calls the reader has a prefix of what write handlers reported. -/
theorem C05_prefix_accepted (c : TcpCfg) (n : NetSt) (h : TcpStart c n) (ls : List TLbl)
    (hidle : (TS.run c (TS.init c n) ls).ctl = .idle) :
    (TS.run c (TS.init c n) ls).delivered <+: (TS.run c (TS.init c n) ls).accepted := by
  have h1 := C05_prefix c n h ls
  have h2 := C05_written_is_accepted c n h ls
  rw [hidle] at h2
  exact h2 ▸ h1

/-- **Every data packet anywhere is genuine** (in flight, waiting for retransmission, in the
    reorder buffer): sequence number k carries exactly `segs[k]`, and the segments concatenate
    to what was written; what is queued for the reader continues what was delivered:
    `delivered ++ queued = segs[0] ++ … ++ segs[nextIn-1]`. -/
theorem C05_packets_genuine (c : TcpCfg) (n : NetSt) (h : TcpStart c n) (ls : List TLbl) :
    let s := TS.run c (TS.init c n) ls
    s.segs.flatten = s.written
    ∧ (∀ p ∈ s.bag, p.ty = .payload → s.segs[p.id]? = some p.payload)
    ∧ (∃ sa, s.net.tcp? c.a = some sa ∧ ∀ p ∈ sa.resend, p.ty = .payload ∧ s.segs[p.id]? = some p.payload)
    ∧ (∃ sb, s.net.tcp? c.b = some sb
        ∧ (∀ e ∈ sb.reorder, e.2.ty = .payload → s.segs[e.1]? = some e.2.payload)
        ∧ s.delivered ++ bytesOf sb.inq = (s.segs.take sb.nextIn).flatten) := by
  intro s
  exact ⟨(TInv.reach h ls).core.flat, (TInv.reach h ls).core.genuine⟩

/-- **A read is `take`.** On an open, connected socket whose queue is non-empty and does not
    start with an error packet, a read with buffers of total capacity `c` returns exactly the
    first `min c available` bytes queued before the next error packet, leaves exactly the rest
    queued (a partially read packet keeps its remainder), and does not touch anything from the
    error packet on. -/
theorem C05_read_is_take (s : TcpSock) (caps : List Nat) (p : Pkt) (rest : List Pkt)
    (hopen : s.isOpen = true) (hconn : s.connectH = none) (hq : s.inq = p :: rest) (hp : p.ty ≠ .err) :
    ∃ d, (s.readSome true caps).2 = .ok d
      ∧ d = (availBytes s.inq).take (caps.foldl (· + ·) 0)
      ∧ availBytes (s.readSome true caps).1.inq = (availBytes s.inq).drop (caps.foldl (· + ·) 0)
      ∧ (s.readSome true caps).1.inq.dropWhile (fun p => p.ty != .err) = s.inq.dropWhile (fun p => p.ty != .err)
      ∧ (s.readSome true caps).1.nextIn = s.nextIn ∧ (s.readSome true caps).1.reorder = s.reorder := by
  obtain ⟨h1, h2, h3⟩ := takeQueued_is_take (s.inq.length + 1) (caps.foldl (· + ·) 0) s.inq (by omega)
  rw [readSome_data s caps p rest hopen hconn hq hp]
  exact ⟨_, rfl, h1, h2, h3, rfl, rfl⟩

/-- **EOF comes last.** If end-of-file has been reported to the reader — at a moment when `k`
    bytes had been delivered — then at that moment (take `ls` up to there) and at every later
    moment the bytes delivered are ALL the bytes ever written (`delivered = written`), still
    exactly `k` of them: everything written before the close had been delivered, and nothing
    is delivered afterwards. (The writer had closed: `closed = true`.) -/
theorem C05_eof_last (c : TcpCfg) (n : NetSt) (h : TcpStart c n) (ls : List TLbl) (k : Nat)
    (he : (TS.run c (TS.init c n) ls).eofAt = some k) :
    (TS.run c (TS.init c n) ls).delivered = (TS.run c (TS.init c n) ls).written
    ∧ (TS.run c (TS.init c n) ls).delivered.length = k
    ∧ (TS.run c (TS.init c n) ls).closed = true := by
  obtain ⟨h1, h2, h3⟩ := (TInv.reach h ls).core.eof k he
  exact ⟨h2, h1.symm, h3⟩

/-- the EOF mark, once set, stays (so `C05_eof_last` applied to a prefix of the history and to
    the whole history speaks about the same `k`) -/
theorem C05_eof_stable (c : TcpCfg) (s : TS) (l : TLbl) (k : Nat) (he : s.eofAt = some k) :
    (s.step c l).eofAt = some k :=
  (TS.step_move c s l).ghost.2.2 k he

/-- **close() leaves an empty stream state**: incoming queue, reorder buffer and retransmission
    list empty, sequence counters, in-flight account and last-drop mark zero; the socket is
    closed and detached from its channel — so a reused socket object starts its next connection
    with nothing of the previous one. -/
theorem C05_reuse_empty (n : NetSt) (now : Int) (name : String) (s0 : TcpSock) (hs : n.tcp? name = some s0) :
    ∃ s', (n.tcpClose now name).1.tcp? name = some s'
      ∧ s'.inq = [] ∧ s'.reorder = [] ∧ s'.resend = []
      ∧ s'.nextIn = 0 ∧ s'.nextOut = 0 ∧ s'.inFlight = 0 ∧ s'.outstanding = [] ∧ s'.lastDrop = 0
      ∧ s'.isOpen = false ∧ s'.chan = none := by
  obtain ⟨_, h, rfl⟩ := (tcpClose_step n now name).self s0 hs
  exact ⟨_, h, rfl, rfl, rfl, rfl, rfl, rfl, rfl, rfl, rfl, rfl⟩

/-- … and so does every way into the next connection: `open()` (used by `async_connect` on a
    closed socket) and the acceptor's `internal_connect` (accept-into an existing socket object)
    both go through `close()`; whatever the object held, the new connection starts empty. A
    socket in such a state meets either socket clause of `TcpStart`, so the theorems above apply
    to the new connection. -/
theorem C05_reuse_attach_empty (n : NetSt) (now : Int) (peer : String) (ep : Ep) (cid : Nat) (p0 : TcpSock)
    (hs : n.tcp? peer = some p0) :
    (∃ s', (n.tcpAttach now peer ep cid).1.tcp? peer = some s' ∧ s'.StreamEmpty)
    ∧ (∀ v4, ∃ s', (n.tcpOpen now peer v4).1.tcp? peer = some s' ∧ s'.StreamEmpty) :=
by
  refine ⟨?_, fun v4 => ?_⟩
  · obtain ⟨cs, -, e⟩ := tcpAttach_exact n now peer ep cid p0 hs
    rw [e]
    cases cs[cid]? <;> exact ⟨_, tcp?_setTcp_same _ _ _, ⟨rfl, rfl, rfl, rfl, rfl, rfl, rfl, rfl⟩⟩
  · obtain ⟨_, h, _, rfl⟩ := (tcpOpen_step n now peer v4).self p0 hs
    exact ⟨_, h, rfl, rfl, rfl, rfl, rfl, rfl, rfl, rfl⟩

/-- **The pinned tree's close() (queues kept) violates the property**: in the scenario of
    SimVerif/TcpAsIs.lean — 3 bytes of connection 1 left unread in `s2`, `s2` closed and
    accepted into for connection 2, on which nothing is ever written — the first read on the
    new connection returns the previous connection's bytes. With the repaired close() the same
    read finds nothing (`would_block`). -/
theorem C05_asis_stale :
    rdEvOf (Reuse.reusedAsIs.tcpReadNb "s2" [10]).2 = some (.data [1, 2, 3])
    ∧ rdEvOf (Reuse.reusedFixed.tcpReadNb "s2" [10]).2 = none := by
  decide +kernel

/-! ### the ghost logs are what the handlers are told

  `TS.step` records `rdEvOf r` for the `readSome` result `r` of `async_read_some` / `read_some`,
  the error of `available` for `async_wait`, and `wakeRead` of the socket state just before
  `maybe_wakeup_reader()` for an arrival. The completions the mechanism posts are functions of
  the very same results (`readCompl`, `waitCompl` in Lemmas/TcpEq.lean, `wakeCompl` in Lemmas/TcpRead.lean). -/

/-- `async_read_some`: after aborting whatever was pending, the handler is posted with
    `readCompl` of the `readSome` result whose `rdEvOf` the ghost records — for `.ok d` the
    completion's `data` field is `d` itself, the bytes appended to `delivered` -/
theorem C05_ghost_read (n : NetSt) (name : String) (op : ReadOp) (s : TcpSock) (hs : n.tcp? name = some s) :
    postsOf (n.tcpAsyncRead name op).2
      = postsOf s.abortRecv.2 ++ readCompl op.h (s.readSome s.chan.isSome op.caps).2 := by
  rw [tcpAsyncRead_eq hs]
  -- `abortRecv` clears handler slots only: `chan`, `isOpen`, `connectH`, `inq` are those of `s`
  rw [postsOf_append, asyncReadImpl_posts, show s.abortRecv.1.chan = s.chan from rfl,
    readSome_congr s s.abortRecv.1 s.chan.isSome op.caps rfl rfl rfl]

/-- `async_wait(wait_read)`: the handler gets the error of `available` the ghost records, or
    success without data when bytes are available -/
theorem C05_ghost_wait (n : NetSt) (name : String) (h : Nat) (s : TcpSock) (hs : n.tcp? name = some s) :
    postsOf (n.tcpWaitRead name h).2 = postsOf s.abortRecv.2 ++ waitCompl h (s.available s.chan.isSome) := by
  rw [tcpWaitRead_eq hs]
  rw [postsOf_append, asyncWaitReadImpl_posts, show s.abortRecv.1.chan = s.chan from rfl,
    available_congr s s.abortRecv.1 _ rfl rfl]

/-- an arriving segment / end-of-stream marker: completions are posted only on the in-order
    path, by `maybe_wakeup_reader()` on the state `tcpPreWake` computes, and the ghost event
    `wakeRead` records exactly the data / error those completions carry (a completion not
    recorded is a wait completing with success: no data) -/
theorem C05_ghost_arrival (tp : TParams) (n : NetSt) (now : Int) (name : String) (p : Pkt)
    (hty : p.ty = .payload ∨ p.ty = .err) :
    postsOf (n.tcpIncoming tp now name p).2
      = (match n.tcpPreWake name p with | some s1 => s1.wakeCompl tp | none => [])
    ∧ ∀ s1, n.tcpPreWake name p = some s1 →
        (∀ d, s1.wakeRead tp = some (.data d) → ∃ h, s1.wakeCompl tp = [{ h := h, ec := .ok, extra := readExtra d, data := d }])
        ∧ (∀ e, s1.wakeRead tp = some (.err e) → ∃ h x, s1.wakeCompl tp = [{ h := h, ec := e, extra := x }])
        ∧ (s1.wakeRead tp = none → ∀ c ∈ s1.wakeCompl tp, c.ec = .ok ∧ c.extra = "") := by
  refine ⟨?_, fun s1 _ => wakeRead_wakeCompl tp s1⟩
  cases hs : n.tcp? name with
  | none => unfold NetSt.tcpIncoming NetSt.tcpPreWake; rw [hs]; rfl
  | some s =>
    rcases tcpIncoming_data_cases tp n now name p s hs hty with ⟨e, hw⟩ |
      ⟨_, _, _, ⟨hw, e⟩ | ⟨_, hw, e⟩⟩ <;> rw [e, hw]
    · rfl
    · rfl
    · exact maybeWakeupReader_posts tp _

/-- the explicitly built established connection is a start state in both directions -/
example (cfg : NetCfg) (c : TcpCfg) (epA epB : Ep) (hAB hBA : List String) (h : c.a ≠ c.b) :
    TcpStart c (established cfg c epA epB hAB hBA) := (established_start cfg c epA epB hAB hBA h).1

/-- **the real handshake produces a start state** (both directions): `c` on A connects to the
    acceptor `a` on B, which has an accept into `p` outstanding; the SYN reaches `a`
    (`accIncoming` → `accCheckQueue` → `tcpAttach p`), the SYN-ACK reaches `c`. -/
example : TcpStart { a := "c", b := "p" } Hs.r3.1 ∧ TcpStart { a := "p", b := "c" } Hs.r3.1 := by
  rw [Hs.r3_eq]
  exact ⟨tcpStart_of_check _ _ (by decide) (by decide +kernel) (by decide +kernel),
         tcpStart_of_check _ _ (by decide) (by decide +kernel) (by decide +kernel)⟩

/-- … with both sockets open on channel 0, the connector's handler completed -/
example : (Hs.r3.1.tcp? "c").map (fun s => (s.isOpen, s.chan, s.connectH, s.mss)) = some (true, some 0, none, 100)
    ∧ (Hs.r3.1.tcp? "p").map (fun s => (s.isOpen, s.chan, s.connectH, s.mss)) = some (true, some 0, none, 3000)
    ∧ postsOf Hs.r3.2 = [{ h := 7, ec := .ok }] := by
  rw [Hs.r3_eq]; decide +kernel

/-- the history of SimVerif/TcpEx.lean: segment 0 dropped by the first hop, segment 1 arrives
    first (reorder buffer), its ACK triggers the retransmission of segment 0, whose arrival
    completes the pending 2-byte read with half of it; the rest is read non-blocking; a second
    write blocks on the halved window and is aborted by close; EOF is reported after all 4
    accepted bytes -/
example : TcpEx.final.delivered = [1, 2, 3, 4] ∧ TcpEx.final.accepted = [1, 2, 3, 4]
    ∧ TcpEx.final.segs = [[1, 2, 3], [4]] ∧ TcpEx.final.eofAt = some 4 ∧ TcpEx.final.closed = true
    ∧ TcpEx.final.posts.map (fun x => (x.h, x.ec, x.extra))
      = [(1, .ok, "n=4 stream=0 off=0"), (7, .ok, "n=2 data=0102"), (2, .aborted, "n=0 stream=0 off=4"),
         (9, .aborted, ""), (8, .eof, "n=0 data=-")] := TcpEx.final_eq

example := C05_prefix TcpEx.c TcpEx.n0 (established_start _ _ _ _ _ _ (by decide)).1 TcpEx.hist
example := C05_eof_last TcpEx.c TcpEx.n0 (established_start _ _ _ _ _ _ (by decide)).1 TcpEx.hist 4 TcpEx.final_eq.2.2.2.1

end SimVerif
