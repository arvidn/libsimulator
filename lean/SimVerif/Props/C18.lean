/-
  SimVerif.Props.C18 — the HTTP test proxy `sim::http_proxy` forwards absolute-URI requests and
  relays replies verbatim.

  Mechanism model: SimVerif/HttpProxy.lean (one function per callback of src/http_proxy.cpp, over
  checked memory; the tree these theorems are about is the REPAIRED one: bracket rule F26a,
  `m_connecting` F26b, session numbers F26c/d/f/g, full-buffer test F26e).
  Open system: SimVerif/HttpProxySys.lean — the environment (two reliable byte streams, resolver,
  acceptor) chooses every completion: any cut of the client's bytes into read completions, any
  cut of the origin's bytes, any partial acceptance of writes, any lookup / connect outcome,
  errors and `stop()` at any moment. `PS.ok` is what asio guarantees (a completion belongs to an
  outstanding operation; a read delivers 1..cap bytes; a write is accepted for a prefix).

  The system-level theorems quantify over EVERY well-behaved event sequence from the constructor
  (`Reach`) or start from any state of the invariant (`PSInv`); the others speak of one callback.
-/
import SimVerif.Lemmas.ProxyInv
import SimVerif.Lemmas.ProxyRewrite

namespace SimVerif.HttpProxy

open SimVerif.Http

/-- the states the proxy can be in: after any sequence of events the environment may deliver -/
def Reach (lit : Bytes → Option Bool) (port : Nat) (s : PS) : Prop :=
  ∃ es, PS.okRun lit (PS.init port) es ∧ s = (PS.init port).run lit es

theorem C18_invariant (lit : Bytes → Option Bool) (port : Nat) (s : PS) (h : Reach lit port s) : PSInv s := by
  obtain ⟨es, hok, rfl⟩ := h
  exact PSInv_run lit es _ (PSInv_init port) hok

/-- MEMORY SAFETY of the model: under a well-behaved environment no callback ever accesses one of
    the three 64 kB arrays out of bounds, calls `memmove` with a wrapped-around size, or lets the
    byte counts leave `[0, 65536]`. (On the pinned tree this fails:
    `C18_pinned_write_completion_after_close`, F26d — a write completion delivered after
    `close_connection()`.) -/
theorem C18_no_ub (lit : Bytes → Option Bool) (port : Nat) (s : PS) (h : Reach lit port s) :
    s.ub = false ∧ s.p.nCin ≤ BUF ∧ s.p.nSout ≤ BUF :=
  let i := C18_invariant lit port s h
  ⟨i.no_ub, i.nCin_le, i.nSout_le⟩

/-- For every absolute target `http://host[:port][/path]` with a well-formed authority — host
    non-empty, without '/', and either without ':' (IPv4 literal, name) or ending in ']' (bracketed
    IPv6 literal, with or without port); port = decimal digits < 65536; path empty or starting
    with '/' — `forward_request` dials `(host without its brackets, explicit port or 80)` and queues
    LITERALLY: `METHOD SP path-or-"/" SP "HTTP/1.1" CRLF`, then every parsed header as
    `name ": " value CRLF` in `std::map` order (names lower-cased, values trimmed, duplicates merged
    by the parser: `hs` is the parser's map), then `"host: " host CRLF` iff the map has no `host`
    key, then `CRLF`. -/
theorem C18_rewrite (m path' : Bytes) (t : Target) (hs : HMap) (h : t.wf) :
    rewrite { method := m, req := t.render, path := path', headers := hs } = .ok (expectedRewrite m t hs) :=
  rewrite_wf m path' t hs h

/-- The same from the bytes on the wire: a well-formed request line + headers (C15's `WellFormed`)
    whose target is such a URI parses (C15_roundtrip) and is rewritten as stated. -/
theorem C18_rewrite_wire (r : RawRequest) (t : Target) (hw : WellFormed r) (ht : t.wf) (htar : r.target = t.render) :
    parseRequest (render r) (render r).length = .ok (canon r) ∧
    rewrite (canon r) = .ok (expectedRewrite r.method t (canonHeaders r.headers)) := by
  refine ⟨parseRequest_render r hw, ?_⟩
  have := rewrite_wf r.method (canonPath r.method r.target) t (canonHeaders r.headers) ht
  simpa [canon, htar] using this

/-- anything whose first seven bytes are not `http://` (relative URI, `https://`, `CONNECT host:port`, …)
    and anything whose port (`reqPort`: `atoi` of what follows the authority's last ':') does not fit
    16 bits makes `forward_request` throw — and nothing else does (the other throw is the full queue) -/
theorem C18_rewrite_rejects_iff (r : Request) :
    rewrite r = .error () ↔ (r.req.take 7 ≠ HTTP_PFX ∨ reqPort r.req < 0 ∨ reqPort r.req > 65535) := by
  rw [rewrite_eq]
  split <;> rename_i h
  · exact ⟨fun _ => h, fun _ => rfl⟩
  · exact ⟨nofun, fun hc => absurd hc h⟩

/-- a request that `forward_request` accepts names a port that fits 16 bits -/
theorem C18_rewrite_port_range (r : Request) (rw : Rewritten) (h : rewrite r = .ok rw) :
    rw.port = reqPort r.req ∧ 0 ≤ rw.port ∧ rw.port ≤ 65535 := by
  rw [rewrite_eq] at h
  split at h <;> cases h
  exact ⟨rfl, by dsimp only; omega, by dsimp only; omega⟩

/-- on a port that fits 16 bits the `static_cast<unsigned short>` at the dialling site changes nothing -/
theorem toU16_of_range (v : Int) (h0 : 0 ≤ v) (h1 : v ≤ 65535) : toU16 v = v.toNat := by
  unfold toU16
  rw [Int.emod_eq_of_lt h0 (by omega)]

/-- As-is witness (before 99bb698 nothing tested the range; the port was only cut to 16 bits when
    dialling): `http://host:73616/` dialled port 8080 = 73616 mod 65536. -/
theorem C18_asis_port_wraps : toU16 (atoi [55, 51, 54, 49, 54]) = 8080 := by decide +kernel

/-- Whatever the environment does: the bytes handed to the client connection (in order, by the
    composed writes of the relay loop) are exactly the bytes read from the origin connection, in
    order — for EVERY cut of the origin's byte stream into read completions. -/
theorem C18_relay_verbatim (lit : Bytes → Option Bool) (port : Nat) (s : PS) (h : Reach lit port s) :
    s.toClient = s.fromOrigin :=
  (C18_invariant lit port s h).relay

/-- the relay loop as a state machine over chunk lists: one read completion per chunk, each
    followed by the completion of the composed write -/
def relayEvents (cs : List Bytes) : List Ev := cs.flatMap (fun c => [Ev.serverData c, Ev.clientWritten .ok])

/-- From any state of the invariant in which the origin read is outstanding, feeding the chunks
    `cs` (each 1..65536 bytes) makes the proxy write exactly `cs.flatten` to the client, in order,
    and leaves the origin read outstanding again: the relayed stream does not depend on the
    segmentation (`C18_relay_segmentation_independent`). -/
theorem C18_relay_chunks (lit : Bytes → Option Bool) : ∀ (cs : List Bytes) (s : PS), PSInv s →
    s.serverRead = some s.p.session → (∀ c ∈ cs, 0 < c.length ∧ c.length ≤ BUF) →
    let s' := s.run lit (relayEvents cs)
    s'.toClient = s.toClient ++ cs.flatten ∧ s'.serverRead = some s'.p.session ∧ s'.p.session = s.p.session ∧
      s'.sessions = s.sessions ∧ PSInv s' ∧ PS.okRun lit s (relayEvents cs) := by
  intro cs
  induction cs with
  | nil => intro s h hsr _; simp [relayEvents, PS.run, PS.okRun, hsr, h]
  | cons c rest ih =>
    intro s h hsr hcs
    have hc := hcs c (by simp)
    have hok1 : s.ok (.serverData c) := ⟨by simp [hsr], hc.1, hc.2⟩
    -- one chunk: the read completes, the proxy writes the chunk to the client …
    have e1 := step_serverData lit s c hsr hc.2
    have hok2 : (s.step lit (.serverData c)).ok (.clientWritten .ok) := by
      rw [e1]; exact ⟨⟨_, rfl⟩, by decide⟩
    -- … and when that write is done, reads again
    have e2 : (s.step lit (.serverData c)).step lit (.clientWritten .ok) =
        { s with p := { s.p with inb := written s.p.inb 0 c }, serverRead := some s.p.session, fromOrigin := s.fromOrigin ++ c,
                 clientWrite := none, toClient := s.toClient ++ c } := by
      rw [e1]; exact step_clientWritten_ok lit _ rfl
    have h2 := PSInv_step lit _ (PSInv_step lit s h _ hok1) _ hok2
    have := ih _ h2 (by rw [e2]) (fun c' hc' => hcs c' (by simp [hc']))
    simp only [relayEvents, List.flatMap_cons, PS.run, List.foldl_cons, List.cons_append, List.nil_append,
      PS.okRun, List.flatten_cons] at this ⊢
    obtain ⟨a1, a2, a3, a4, a5, a6⟩ := this
    refine ⟨?_, a2, ?_, ?_, a5, hok1, hok2, a6⟩
    · rw [a1, e2]; simp
    · rw [a3, e2]
    · rw [a4, e2]

theorem C18_relay_segmentation_independent (lit : Bytes → Option Bool) (cs cs' : List Bytes) (s : PS) (h : PSInv s)
    (hsr : s.serverRead = some s.p.session) (h1 : ∀ c ∈ cs, 0 < c.length ∧ c.length ≤ BUF)
    (h2 : ∀ c ∈ cs', 0 < c.length ∧ c.length ≤ BUF) (heq : cs.flatten = cs'.flatten) :
    (s.run lit (relayEvents cs)).toClient = (s.run lit (relayEvents cs')).toClient := by
  rw [(C18_relay_chunks lit cs s h hsr h1).1, (C18_relay_chunks lit cs' s h hsr h2).1, heq]

/-- Whatever the environment does (any cut of the client's bytes, any interleaving with lookup,
    connect, partial writes, relay): with `B` = the bytes read from the client in this session,
    `scan B` = the requests cut off its front (each ends at the first CRLF CRLF) and rewritten, the
    bytes the origin connection has accepted, followed by what is still queued in
    `m_server_out_buffer`, are EXACTLY the rewritten requests in the order they were received
    (`outs`), and the unparsed rest of `B` is what `m_client_in_buffer` holds. `scan` is a function
    of `B` alone: the cut does not matter. -/
theorem C18_pipelined_same_origin_order (lit : Bytes → Option Bool) (port : Nat) (s : PS) (h : Reach lit port s) :
    ∃ l, scan (s.fromClient.length + 1) s.fromClient = (l, some (view s.p.cin s.p.nCin)) ∧
         s.toOrigin ++ view s.p.sout s.p.nSout = outs l := by
  have i := C18_invariant lit port s h
  obtain ⟨l, h1, h2⟩ := i.scanned
  exact ⟨l, h1, by rw [i.fifo, h2]⟩

/-- in particular the origin never receives anything but a prefix of the rewritten requests, and
    once the queue has drained (`m_num_server_out_bytes = 0`) it has received all of them -/
theorem C18_origin_prefix (lit : Bytes → Option Bool) (port : Nat) (s : PS) (h : Reach lit port s) :
    ∃ rest, s.toOrigin ++ rest = outs (scan (s.fromClient.length + 1) s.fromClient).1 ∧
      (s.p.nSout = 0 → rest = []) := by
  obtain ⟨l, h1, h2⟩ := C18_pipelined_same_origin_order lit port s h
  refine ⟨view s.p.sout s.p.nSout, by rw [h1]; exact h2, ?_⟩
  intro h0; rw [h0]; simp

/-- the buffer given to an outstanding `async_write_some` is the head of the queue -/
theorem C18_write_is_queue_head (lit : Bytes → Option Bool) (port : Nat) (s : PS) (h : Reach lit port s) (w : Bytes) (ses : Nat)
    (hw : s.serverWrite = some (w, ses)) : w = (view s.p.sout s.p.nSout).take w.length ∧ ses = s.p.session :=
  let i := C18_invariant lit port s h
  ⟨(i.write_buf w ses hw).2.2, i.ses_sw w ses hw⟩

/-- SEGMENTATION INDEPENDENCE on the request side: two histories in which the client sent the same
    bytes (cut differently, interleaved differently with everything else) have queued the same
    bytes for the origin. -/
theorem C18_segmentation_independent (lit : Bytes → Option Bool) (port : Nat) (s s' : PS)
    (h : Reach lit port s) (h' : Reach lit port s') (heq : s.fromClient = s'.fromClient) :
    s.toOrigin ++ view s.p.sout s.p.nSout = s'.toOrigin ++ view s'.p.sout s'.p.nSout ∧
    view s.p.cin s.p.nCin = view s'.p.cin s'.p.nCin := by
  obtain ⟨l, h1, h2⟩ := C18_pipelined_same_origin_order lit port s h
  obtain ⟨l', h1', h2'⟩ := C18_pipelined_same_origin_order lit port s' h'
  rw [heq, h1'] at h1
  simp only [Prod.mk.injEq, Option.some.injEq] at h1
  obtain ⟨rfl, ht⟩ := h1
  exact ⟨by rw [h2, h2'], ht.symm⟩

theorem C18_503_bytes :
    resp503Lookup = [72, 84, 84, 80, 47, 49, 46, 49, 32, 53, 48, 51, 32] ++ MSG_RESOURCE ++ [13, 10] ++ CONTENT_LENGTH_0 ++ [13, 10, 13, 10] ∧
    resp503Connect = [72, 84, 84, 80, 47, 49, 46, 49, 32, 53, 48, 51, 32] ++ MSG_SERVICE ++ [13, 10] ++ CONTENT_LENGTH_0 ++ [13, 10, 13, 10] := by
  decide +kernel

/-- unresolvable host (lookup error, or no address): exactly the 503 bytes are handed to the client
    connection, nothing is relayed, no connect is started -/
theorem C18_503_on_lookup_failure (lit : Bytes → Option Bool) (s : PS) (h : PSInv s) (ec : Ec)
    (ips : List (Bytes × Nat × Bool)) (hok : s.ok (.lookup ec ips)) (hfail : ec ≠ .ok ∨ ips = []) :
    let s' := s.step lit (.lookup ec ips)
    s'.errResp = s.errResp ++ [resp503Lookup] ∧ s'.clientWrite = some (.closeConn, s.p.session) ∧
      s'.toClient = s.toClient ∧ s'.connectingOp = s.connectingOp ∧ s'.sessions = s.sessions := by
  dsimp only
  rw [step_lookup_fail lit s ec ips (cur_of_isSome hok.1 h.ses_res) hok.2 hfail]
  exact ⟨rfl, rfl, rfl, rfl, rfl⟩

/-- refused / failed connect: the origin socket is closed and exactly the 503 bytes are handed to the
    client connection -/
theorem C18_503_on_connect_failure (lit : Bytes → Option Bool) (s : PS) (h : PSInv s) (ec : Ec)
    (hok : s.ok (.connected ec)) (hfail : ec ≠ .ok) :
    let s' := s.step lit (.connected ec)
    s'.errResp = s.errResp ++ [resp503Connect] ∧ s'.clientWrite = some (.closeConn, s.p.session) ∧
      s'.toClient = s.toClient ∧ s'.serverRead = none ∧ s'.serverWrite = none ∧ s'.p.srvOpen = false ∧
      s'.sessions = s.sessions := by
  dsimp only
  rw [step_connected_fail lit s ec (cur_of_isSome hok.1 h.ses_conn) hfail hok.2]
  exact ⟨rfl, rfl, rfl, rfl, rfl, rfl, rfl⟩

/-- when the write of the 503 has completed (or failed), the client connection is closed, and the next
    client is accepted unless `stop()` was called -/
theorem C18_503_then_close (lit : Bytes → Option Bool) (s : PS) (h : PSInv s) (ec : Ec) (hok : s.ok (.errWritten ec)) :
    let s' := s.step lit (.errWritten ec)
    s'.sessions = s.sessions + 1 ∧ s'.clientRead = none ∧ s'.accepting = (if s.p.close = true then s.accepting else true) := by
  obtain ⟨⟨ses, hr⟩, hna⟩ := hok
  obtain rfl := h.ses_cw _ ses hr
  simp only [PS.step, hr, onErrorWritten, stale_false _ _ hna, Bool.false_eq_true, if_false]
  rw [apply_closeConnection]
  exact ⟨rfl, rfl, rfl⟩

/-- C18_503_on_failure, in one statement: whichever way the origin turns out to be unreachable —
    the lookup fails or yields no address, or the connect fails — the next thing handed to the client
    connection is the 503 response (`C18_503_bytes`), nothing else is relayed, and the completion of
    that write closes the client connection and re-arms the accept (unless stopped). -/
theorem C18_503_on_failure (lit : Bytes → Option Bool) (s : PS) (h : PSInv s) :
    (∀ ec ips, s.ok (.lookup ec ips) → (ec ≠ .ok ∨ ips = []) →
        (s.step lit (.lookup ec ips)).errResp = s.errResp ++ [resp503Lookup] ∧
        (s.step lit (.lookup ec ips)).toClient = s.toClient ∧
        (s.step lit (.lookup ec ips)).clientWrite = some (.closeConn, s.p.session)) ∧
    (∀ ec, s.ok (.connected ec) → ec ≠ .ok →
        (s.step lit (.connected ec)).errResp = s.errResp ++ [resp503Connect] ∧
        (s.step lit (.connected ec)).toClient = s.toClient ∧
        (s.step lit (.connected ec)).clientWrite = some (.closeConn, s.p.session)) ∧
    (∀ ec, s.ok (.errWritten ec) →
        (s.step lit (.errWritten ec)).sessions = s.sessions + 1 ∧
        (s.p.close = false → (s.step lit (.errWritten ec)).accepting = true)) := by
  refine ⟨?_, ?_, ?_⟩
  · intro ec ips hok hf
    have := C18_503_on_lookup_failure lit s h ec ips hok hf
    exact ⟨this.1, this.2.2.1, this.2.1⟩
  · intro ec hok hf
    have := C18_503_on_connect_failure lit s h ec hok hf
    exact ⟨this.1, this.2.2.1, this.2.1⟩
  · intro ec hok
    have := C18_503_then_close lit s h ec hok
    refine ⟨this.1, ?_⟩
    intro hc
    rw [this.2.2]; simp [hc]

/-- whom the proxy dials: the FIRST request of a session (no connection open, none being made)
    starts a lookup of exactly `rewrite`'s host with `rewrite`'s port as service when the host is no
    address literal, and otherwise opens a socket of the literal's family and connects to
    (host, port) — the port itself, which lies in [0, 65535]: no truncation; a successful lookup connects
    to the FIRST address it returned. -/
theorem C18_dials (lit : Bytes → Option Bool) (p : Px) (req : Request) (rw : Rewritten)
    (hrw : rewrite req = .ok rw) (hfit : p.nSout + rw.out.length ≤ BUF) (hc : p.connecting = false) (ho : p.srvOpen = false) :
    (lit rw.host = none →
      ∃ p', forwardRequest lit p req = .ok (p', [.queued rw.out, .resolve rw.host (portStr rw.port) p.session]) ∧ p'.connecting = true) ∧
    (∀ v4, lit rw.host = some v4 →
      ∃ p', forwardRequest lit p req = .ok (p', [.queued rw.out, .openServer v4, .connect rw.host rw.port.toNat p.session]) ∧ p'.connecting = true) ∧
    (∀ a port v4 rest,
      onDomainLookup p p.session .ok ((a, port, v4) :: rest) = ({ p with srvOpen := true }, [.openServer v4, .connect a port p.session])) ∧
    (0 ≤ rw.port ∧ rw.port ≤ 65535) := by
  have hrange := (C18_rewrite_port_range req rw hrw).2
  have hf := forwardRequest_eq lit p req
  simp only [hrw, if_neg (Nat.not_lt.2 hfit), forwardOk, hc, ho, Bool.false_eq_true, if_false] at hf
  refine ⟨?_, ?_, ?_, hrange⟩
  · intro hl
    rw [hl] at hf
    exact ⟨_, hf, rfl⟩
  · intro v4 hl
    rw [hl, toU16_of_range _ hrange.1 hrange.2] at hf
    exact ⟨_, hf, rfl⟩
  · intro a port v4 rest
    simp [onDomainLookup, stale, openForward]

/-- If the bytes received so far, together with the chunk `d` that arrives now, contain a complete
    request that does not parse or is not an `http://` absolute URI (`scan … = none`), this very
    completion closes the client connection (and the origin connection): no read is re-armed. Holds
    for every cut: the offending request may be completed by `d` or lie entirely in it, after any
    number of good ones. -/
theorem C18_malformed_or_relative_closes (lit : Bytes → Option Bool) (s : PS) (h : PSInv s) (d : Bytes)
    (hok : s.ok (.clientData d))
    (hbad : (scan ((s.fromClient ++ d).length + 1) (s.fromClient ++ d)).2 = none) :
    (s.step lit (.clientData d)).sessions = s.sessions + 1 ∧ (s.step lit (.clientData d)).clientRead = none :=
  (clientData_spec lit s h d hok).closed hbad

/-- which requests those are: the first complete request of the pending bytes fails to parse
    (`parse_request` throws) or its target does not start with `http://` or names a port outside
    [0, 65535] (`forward_request` throws) -/
theorem C18_scan_bad_first (b : Bytes) (n : Nat) (hn : findRequestLen b b.length = .ok (n : Int)) :
    ((∀ req, parseRequest b n ≠ .ok req) → scan (b.length + 1) b = ([], none)) ∧
    (∀ req, parseRequest b n = .ok req →
      (req.req.take 7 ≠ HTTP_PFX ∨ reqPort req.req < 0 ∨ reqPort req.req > 65535) → scan (b.length + 1) b = ([], none)) :=
  ⟨fun h => scan_succ_bad _ b n hn fun q hq => absurd hq (h q),
   fun req h1 h2 => scan_succ_bad _ b n hn fun q hq => by
     cases h1.symm.trans hq; exact (C18_rewrite_rejects_iff req).2 h2⟩

/-- At every moment: as long as `stop()` has not been called the proxy is either accepting or has a
    client connection with a read outstanding (so every way a session can end re-arms the accept:
    end of stream, reset, malformed request, 503 written, origin closed, write error, full buffer);
    once `stop()` was called it never accepts again. -/
theorem C18_accepts_next_until_stop (lit : Bytes → Option Bool) (port : Nat) (s : PS) (h : Reach lit port s) :
    (s.p.close = false → s.accepting = true ∨ s.clientRead.isSome = true) ∧
    (s.p.close = true → s.accepting = false) :=
  let i := C18_invariant lit port s h
  ⟨i.live, i.stopped⟩

/-- `m_close` is set by `stop()` and by nothing else -/
theorem C18_close_only_by_stop (lit : Bytes → Option Bool) (s : PS) (e : Ev) :
    (s.step lit e).p.close = (s.p.close || (match e with | .stop => true | _ => false)) := by
  -- every event but `stop` books the result of one callback (`apply_p`: its `p` is the callback's), if its
  -- operation is outstanding at all (`split`), and the callback's `*_close` lemma says `close` is kept
  cases e <;> simp only [PS.step, Bool.or_false] <;> (try split) <;>
    simp only [PS.apply_p, onAccept_close, onReadRequest_close, onDomainLookup_close, onConnected_close,
      onServerWrite_close, onServerReceive_close, onServerForward_close, onErrorWritten_close, stop, Bool.or_true]

/-! ### stale completions (F26c/d/f/g) -/

/-- A completion bound with another session number than the current one — an operation of a
    connection that `close_connection()` has torn down meanwhile, whose completion was already
    posted — is ignored: no action, no member changed (for the two reads: the socket has already
    copied the bytes into the buffer, the byte COUNT is untouched). -/
theorem C18_stale_ignored (lit : Bytes → Option Bool) (p : Px) (ses : Nat) (hs : ses ≠ p.session) (ec : Ec) :
    onConnected p ses ec = (p, []) ∧
    (∀ n, onServerWrite p ses ec n = (p, [])) ∧
    onServerForward p ses ec = (p, []) ∧
    onErrorWritten p ses ec = (p, []) ∧
    (∀ ips, onDomainLookup p ses ec ips = (p, [])) ∧
    (∀ off d, off + d.length ≤ BUF → onReadRequest lit p ses ec off d = ({ p with cin := written p.cin off d }, [])) ∧
    (∀ d, d.length ≤ BUF → onServerReceive p ses ec d = ({ p with inb := written p.inb 0 d }, [])) := by
  have hst : ∀ q : Px, q.session = p.session → stale q ses ec = true := by
    intro q hq; simp [stale, hq, hs]
  refine ⟨?_, ?_, ?_, ?_, ?_, ?_, ?_⟩
  · simp [onConnected, hst p rfl]
  · intro n; simp [onServerWrite, hst p rfl]
  · simp [onServerForward, hst p rfl]
  · simp [onErrorWritten, hst p rfl]
  · intro ips; simp [onDomainLookup, hst p rfl]
  · intro off d hfit
    simp only [onReadRequest]
    rw [memWrite_ok _ _ _ hfit]
    simp [hst { p with cin := written p.cin off d } rfl]
  · intro d hfit
    simp only [onServerReceive]
    rw [memWrite_ok _ _ _ (by simpa using hfit)]
    simp [hst { p with inb := written p.inb 0 d } rfl]

/-- every `close_connection()` starts a new session number, cancels the resolver, and clears
    `m_writing_to_server` / `m_connecting` (F26f: on the pinned tree a teardown while a write to the origin was
    parked left the flag set for ever) -/
theorem C18_close_resets (p : Px) :
    (closeConnection p).1.session = p.session + 1 ∧ (closeConnection p).1.writing = false ∧
    (closeConnection p).1.connecting = false ∧ (closeConnection p).1.nCin = 0 ∧ (closeConnection p).1.nSout = 0 ∧
    Act.cancelResolver ∈ (closeConnection p).2 ∧ Act.closeClient ∈ (closeConnection p).2 ∧
    Act.closeServer ∈ (closeConnection p).2 ∧ (Act.accept ∈ (closeConnection p).2 ↔ p.close = false) := by
  cases hc : p.close <;> simp [closeConnection, hc]

/-! ### the pinned tree (what was wrong, stated on transcriptions of the ORIGINAL statements) -/

/-- `forward_request` of the pinned tree: `host_end = req.req.substr(0, path_start).find_last_of(':')`
    with no bracket rule (everything else as in `rewrite`) -/
def rewritePinned (r : Request) : Except Unit Rewritten :=
  if r.req.take 7 ≠ HTTP_PFX then .error ()
  else
    let pathStart := findFirstFrom r.req 47 7
    let pathPart := match pathStart with | none => [47] | some ps => r.req.drop ps
    let authority := match pathStart with | none => r.req | some ps => r.req.take ps
    let hostEnd := findLast authority 58
    let portAt : Option Nat := match hostEnd with | some he => if he > 7 then some he else none | none => none
    let host0 := match portAt with
      | some he => (r.req.drop 7).take (he - 7)
      | none => match pathStart with | some ps => (r.req.drop 7).take (ps - 7) | none => r.req.drop 7
    let host := stripBrackets host0
    let port : Int := match portAt with
      | none => 80
      | some he => atoi (match pathStart with | some ps => (r.req.drop (he + 1)).take ps | none => r.req.drop (he + 1))
    let foundHost := r.headers.any (fun h => h.1 == HOST_KEY)
    .ok { host := host, port := port, out := r.method ++ [32] ++ pathPart ++ HTTP11 ++ headerLines r.headers ++ (if foundHost then [] else HOST_HDR ++ host ++ CRLF) ++ CRLF }

/-- whom a rewritten request is for -/
def dials (e : Except Unit Rewritten) : Option (Bytes × Int) :=
  match e with
  | .ok r => some (r.host, r.port)
  | .error _ => none

/-- `http://[2001:db8::3]/a` -/
def exV6NoPort : Bytes := [104, 116, 116, 112, 58, 47, 47, 91, 50, 48, 48, 49, 58, 100, 98, 56, 58, 58, 51, 93, 47, 97]

/-- F26a: for a bracketed IPv6 literal WITHOUT port the pinned code took the last ':' inside the
    brackets for the port separator: it looked up the name `[2001:db8:` and would have dialled port 3;
    the repaired `rewrite` dials (`2001:db8::3`, 80). Confirmed on the real library
    (corpus/C18/f26a_ipv6_literal_without_port.scn: the lookup of name=5b323030313a6462383a). -/
theorem C18_pinned_ipv6_without_port :
    dials (rewritePinned { method := [71], req := exV6NoPort, path := [], headers := [] })
      = some ([91, 50, 48, 48, 49, 58, 100, 98, 56, 58], 3) ∧
    dials (rewrite { method := [71], req := exV6NoPort, path := [], headers := [] })
      = some ([50, 48, 48, 49, 58, 100, 98, 56, 58, 58, 51], 80) := by
  decide +kernel

/-- `on_server_write` of the pinned tree (no test at the top at all) -/
def onServerWritePinned (p : Px) (ec : Ec) (n : Nat) : Px × List Act :=
  let p := { p with writing := false }
  if ec ≠ .ok then closeConnection p
  else if n > p.nSout then (p, [.ub "memmove size underflow in on_server_write"])
  else (p, [])     -- (the rest is as in `onServerWrite`)

/-- F26d: a write completion that was already posted with success when `close_connection()` ran
    (one chunk holding a good request followed by a malformed one is enough) reached
    `memmove(buf, buf + n, size_t(0 - n))` in the pinned tree — undefined behaviour, an
    AddressSanitizer `negative-size-param` on the real library
    (corpus/C18/f26d_write_completion_after_close.scn). The repaired callback ignores it
    (`C18_stale_ignored`), and under `PS.ok` the repaired model never produces `ub` (`C18_no_ub`). -/
theorem C18_pinned_write_completion_after_close (p : Px) (n : Nat) (hn : 0 < n) :
    (onServerWritePinned (closeConnection p).1 .ok n).2 = [.ub "memmove size underflow in on_server_write"] ∧
    onServerWrite (closeConnection p).1 p.session .ok n = ((closeConnection p).1, []) := by
  have h0 : (closeConnection p).1.nSout = 0 := rfl
  have hs : stale (closeConnection p).1 p.session .ok = true := by simp [stale, closeConnection]
  constructor
  · simp [onServerWritePinned, h0, hn]
  · simp [onServerWrite, hs]

/-- a concrete well-behaved history: a client is accepted, sends "G" and then "E", the proxy is
    stopped, the client's stream ends: all side conditions hold, the proxy ends stopped and idle -/
def exRun : List Ev := [.accepted .ok, .clientData [71], .clientData [69], .stop, .clientErr .eof]

example : PS.okRun (fun _ => none) (PS.init 4444) exRun :=
  ⟨⟨rfl, by decide⟩, ⟨0, 65536, 0, rfl, by decide, by decide⟩, ⟨1, 65535, 0, rfl, by decide, by decide⟩, trivial,
   ⟨rfl, by decide, by decide⟩, trivial⟩

example : Reach (fun _ => none) 4444 ((PS.init 4444).run (fun _ => none) []) := ⟨[], trivial, rfl⟩

/-- a state of the invariant with the origin read outstanding (hypotheses of `C18_relay_chunks`) -/
def exRelay : PS := { serverRead := some 0, clientRead := some (0, 65536, 0) }

theorem exRelay_inv : PSInv exRelay :=
  { no_ub := rfl
    nCin_le := by decide
    nSout_le := by decide
    read_at := fun _ _ _ hh => by cases hh; exact ⟨rfl, rfl, by decide, rfl⟩
    idle_zero := nofun
    acc_idle := nofun
    ses_res := nofun
    ses_conn := nofun
    ses_sw := nofun
    ses_sr := fun _ hh => by cases hh; rfl
    ses_cw := nofun
    fifo := rfl
    write_buf := nofun
    scanned := ⟨[], scan_nil, rfl⟩
    relay := rfl
    live := fun _ => .inr rfl
    stopped := nofun }

/-- the relay of the chunks "ab", "c" from that state hands "abc" to the client -/
example : (exRelay.run (fun _ => none) (relayEvents [[97, 98], [99]])).toClient = [97, 98, 99] := by
  have := (C18_relay_chunks (fun _ => none) [[97, 98], [99]] _ exRelay_inv rfl (by simp [BUF])).1
  simpa [exRelay] using this

/-- `GET http://[::1]:8080/x HTTP/1.1` with header `X-A: 1`: well-formed, and what is queued for the
    origin is `GET /x HTTP/1.1␍␊x-a: 1␍␊host: ::1␍␊␍␊`, to be sent to (`::1`, 8080) -/
def exTarget : Target := { host := [91, 58, 58, 49, 93], port := some [56, 48, 56, 48], path := [47, 120] }
def exReq : RawRequest := { method := [71, 69, 84], target := exTarget.render, version := [72, 84, 84, 80, 47, 49, 46, 49], headers := [([88, 45, 65], [32, 49])] }

example : exTarget.wf := by decide +kernel
example : WellFormed exReq := by decide +kernel

def exOut : Rewritten := { host := [58, 58, 49], port := 8080, out := [71, 69, 84, 32, 47, 120, 32, 72, 84, 84, 80, 47, 49, 46, 49, 13, 10, 120, 45, 97, 58, 32, 49, 13, 10, 104, 111, 115, 116, 58, 32, 58, 58, 49, 13, 10, 13, 10] }

example : rewrite (canon exReq) = .ok exOut := by
  rw [(C18_rewrite_wire exReq exTarget (by decide +kernel) (by decide +kernel) rfl).2]
  congr 1

end SimVerif.HttpProxy
