/-
  C17 — the SOCKS4/5 test proxy (`sim::socks_server`, src/socks_server.cpp) relays
        transparently and survives malformed clients.

  Mechanism model: SimVerif/Socks.lean (member functions over checked memory, parameters for
  the repaired defects); open system with ghost logs and the lower layers' guarantees as side
  condition: SimVerif/SocksSys.lean; specification vocabulary (well-formed request, decision
  table, reply messages, UDP wrap/unwrap): SimVerif/SocksSpec.lean.

  Run-level theorems quantify over EVERY history `ls` of the open system from the initial
  state: any number of clients, any interleaving of completions, every result the I/O layer
  can deliver — in particular every client byte stream in every segmentation (a read
  completion carries any bytes, any number of them up to the region's size), every datagram
  from every source, every error at every point.
-/
import SimVerif.Lemmas.SocksCount
import SimVerif.Lemmas.SocksStreamSeg

namespace SimVerif

open Socks

/-- **No out-of-bounds access, ever**: for all client byte streams (any segmentation), all
    client and target datagrams, all outcomes of resolve/connect/accept/bind, any number of
    connections — no member function of the repaired tree accesses `m_out_buffer[65536]`,
    `m_in_buffer[65536]`, `m_udp_buffer[1500]` or `m_cmd_counts[3]` outside its bounds, and
    every region handed to the I/O layer lies inside its array. -/
theorem C17_no_oob (ver : Int) (flags : Nat) (ls : List SLbl) :
    ∃ s, (SS.init ver flags).run {} ls = .ok s :=
  SSafe.no_fault ls (SSafe.init ver flags)

namespace Socks

/-- greeting, method list, method reply written -/
def hs5 : List SLbl :=
  [.accept, .complete 0 0 (.rd .ok [5, 1]), .complete 0 0 (.rd .ok [0]), .complete 0 0 (.wr .ok 2)]

/-- F21: command byte 0 → `++m_cmd_counts[-1]` -/
def witF21 : List SLbl := hs5 ++ [.complete 0 0 (.rd .ok [5, 0, 0, 1, 10, 0, 2, 1, 31, 144])]
/-- F22: host name of length 0 → read of `size_t(-3)` bytes at offset 10 -/
def witF22 : List SLbl := hs5 ++ [.complete 0 0 (.rd .ok [5, 1, 0, 3, 0, 97, 98, 99, 31, 144])]
/-- the run for defect F21b (`nmUnsigned`; the 37 in its name is not that defect's id): NMETHODS = 0x80 →
    read of `size_t(-128)` bytes -/
def witF37 : List SLbl := [.accept, .complete 0 0 (.rd .ok [5, 0x80])]
/-- F23: UDP ASSOCIATE, then a 4-byte datagram `00 00 00 01` from the client -/
def witF23 : List SLbl :=
  hs5 ++ [.complete 0 0 (.rd .ok [5, 3, 0, 1, 10, 0, 0, 1, 15, 160]),      -- UDP ASSOCIATE 10.0.0.1:4000
          .complete 0 0 (.bnd .ok (167772417, 2048) 167772161),              -- socket bound
          .complete 0 0 (.dgram .ok [0, 0, 0, 1] (167772161, 4000))]

end Socks

/-- the pinned tree (bb9bed4) violates it in four ways (each run is a possible history:
    every label passes the side condition): F21 command byte 0, F22 host name of length 0,
    F21b NMETHODS = 0x80, F23 a 4-byte UDP datagram -/
theorem C17_asis_oob :
    faulted ((SS.init 5 0).run Params.asIs witF21) = true ∧ faulted ((SS.init 5 0).run Params.asIs witF22) = true
    ∧ faulted ((SS.init 5 0).run Params.asIs witF37) = true ∧ faulted ((SS.init 5 0).run Params.asIs witF23) = true := by
  decide +kernel

/-- the same four histories are harmless on the repaired tree -/
theorem C17_fixed_witnesses :
    faulted ((SS.init 5 0).run {} witF21) = false ∧ faulted ((SS.init 5 0).run {} witF22) = false
    ∧ faulted ((SS.init 5 0).run {} witF37) = false ∧ faulted ((SS.init 5 0).run {} witF23) = false := by
  decide +kernel

/-- **No damage to other connections**: whatever completes on connection `ci` (malformed
    input included) leaves every other connection's state, pending operations and logs as they
    were; accepting a client only appends a connection. (The actions a member function returns
    name only its own connection's sockets: `Act` has no connection parameter.) -/
theorem C17_isolated (p : Params) (s s' : SS) (ci i : Nat) (r : Res) (cj : Nat)
    (h : s.step p (.complete ci i r) = .ok s') (hne : cj ≠ ci) : s'.conns[cj]? = s.conns[cj]? := by
  rcases SS.step_cases h with rfl | ⟨_, _, _, hl, -⟩ | ⟨_, _, _, _, _, _, _, _, hl, -, -, -, -, rfl⟩
  · rfl
  · cases hl
  · cases hl; exact List.getElem?_set_ne (Ne.symm hne)

theorem C17_accept_keeps (p : Params) (s s' : SS) (h : s.step p .accept = .ok s') (cj : Nat)
    (hlt : cj < s.conns.length) : s'.conns[cj]? = s.conns[cj]? := by
  rcases SS.step_cases h with rfl | ⟨_, _, _, -, -, rfl⟩ | ⟨_, _, _, _, _, _, _, _, hl, -⟩
  · rfl
  · exact List.getElem?_append_left hlt
  · cases hl

/-- **Early end of file / any error** on a read of the negotiation (greeting, method list,
    request, rest of a host name) closes the connection (client, target and BIND sockets) and
    does nothing else. -/
theorem C17_malformed_closes_error (c : Conn) (cnt : List Int) (k : Kind) (ec : Ec) (total : Nat)
    (hk : k = .hs1 ∨ k = .hs2 ∨ k = .req1 ∨ k = .dom) (hec : ec ≠ .ok) :
    exactDone {} c cnt k ec total = .ok (c, cnt, closeActs) := by
  rcases hk with rfl | rfl | rfl | rfl
  · exact if_pos (.inl hec)
  · exact if_pos hec
  · exact if_pos (.inl hec)
  · exact if_pos hec

/-- **Malformed greeting** (short, or version byte neither 4 nor 5) / **method list without
    "no authentication"** / failed method reply: closed, nothing else. -/
theorem C17_malformed_closes_greeting (c : Conn) (cnt : List Int) (hs : c.Sized) :
    (∀ n, (n ≠ 2 ∨ (c.outBuf.byte 0 ≠ 4 ∧ c.outBuf.byte 0 ≠ 5)) → onHandshake1 {} c cnt .ok n = .ok (c, cnt, closeActs))
    ∧ (∀ n, n ≤ 65536 → (0 : UInt8) ∉ c.outPrefix n → onHandshake2 c cnt .ok n = .ok (c, cnt, closeActs))
    ∧ (∀ ec n, (ec ≠ .ok ∨ n ≠ 2) → onHandshake3 c cnt ec n = .ok (c, cnt, closeActs)) := by
  refine ⟨fun n h => ?_, fun n hn h => ?_, fun ec n h => ?_⟩
  · rw [onHandshake1_sized hs]
    split
    · rfl
    · rename_i hn
      rw [if_pos (h.resolve_left fun a => hn (.inr a))]; rfl
  · rw [onHandshake2_sized hs hn, if_pos (.inr h)]; rfl
  · exact if_pos h

/-- **Malformed request** — error, short read, wrong version, unknown command, non-zero reserved
    byte, unknown / unsupported address type, BIND by host name, SOCKS4 user id — closes this
    connection: no connect, no bind, no UDP socket, no lookup. -/
theorem C17_malformed_closes (c : Conn) (cnt : List Int) (ec : Ec) (n : Nat) (hs : c.Sized) (hc : cnt.length = 3)
    (h : ec ≠ .ok ∨ n ≠ expectedLen c.ver ∨ ¬ validReq c.ver (c.outPrefix (expectedLen c.ver))) :
    ∃ c' cnt', onRequest1 {} c cnt ec n = .ok (c', cnt', closeActs) ∧ cnt'.length = 3 := by
  rw [onRequest1_sized hs hc]
  split
  · rename_i hf
    rw [reqAct_invalid (c := { c with command := sx (c.outBuf.byte 1) }) ((h.resolve_left (· hf.1)).resolve_left (· hf.2))]
    exact ⟨_, _, rfl, (cntAfter_length _ _).trans hc⟩
  · exact ⟨_, _, rfl, hc⟩

/-- **Well-formed request**: exactly the action of the decision table (`decision`, SocksSpec.lean):
    connect / bind / UDP relay to the address in the header, or look the host name up (reading
    the rest of it first when it is longer than 3 bytes). -/
theorem C17_request_decision (c : Conn) (cnt : List Int) (hs : c.Sized) (hc : cnt.length = 3)
    (h : validReq c.ver (c.outPrefix (expectedLen c.ver))) :
    ∃ c' cnt' a, onRequest1 {} c cnt .ok (expectedLen c.ver) = .ok (c', cnt', [a]) ∧ cnt'.length = 3
      ∧ (match decision c.ver (c.outPrefix (expectedLen c.ver)) with
         | .connect ad pt => a = .connect ad pt .connect
         | .bind ad pt => a = .bindSock ad pt .bound
         | .udp ad pt => a = .udpOpen (.udpBound ad pt)
         | .name len =>
           if len ≤ 3 then
             a = .resolve ((List.range len).map (fun j => c.outBuf.byte (5 + j)))
                   (be16 (c.outBuf.byte (5 + len)) (c.outBuf.byte (6 + len))) .resolve
           else a = .read .client (len - 3) (.exact 10 (len - 3) 0 .dom)) := by
  have hl := (cntAfter_length cnt (sx (c.outBuf.byte 1))).trans hc
  have hs2 : ({ c with command := sx (c.outBuf.byte 1) } : Conn).Sized := ⟨hs.out, hs.inn, hs.udp⟩
  rw [onRequest1_sized hs hc, if_pos ⟨rfl, rfl⟩, reqAct_valid (c := { c with command := sx (c.outBuf.byte 1) }) h]
  dsimp only
  cases hd : decision c.ver (c.outPrefix (expectedLen c.ver)) with
  | connect a pt => exact ⟨_, _, _, rfl, hl, rfl⟩
  | bind a pt => exact ⟨_, _, _, rfl, hl, rfl⟩
  | udp a pt => exact ⟨_, _, _, rfl, hl, rfl⟩
  | name len =>
    have hlen : len = (c.outBuf.byte 4).toNat :=
      (decision_name hd).trans (by rw [outPrefix_getD c _ 4 (by have := expectedLen_ge c.ver; omega)])
    have hlt := UInt8.toNat_lt (c.outBuf.byte 4)
    subst hlen
    dsimp only
    by_cases h3 : (c.outBuf.byte 4).toNat ≤ 3
    · rw [if_pos ⟨rfl, by omega⟩, dom_good _ _ 0 hs2]
      exact ⟨_, _, _, rfl, hl, by rw [if_pos h3]⟩
    · rw [if_neg (fun a => h3 (by omega)), exactRead_ok hs2 (by omega) (by omega)]
      exact ⟨_, _, _, rfl, hl, by rw [if_neg h3, show (((c.outBuf.byte 4).toNat : Int) - 3).toNat = (c.outBuf.byte 4).toNat - 3 by omega]⟩

/-- **Reply codes** after connect (CONNECT) / accept (BIND): success → 0 in v5, 90 in v4, then
    the relay starts; refused (any error) → 5 in v5, 91 in v4, then the connection is closed. -/
theorem C17_reply_codes (c : Conn) (cnt : List Int) (ec : Ec) (rem : Option (Nat × Nat)) (hs : c.Sized)
    (hab : ec ≠ .aborted ∧ ec ≠ .badDesc) :
    ∃ c', onConnected c cnt ec rem
        = .ok (c', cnt, [.write .client (replyMsg c.ver (connCode c.ver ec) (rem.getD (0, 0)).1 (rem.getD (0, 0)).2)
                          (.write .client (replyMsg c.ver (connCode c.ver ec) (rem.getD (0, 0)).1 (rem.getD (0, 0)).2).length
                             (if ec = .ok then .relayStart else .closeAfter))])
      ∧ c'.outBuf = c.outBuf ∧ c'.Sized := by
  rw [onConnected_eq_reply, if_neg (fun h => h.elim hab.1 hab.2)]
  exact ⟨_, reply_eq hs, rfl, hs.out, hs.inn, hs.udp⟩

/-- **Unresolvable name** → reply code 4, then close; resolvable → connect to the first address. -/
theorem C17_reply_codes_name (c : Conn) (cnt : List Int) (hs : c.Sized) :
    (∀ ec ips, (ec ≠ .ok ∨ ips = []) → ∃ c', onRequestDomainLookup c cnt ec ips
        = .ok (c', cnt, [.write .client [u8 c.ver.toNat, 4, 0, 1, 0, 0, 0, 0, 0, 0] (.write .client 10 .closeAfter)]))
    ∧ (∀ a pt rest, onRequestDomainLookup c cnt .ok ((a, pt) :: rest) = .ok (c, cnt, [.connect a pt .connect])) := by
  refine ⟨fun ec ips h => ?_, fun _ _ _ => rfl⟩
  unfold onRequestDomainLookup
  split
  · rcases h with h | h
    · exact absurd rfl h
    · cases h
  · rw [in_write0 hs _ (by simp)]
    exact ⟨_, writeFrom_stored (by rw [hs.inn]; simp)⟩

/-- BIND's first reply: bound → 0 / 90 then accept; failure → 1 / 91 then close; and the
    handler of every failure reply closes the connection. -/
theorem C17_reply_codes_bind (c : Conn) (cnt : List Int) (ec : Ec) (loc : Nat × Nat) (hs : c.Sized) :
    (∃ c', bindConnection2 c cnt ec loc
        = .ok (c', cnt, [.write .client (replyMsg c.ver (bindCode c.ver ec) loc.1 loc.2)
                          (.write .client (replyMsg c.ver (bindCode c.ver ec) loc.1 loc.2).length
                             (if ec = .ok then .startAccept else .closeAfter))]) ∧ c'.Sized)
    ∧ (∀ s len ec' n, complete {} c cnt (.write s len .closeAfter) (.wr ec' n) = .ok (c, cnt, closeActs)) := by
  refine ⟨?_, fun _ _ _ _ => rfl⟩
  rw [bindConnection2_eq_reply]
  exact ⟨_, reply_eq hs, hs.out, hs.inn, hs.udp⟩

/-- **Counters over all histories**: `cmd_counts()` = the numbers of connections that received
    a (complete) request whose command byte is 1 (CONNECT), 2 (BIND), 3 (UDP ASSOCIATE):
    requests RECEIVED, whatever their version byte or validity (repair a5d21cc). -/
theorem C17_counters (ver : Int) (flags : Nat) (ls : List SLbl) (s : SS)
    (h : (SS.init ver flags).run {} ls = .ok s) :
    s.cnt = [s.countCmd 1, s.countCmd 2, s.countCmd 3] :=
  (SInv_run ver flags ls s h).cnt

namespace Socks

/-- store the successive chunks of a composed read -/
def feedExact (c : Conn) (off need got : Nat) : List Bytes → Except Fault (Conn × Nat)
  | [] => .ok (c, got)
  | d :: rest =>
    match exactStep c off need got .ok d with
    | .error e => .error e
    | .ok (c', total, _) => feedExact c' off need total rest

/-- without `chunks ≠ []` the fusion law `C17_segmentation_independent` is false, for ZERO chunks when the region starts
    beyond the bytes stored so far: `exactStep` of the empty chunk pads the model buffer with the
    zeros that never-written bytes read as, `feedExact … []` does not touch it -/
theorem exact_fusion_nil_counterexample :
    (feedExact { ver := 5 } 0 10 2 []).toOption.map (fun (x : Conn × Nat) => x.1.outBuf.data)
      ≠ (match exactStep { ver := 5 } 0 10 2 .ok ([] : List Bytes).flatten with
         | .error e => (.error e : Except Fault (Conn × Nat))
         | .ok (c', total, _) => .ok (c', total)).toOption.map (fun (x : Conn × Nat) => x.1.outBuf.data) := by
  decide +kernel

end Socks

/-- **Segmentation independence** of the negotiation: however the bytes of a composed
    exact-size read (greeting, method list, request, rest of a host name) are cut into read
    completions (at least one: `chunks ≠ []`), the connection state and the byte count
    are the same as for one completion carrying all of them. -/
theorem C17_segmentation_independent (c : Conn) (off need got : Nat) (chunks : List Bytes) (hne : chunks ≠ [])
    (h : off + got + chunks.flatten.length ≤ c.outBuf.cap) :
    feedExact c off need got chunks
      = (match exactStep c off need got .ok chunks.flatten with
         | .error e => .error e
         | .ok (c', total, _) => .ok (c', total)) := by
  induction chunks generalizing c got with
  | nil => exact absurd rfl hne
  | cons d rest ih =>
    simp only [List.flatten_cons, List.length_append] at h
    rw [feedExact, exactStep_ok c off need got .ok d (by omega)]
    simp only
    cases rest with
    | nil => rw [feedExact, exactStep_ok c off need got .ok _ (by simp; omega)]; simp
    | cons r rs =>
      rw [ih _ _ (by simp) (by simp only [Buf.store_cap]; omega)]
      rw [exactStep_ok _ off need _ .ok _ (by simp only [Buf.store_cap]; omega)]
      rw [exactStep_ok c off need got .ok _ (by simp only [List.flatten_cons, List.length_append] at h ⊢; omega)]
      simp only [List.flatten_cons, List.length_append]
      rw [← Nat.add_assoc off got, Buf.store_store]
      simp [Nat.add_assoc]

/-- the handler of a composed read is called exactly when the region is full (or a completion
    carries no bytes) -/
theorem C17_read_ends_when_full (c : Conn) (off need got : Nat) (d : Bytes) (c' : Conn) (total : Nat) (done : Bool)
    (h : exactStep c off need got .ok d = .ok (c', total, done)) :
    total = got + d.length ∧ (done = true ↔ (d.length = 0 ∨ got + d.length ≥ need)) := by
  unfold exactStep at h
  split at h
  · cases h
  · simp only [Except.ok.injEq, Prod.mk.injEq] at h
    obtain ⟨_, h2, h3⟩ := h
    subst h2 h3
    simp


/-- **Segmentation independence of the WHOLE negotiation over an abstract client byte stream**
    (`SimVerif/SocksStream.lean`; given C05): the client's bytes `bs` reach the proxy in order,
    one read completion at a time, each completion carrying ANY non-empty piece of what is unread
    (the schedule `ks`: completion j carries `min (ks[j]+1) (region left) (unread)` bytes). After
    any such schedule, letting the negotiation run to its end gives exactly the state that
    running it to its end directly gives: same buffers, same counters, same unread rest of the
    stream (the payload the relay will carry), same actions (method reply; then close, connect,
    bind, UDP relay or lookup). The outcome of a negotiation is a function of the byte stream,
    not of its segmentation. -/
theorem C17_stream_segmentation (ver : Int) (flags : Nat) (cnt : List Int) (hc : cnt.length = 3)
    (bs : Bytes) (ks : List Nat) (s0 : NS) (h0 : NS.init {} ver flags cnt bs = .ok s0) :
    (match s0.feed {} ks with
     | .error e => .error e
     | .ok s1 => s1.settle {} s1.fuel) = s0.settle {} s0.fuel := by
  obtain ⟨s0', e1, hw⟩ := init_wf ver flags cnt hc bs
  rw [h0] at e1; cases e1
  obtain ⟨s1, f1, _, f3⟩ := settle_feed ks s0 hw
  rw [f1]
  exact f3

/-- no schedule makes the negotiation fault -/
theorem C17_stream_no_fault (ver : Int) (flags : Nat) (cnt : List Int) (hc : cnt.length = 3)
    (bs : Bytes) (ks : List Nat) :
    ∃ s0, NS.init {} ver flags cnt bs = .ok s0 ∧ ∃ s1, s0.feed {} ks = .ok s1 := by
  obtain ⟨s0, e1, hw⟩ := init_wf ver flags cnt hc bs
  obtain ⟨s1, f1, _, _⟩ := settle_feed ks s0 hw
  exact ⟨s0, e1, s1, f1⟩

/-- the settled state is final: no read in progress, or nothing left to read (the fuel
    `|unread| + 1` suffices) -/
theorem C17_stream_settles (ver : Int) (flags : Nat) (cnt : List Int) (hc : cnt.length = 3)
    (bs : Bytes) (s0 : NS) (h0 : NS.init {} ver flags cnt bs = .ok s0) :
    ∃ t, s0.settle {} s0.fuel = .ok t ∧ (t.rd = none ∨ t.rest = []) := by
  obtain ⟨s0', e1, hw⟩ := init_wf ver flags cnt hc bs
  rw [h0] at e1; cases e1
  exact (settle_enough _ s0 hw (.inl (Nat.le_refl _))).1

namespace Socks

/-- SOCKS5 CONNECT 10.0.2.1:8080 followed by two payload bytes -/
def demoStream : Bytes := [5, 1, 0, 5, 1, 0, 1, 10, 0, 2, 1, 31, 144, 104, 105]

def demoSettled (ks : List Nat) : Bool :=
  match NS.init {} 5 0 [0, 0, 0] demoStream with
  | .error _ => false
  | .ok s0 =>
    match s0.feed {} ks with
    | .error _ => false
    | .ok s1 =>
      match s1.settle {} s1.fuel with
      | .error _ => false
      | .ok t => decide (t.cnt = [1, 0, 0] ∧ t.rest = [104, 105] ∧ t.rd = none
                   ∧ t.log.getLast? = some (.connect 167772673 8080 .connect))

theorem demoSettled_ok : demoSettled [0, 0, 0, 0, 0, 0, 0, 0, 0, 0, 0, 0, 0] = true ∧ demoSettled [] = true := by
  decide +kernel

example : demoSettled [0, 0, 0, 0, 0, 0, 0, 0, 0, 0, 0, 0, 0] = true := demoSettled_ok.1
example : demoSettled [] = true := demoSettled_ok.2

end Socks

/-- non-vacuity: SOCKS5 CONNECT 10.0.2.1:8080 + 2 payload bytes, fed byte by byte and all at
    once: counted once, payload left unread, last action = connect -/
example : demoSettled [0, 0, 0, 0, 0, 0, 0, 0, 0, 0, 0, 0, 0] = true ∧ demoSettled [] = true := demoSettled_ok

/-- **Relay transparency over all histories** (given C05: the successive read completions of a
    socket carry the peer's stream in order; bytes handed to `async_write` reach the peer in
    order): on every connection the bytes written to the target are exactly the bytes the relay
    read from the client, and the bytes the relay wrote to the client are exactly the bytes it
    read from the target — every byte, unchanged, in order, for any segmentation. -/
theorem C17_relay_transparent (ver : Int) (flags : Nat) (ls : List SLbl) (s : SS)
    (h : (SS.init ver flags).run {} ls = .ok s) :
    ∀ cs ∈ s.conns, toServer cs.acts = fromClient cs.hist ∧ toClientRelay cs.acts = fromServer cs.hist :=
  relay_run ver flags ls s h

/-- `unwrap (wrap t d) = (t, d)` for every target (IPv4 or host name up to 255 bytes) -/
theorem C17_udp_unwrap_wrap (t : UTarget) (d : Bytes) (ht : t.WF) : udpUnwrap (udpWrap t d) = some (t, d) := by
  cases t with
  | ip a p =>
    obtain ⟨ha, hp⟩ := ht
    simp [udpWrap, udpUnwrap, addr4, port2, be16_port2 p hp, be32_addr4 a ha]
  | name h p =>
    obtain ⟨hh, hp⟩ := ht
    have hl : (u8 h.length).toNat = h.length := by rw [u8_toNat]; omega
    simp [udpWrap, udpUnwrap, port2, hl, be16_port2 p hp]

/-- **UDP forwarding strips exactly the header**: a client datagram `wrap (ip a p) payload`
    is sent to `a:p` as `payload`; one whose header does not fit is ignored; the relay keeps
    receiving in every case. -/
theorem C17_udp_forward (c : Conn) (cnt : List Int) (dg : Bytes) (hs : c.Sized) (hl : dg.length ≤ 1500) :
    (∀ a pt payload, udpUnwrap dg = some (.ip a pt, payload) →
       ∃ c', complete {} c cnt .udpRecv (.dgram .ok dg c.assoc) = .ok (c', cnt, [.udpSend payload a pt, .udpRecv .udpRecv]) ∧ c'.Sized)
    ∧ (∀ host pt payload, udpUnwrap dg = some (.name host pt, payload) →
       ∃ c', complete {} c cnt .udpRecv (.dgram .ok dg c.assoc)
          = .ok (c', cnt, [match c.nameMap.find? (fun e => e.2 == host) with
                           | some (a, _) => .udpSend payload a pt
                           | none => .udpResolve host pt (.udpResolve payload host),
                           .udpRecv .udpRecv]) ∧ c'.Sized)
    ∧ (udpUnwrap dg = none →
       ∃ c', complete {} c cnt .udpRecv (.dgram .ok dg c.assoc) = .ok (c', cnt, [.udpRecv .udpRecv]) ∧ c'.Sized) :=
  have hs' := hs.setUdp (c.udpBuf.store 0 dg) hs.udp
  have e : complete {} c cnt .udpRecv (.dgram .ok dg c.assoc) = .ok (_, cnt, udpActs { c with udpBuf := c.udpBuf.store 0 dg } c.assoc dg) :=
    (complete_udpRecv hs hl).trans ((onReadUdp_eq (udpHolds_store c hs dg hl) c.assoc).trans (by rw [Conn.seen_self]))
  by
    rw [udpActs, if_pos rfl] at e
    exact ⟨fun _ _ _ hu => ⟨_, by rw [e, hu], hs'⟩, fun _ _ _ hu => ⟨_, by rw [e, hu]; rfl, hs'⟩, fun hu => ⟨_, by rw [e, hu], hs'⟩⟩

/-- **Replies are wrapped in a header naming their source** and sent to the client. -/
theorem C17_udp_reply_wrapped (c : Conn) (cnt : List Int) (dg : Bytes) (src : Nat × Nat)
    (hs : c.Sized) (hl : dg.length ≤ 1500) (hsrc : src ≠ c.assoc) (hfix : ¬ (c.assoc.2 = 0 ∧ src.1 = c.assoc.1)) :
    ∃ c', complete {} c cnt .udpRecv (.dgram .ok dg src)
        = .ok (c', cnt, [.udpSend (udpWrap (match (c.nameMap.find? (fun e => e.1 == src.1)).map Prod.snd with
                                            | some host => .name host src.2
                                            | none => .ip src.1 src.2) dg) c.assoc.1 c.assoc.2,
                         .udpRecv .udpRecv]) ∧ c'.Sized :=
  have e := (complete_udpRecv (p := {}) (cnt := cnt) (ec := .ok) (src := src) hs hl).trans
    (onReadUdp_eq (udpHolds_store c hs dg hl) src)
  ⟨{ c with udpBuf := c.udpBuf.store 0 dg }, by rw [e, Conn.seen, if_neg hfix, udpActs, if_neg hsrc]; rfl, hs.setUdp _ hs.udp⟩

/-- a complete SOCKS5 CONNECT in awkward segmentation (request cut 1 + 9), target reachable,
    payload both ways: the history is accepted label by label and ends relaying -/
def demoRun : List SLbl :=
  hs5 ++ [.complete 0 0 (.rd .ok [5]), .complete 0 0 (.rd .ok [1, 0, 1, 10, 0, 2, 1, 31, 144]),
          .complete 0 0 (.conn .ok (some (167772673, 8080))), .complete 0 0 (.wr .ok 10),
          .complete 0 1 (.rd .ok [104, 105]), .complete 0 0 (.rd .ok [111, 107]),
          .complete 0 0 (.wr .ok 2), .complete 0 0 (.wr .ok 2)]

def demoCheck : Bool :=
  match (SS.init 5 0).run {} demoRun with
  | .ok s => decide (s.cnt = [1, 0, 0]
      ∧ (s.conns.map (fun cs => (toServer cs.acts, fromClient cs.hist, toClientRelay cs.acts, fromServer cs.hist)))
          = [([104, 105], [104, 105], [111, 107], [111, 107])]
      ∧ (s.conns.map (fun cs => replies cs.acts)) = [[[5, 0], [5, 0, 0, 1, 10, 0, 2, 1, 31, 144]]])
  | .error _ => false

example : demoCheck = true := by decide +kernel

example : validReq 5 [5, 1, 0, 1, 10, 0, 2, 1, 31, 144] ∧ ¬ validReq 5 [5, 9, 0, 1, 10, 0, 2, 1, 31, 144]
    ∧ validReq 4 [4, 1, 31, 144, 10, 0, 2, 1, 0] ∧ ¬ validReq 4 [4, 1, 31, 144, 10, 0, 2, 1, 65] := by decide +kernel

example : udpUnwrap (udpWrap (.ip 167772673 5300) [170, 187]) = some (.ip 167772673 5300, [170, 187]) :=
  C17_udp_unwrap_wrap _ _ ⟨by decide, by decide⟩
example : udpUnwrap [0, 0, 0, 1, 10, 0] = none := by decide +kernel

end SimVerif
