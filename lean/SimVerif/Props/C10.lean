/-
  C10 — tail-drop exactly on overflow; byte/packet conservation; control packets spared;
        every drop reported once, at once, iff the packet carries a drop callback.

  The property theorems and examples (see the header of Props/C09.lean for the setting). `TailDrop c held p`
  is the proposition `p.okToDrop ∧ 0 < c.cap ∧ c.cap < held + p.size`.
-/
import SimVerif.Props.C09

namespace SimVerif

/-- **Byte account**: `m_queue_size` is the sum of the sizes of the queued packets. -/
theorem C10_account (c : QCfg) (hc : c.WF) (ls : List QLbl) (h : QS.okRun c {} ls) :
    (QS.run c {} ls).q.held = ((QS.run c {} ls).q.items.map (fun x => (x.2.size : Int))).sum :=
  (QInv.run_init hc ls h).held

/-- **… which is the bytes accepted minus the bytes forwarded.** -/
theorem C10_held_is_arrived_minus_forwarded (c : QCfg) (hc : c.WF) (ls : List QLbl)
    (h : QS.okRun c {} ls) :
    (QS.run c {} ls).q.held
      = (((QS.run c {} ls).arrLog.filter (fun a => !a.2.2)).map (fun a => (a.2.1.size : Int))).sum
        - ((QS.run c {} ls).fwdLog.map (fun f => (f.pkt.size : Int))).sum := by
  have h1 := C10_account c hc ls h
  have h2 := congrArg (fun l => (l.map (fun x : Int × Pkt => (x.2.size : Int))).sum)
    (C09_stamps c hc ls h)
  simp only [List.map_map, List.map_append, List.sum_append, Function.comp_def] at h2
  omega

/-- **Tail-drop exactly on overflow** (the mechanism function, any queue state):
    if the condition holds the queue is untouched and the only effect is the drop callback
    (iff the packet has one); otherwise the packet is appended with stamp now + latency,
    accounted, and no drop callback is invoked. -/
theorem C10_drop_iff (c : QCfg) (q : Q) (now : Int) (p : Pkt) :
    (TailDrop c q.held p → q.incoming c now p = (q, if p.hasDrop then [.dropCb p] else []))
    ∧ (¬ TailDrop c q.held p →
        (q.incoming c now p).1.items = q.items ++ [(now + c.lat, p)]
        ∧ (q.incoming c now p).1.held = q.held + p.size
        ∧ ∀ x, QEff.dropCb x ∉ (q.incoming c now p).2) :=
  ⟨incoming_of_drops c now q p, fun hD =>
    ⟨by rw [incoming_items, if_neg hD], by rw [incoming_held, if_neg hD], incoming_nodrop c now q p hD⟩⟩

/-- **One arrival, as logged** (any state, so also a re-entrant arrival during a forward):
    the flag is the tail-drop condition on the bytes held at that moment. -/
theorem C10_arrival_logged (c : QCfg) (s : QS) (p : Pkt) :
    (s.doArrive c p).arrLog = s.arrLog ++ [(s.now, p, decide (TailDrop c s.q.held p))] :=
  doArrive_arrLog c s p

/-- **Every top-level arrival of a history is logged as dropped iff it overflowed**, where
    the bytes held are those accepted and not yet forwarded in the history before it. -/
theorem C10_logged_drop_iff (c : QCfg) (hc : c.WF) (pre post : List QLbl) (t : Int) (p : Pkt)
    (h : QS.okRun c {} (pre ++ [.arrive t p] ++ post)) :
    ∃ rest, (QS.run c {} (pre ++ [.arrive t p] ++ post)).arrLog
      = (QS.run c {} pre).arrLog ++
          (t, p, decide (TailDrop c
            ((((QS.run c {} pre).arrLog.filter (fun a => !a.2.2)).map (fun a => (a.2.1.size : Int))).sum
              - ((QS.run c {} pre).fwdLog.map (fun f => (f.pkt.size : Int))).sum) p)) :: rest := by
  obtain ⟨h12, h3⟩ := (QS.okRun_append c {} _ post).mp h
  obtain ⟨h1, h2⟩ := (QS.okRun_append c {} pre _).mp h12
  have hI := QInv.run_init hc _ h12
  obtain ⟨r, hr⟩ := run_arrLog_prefix hc post _ hI h3
  refine ⟨r, ?_⟩
  rw [QS.run_append, ← hr, QS.run_append, ← C10_held_is_arrived_minus_forwarded c hc pre h1]
  show ((({ (QS.run c {} pre) with now := t }).doArrive c p).arrLog) ++ r = _
  rw [C10_arrival_logged]; simp

/-- **SYN-ACK, ACK and error packets are never dropped**, whatever the occupancy. -/
theorem C10_control_never_dropped (c : QCfg) (q : Q) (now : Int) (p : Pkt)
    (hty : p.ty = .synack ∨ p.ty = .ack ∨ p.ty = .err) :
    (q.incoming c now p).1.items = q.items ++ [(now + c.lat, p)]
    ∧ (q.incoming c now p).1.held = q.held + p.size
    ∧ ∀ x, QEff.dropCb x ∉ (q.incoming c now p).2 := by
  apply (C10_drop_iff c q now p).2
  intro hD
  have := hD.1
  rcases hty with h | h | h <;> simp [Pkt.okToDrop, h] at this

/-- **Capacity 0 means unlimited.** -/
theorem C10_cap0_unlimited (c : QCfg) (q : Q) (now : Int) (p : Pkt) (hcap : c.cap = 0) :
    (q.incoming c now p).1.items = q.items ++ [(now + c.lat, p)]
    ∧ (q.incoming c now p).1.held = q.held + p.size
    ∧ ∀ x, QEff.dropCb x ∉ (q.incoming c now p).2 := by
  apply (C10_drop_iff c q now p).2
  intro hD
  have := hD.2.1
  omega

/-- **Conservation**: every arrival is forwarded, or dropped, or still queued — exactly one
    of these — and the accepted ones appear unaltered and in order (`C09_fifo`). -/
theorem C10_conservation (c : QCfg) (hc : c.WF) (ls : List QLbl) (h : QS.okRun c {} ls) :
    (QS.run c {} ls).arrLog.length
      = (QS.run c {} ls).fwdLog.length + (QS.run c {} ls).q.items.length
        + ((QS.run c {} ls).arrLog.filter (fun a => a.2.2)).length
    ∧ ((QS.run c {} ls).arrLog.filter (fun a => !a.2.2)).map (fun a => a.2.1)
        = (QS.run c {} ls).fwdLog.map Fwd.pkt ++ (QS.run c {} ls).q.items.map Prod.snd := by
  refine ⟨?_, C09_fifo c hc ls h⟩
  have h1 := length_filter_split (fun a : Int × Pkt × Bool => a.2.2) (QS.run c {} ls).arrLog
  have h2 := congrArg List.length (C09_fifo c hc ls h)
  simp only [List.length_map, List.length_append] at h2
  omega

/-- **Each drop is reported exactly once, at the instant of the drop, packet intact, iff the
    packet carries a drop callback.** -/
theorem C10_drop_reported_once_at_once (c : QCfg) (hc : c.WF) (ls : List QLbl)
    (h : QS.okRun c {} ls) :
    (QS.run c {} ls).dropLog
      = ((QS.run c {} ls).arrLog.filter (fun a => a.2.2 && a.2.1.hasDrop)).map (fun a => (a.1, a.2.1)) :=
  (QInv.run_init hc ls h).drops

example : QS.okRun QEx.cfg {} QEx.hist := QEx.hist_ok

/-- (instant, id, dropped): p2 fills the queue exactly (150 ≤ 150: accepted); payload p3 and p5
    overflow and are dropped; the ACKs p4 (held 150 → 200 > cap) and p6 are accepted. -/
example : (QS.run QEx.cfg {} QEx.hist).arrLog.map (fun a => (a.1, a.2.1.id, a.2.2))
    = [(0, 1, false), (5, 2, false), (6, 3, true), (7, 4, false), (8, 5, true), (100010, 6, false)] := by
  decide +kernel

/-- only p3 has a drop callback: reported once, at instant 6 -/
example : (QS.run QEx.cfg {} QEx.hist).dropLog.map (fun a => (a.1, a.2.id)) = [(6, 3)] := by decide +kernel

example : (QS.run QEx.cfg {} QEx.hist).fwdLog.map (fun f => (f.pkt.id, f.dep))
    = [(1, 100010), (2, 150010), (4, 200010)] := by decide +kernel

example : (QS.run QEx.cfg {} QEx.hist).q.held = 50 := by decide +kernel

example := C10_conservation QEx.cfg QEx.cfg_wf QEx.hist QEx.hist_ok
/-- the history cut around the arrival of `p3` is `QEx.hist` again -/
example := C10_logged_drop_iff QEx.cfg QEx.cfg_wf (QEx.hist.take 2) (QEx.hist.drop 3) 6 QEx.p3 QEx.hist_ok

end SimVerif
