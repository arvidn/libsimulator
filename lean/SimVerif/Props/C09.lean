/-
  C09 — a queue forwards in arrival order, and every departure obeys
        leave = max(departure of the previous packet, own arrival + latency) + size / rate.

  The property theorems, the route-level bound and the example histories (mechanism model: SimVerif/Queue.lean; open system and the kernel's
  guarantees as side condition `QS.okRun`: SimVerif/QueueSys.lean; invariant:
  SimVerif/Lemmas/QueueInv.lean). All statements quantify over every well-timed history
  `ls` from the initial state — every arrival pattern (including re-entrant arrivals during
  a forward) and every admissible callback schedule — for a configuration `c` with
  non-negative latency / serialisation times and the re-entry guard present (`c.WF`).
-/
import SimVerif.Lemmas.QueueInv

namespace SimVerif

/-- **Stamps.** The accepted arrivals, each stamped arrival instant + latency, are exactly
    the forwarded packets (with the stamp they were forwarded under) followed by the queue
    content: same packets, same order, nothing skipped, nothing invented. -/
theorem C09_stamps (c : QCfg) (hc : c.WF) (ls : List QLbl) (h : QS.okRun c {} ls) :
    ((QS.run c {} ls).arrLog.filter (fun a => !a.2.2)).map (fun a => (a.1 + c.lat, a.2.1))
      = (QS.run c {} ls).fwdLog.map (fun f => (f.ts, f.pkt)) ++ (QS.run c {} ls).q.items :=
  (QInv.run_init hc ls h).stamps

/-- **FIFO.** Packets are forwarded in arrival order, none skipped. -/
theorem C09_fifo (c : QCfg) (hc : c.WF) (ls : List QLbl) (h : QS.okRun c {} ls) :
    ((QS.run c {} ls).arrLog.filter (fun a => !a.2.2)).map (fun a => a.2.1)
      = (QS.run c {} ls).fwdLog.map Fwd.pkt ++ (QS.run c {} ls).q.items.map Prod.snd := by
  have := congrArg (List.map Prod.snd) (C09_stamps c hc ls h)
  simpa [List.map_map, Function.comp_def] using this

/-- **Departure recurrence.** leave = max(previous departure, arrival + latency) + size/rate
    (`serEff` is 0 for bandwidth 0). -/
theorem C09_recurrence (c : QCfg) (hc : c.WF) (ls : List QLbl) (h : QS.okRun c {} ls) :
    ∀ f ∈ (QS.run c {} ls).fwdLog, f.dep = omax f.prev f.ts + c.serEff f.pkt.size :=
  (QInv.run_init hc ls h).recur

/-- **`prev` is the departure instant of the packet forwarded just before** (none for the first). -/
theorem C09_prev_chain (c : QCfg) (hc : c.WF) (ls : List QLbl) (h : QS.okRun c {} ls) :
    (QS.run c {} ls).fwdLog.map Fwd.prev
      = (none :: (QS.run c {} ls).fwdLog.map (fun f => some f.dep)).take (QS.run c {} ls).fwdLog.length :=
  Linked_take none _ (QInv.run_init hc ls h).linked

/-- **No packet crosses the hop faster than latency + serialisation.** -/
theorem C09_min_crossing (c : QCfg) (hc : c.WF) (ls : List QLbl) (h : QS.okRun c {} ls) :
    ∀ f ∈ (QS.run c {} ls).fwdLog, f.ts + c.serEff f.pkt.size ≤ f.dep := by
  intro f hf
  have h1 := C09_recurrence c hc ls h f hf
  have h2 := omax_ge f.prev f.ts
  omega

/-- **Departures are in non-decreasing time order.** -/
theorem C09_departures_monotone (c : QCfg) (hc : c.WF) (ls : List QLbl) (h : QS.okRun c {} ls) :
    ((QS.run c {} ls).fwdLog.map Fwd.dep).Pairwise (· ≤ ·) :=
  (QInv.run_init hc ls h).mono

/-- **Work conservation.** A backlogged hop always has its next callback pending. -/
theorem C09_work_conserving (c : QCfg) (hc : c.WF) (ls : List QLbl) (h : QS.okRun c {} ls) :
    (QS.run c {} ls).q.items ≠ [] → (QS.run c {} ls).q.forwarding = false →
      (QS.run c {} ls).timer.isSome ∨ (QS.run c {} ls).posted ≠ [] := by
  intro hne _
  have hI := QInv.run_init hc ls h
  cases hti : (QS.run c {} ls).timer with
  | some x => simp
  | none =>
    right; intro hpo
    exact hne (hI.idle hti hpo)

/-- between labels the queue is never inside a forward -/
theorem C09_not_forwarding (c : QCfg) (hc : c.WF) (ls : List QLbl) (h : QS.okRun c {} ls) :
    (QS.run c {} ls).q.forwarding = false :=
  (QInv.run_init hc ls h).nf

/-- … and conversely an empty hop has nothing pending; at most one callback is ever pending. -/
theorem C09_idle_quiet (c : QCfg) (hc : c.WF) (ls : List QLbl) (h : QS.okRun c {} ls) :
    ((QS.run c {} ls).q.items = [] → (QS.run c {} ls).timer = none ∧ (QS.run c {} ls).posted = [])
    ∧ ((QS.run c {} ls).timer ≠ none → (QS.run c {} ls).posted = []) :=
  ⟨(QInv.run_init hc ls h).toQCtl.empty_idle, (QInv.run_init hc ls h).excl⟩

/-- **What exactly is pending.**
    * timer armed for `next_packet_sent` at `e`: the link has a rate and `e` is
      max(previous departure, head stamp) + serialisation time of the head;
    * timer armed for `begin_send_next_packet` at `e`: `e` is the head's stamp and the previous
      departure is not later;
    * a posted callback: it is the single `next_packet_sent`, the link is infinitely fast and
      the current instant is max(previous departure, head stamp). -/
theorem C09_busy_kind (c : QCfg) (hc : c.WF) (ls : List QLbl) (h : QS.okRun c {} ls) :
    (∀ e, (QS.run c {} ls).timer = some (e, .sent) →
        c.bw ≠ 0 ∧ ∃ ts p rest, (QS.run c {} ls).q.items = (ts, p) :: rest
          ∧ e = omax (QS.run c {} ls).prevDep ts + c.ser p.size)
    ∧ (∀ e, (QS.run c {} ls).timer = some (e, .begin) →
        (∃ p rest, (QS.run c {} ls).q.items = (e, p) :: rest)
          ∧ ∀ d, (QS.run c {} ls).prevDep = some d → d ≤ e)
    ∧ ((QS.run c {} ls).posted ≠ [] →
        (QS.run c {} ls).posted = [.sent] ∧ c.bw = 0
          ∧ ∃ ts p rest, (QS.run c {} ls).q.items = (ts, p) :: rest
              ∧ (QS.run c {} ls).now = omax (QS.run c {} ls).prevDep ts) :=
  ⟨(QInv.run_init hc ls h).tsent, (QInv.run_init hc ls h).tbegin, (QInv.run_init hc ls h).post⟩

/-- **The link never emits faster than its rate**: consecutive departures are at least the
    serialisation time of the later packet apart. -/
theorem C09_rate_bound (c : QCfg) (hc : c.WF) (ls : List QLbl) (h : QS.okRun c {} ls)
    (hbw : c.bw ≠ 0) (A B : List Fwd) (f₁ f₂ : Fwd)
    (hs : (QS.run c {} ls).fwdLog = A ++ f₁ :: f₂ :: B) :
    f₂.dep - f₁.dep ≥ c.ser f₂.pkt.size := by
  have hI := QInv.run_init hc ls h
  have hl := hI.linked; rw [hs] at hl
  have hp := Linked_adjacent none A B f₁ f₂ hl
  have hr := hI.recur f₂ (by rw [hs]; simp)
  rw [hp, omax_some] at hr
  simp [QCfg.serEff, hbw] at hr
  omega

/-- **Every callback finds a packet**: whenever the kernel runs `begin_send_next_packet` or
    `next_packet_sent`, the queue is non-empty (the unconditional `m_queue.front()` is safe). -/
theorem C09_callbacks_find_packet (c : QCfg) (hc : c.WF) (pre post : List QLbl) (l : QLbl)
    (h : QS.okRun c {} (pre ++ l :: post))
    (hl : (∃ t, l = .cbBegin t) ∨ (∃ t re, l = .cbSent t re)) :
    (QS.run c {} pre).q.items ≠ [] := by
  obtain ⟨h1, hok, _⟩ := (QS.okRun_append c {} pre (l :: post)).mp h
  have hI := QInv.run_init hc pre h1
  rcases hl with ⟨t, rfl⟩ | ⟨t, re, rfl⟩
  · obtain ⟨⟨p, rest, hi⟩, _⟩ := hI.tbegin t hok.1; simp [hi]
  · obtain ⟨ts, p, rest, hi, _⟩ := hI.cbSent_shape t re hok; simp [hi]


/-! ### routes of several hops

A packet crossing hops 1…n arrives at hop i+1 no earlier than it left hop i (`forward_packet`
is synchronous, sinks between queues add no time); each queue hop satisfies
`C09_min_crossing`: it leaves no earlier than `arrival + latency + serialisation`. The
end-to-end delay is therefore bounded below by the sum along the route — the UDP one-way
delay, each half of a TCP connect round trip, and every segment of a bulk transfer. -/

/-- one hop as seen by one packet: (arrival, departure, latency, serialisation time) -/
structure HopPass where
  arr : Int
  dep : Int
  lat : Int
  ser : Int

/-- every hop respects its minimum crossing time, and hops are traversed in order -/
def RouteOK : List HopPass → Prop
  | [] => True
  | [h] => h.arr + h.lat + h.ser ≤ h.dep
  | h :: h' :: rest => h.arr + h.lat + h.ser ≤ h.dep ∧ h.dep ≤ h'.arr ∧ RouteOK (h' :: rest)

theorem C09_route_lower_bound (h : HopPass) (rest : List HopPass) (hok : RouteOK (h :: rest)) :
    h.arr + ((h :: rest).map (fun x => x.lat + x.ser)).sum ≤ ((h :: rest).getLast (by simp)).dep := by
  induction rest generalizing h with
  | nil => simp only [RouteOK] at hok; simp; omega
  | cons h' rest ih =>
    obtain ⟨h1, h2, h3⟩ := hok
    have := ih h' h3
    simp only [List.map_cons, List.sum_cons] at this ⊢
    rw [List.getLast_cons (by simp)]
    omega

/-- a three-hop route: 10+5, 20+1, 0+7 -/
example : RouteOK [⟨0, 15, 10, 5⟩, ⟨15, 40, 20, 1⟩, ⟨40, 47, 0, 7⟩] := by simp [RouteOK]

namespace QEx

/-- 1 byte = 1000 ns, latency 10 ns, room for 150 bytes -/
def cfg : QCfg := { bw := 1000000, lat := 10, cap := 150, ser := fun s => (s : Int) * 1000 }

theorem cfg_wf : cfg.WF := ⟨by decide, by intro s; show 0 ≤ (s : Int) * 1000; omega, rfl⟩

def p1 : Pkt := { id := 1, len := 80 }                      -- 100 bytes
def p2 : Pkt := { id := 2, len := 30 }                      -- 50 bytes: fills the queue exactly
def p3 : Pkt := { id := 3, len := 30, hasDrop := true }     -- overflows: dropped, reported
def p4 : Pkt := { id := 4, ty := .ack, len := 30 }          -- ACK: accepted over capacity
def p5 : Pkt := { id := 5, len := 30 }                      -- overflows, no callback: silent drop
def p6 : Pkt := { id := 6, ty := .ack, len := 30 }          -- sent back by the next hop (re-entrant)

/-- p1 waits for its latency, is serialised for 100000 ns; p2 (stamp 15) has to wait for p1's
    departure, so `omax` picks `prev`; p6 re-enters the queue while p1 is being forwarded. -/
def hist : List QLbl :=
  [.arrive 0 p1, .arrive 5 p2, .arrive 6 p3, .arrive 7 p4, .arrive 8 p5, .cbBegin 10,
   .cbSent 100010 [p6], .cbSent 150010 [], .cbSent 200010 []]

theorem hist_ok : QS.okRun cfg {} hist := by decide +kernel

/-- infinitely fast link, no latency: the `post` path -/
def cfg0 : QCfg := { bw := 0, lat := 0, cap := 0, ser := fun _ => 0 }

theorem cfg0_wf : cfg0.WF := ⟨by decide, by intro s; exact Int.le_refl 0, rfl⟩

/-- the pinned tree (no `m_forwarding` guard): the invariant fails, see the example below -/
def cfgPinned : QCfg := { cfg with reentryGuard := false }

def histPinned : List QLbl := [.arrive 0 p1, .cbBegin 10, .cbSent 100010 [p6]]

def hist0 : List QLbl := [.arrive 3 p1, .arrive 3 p2, .cbSent 3 [], .cbSent 3 []]

end QEx

example : QS.okRun QEx.cfg {} QEx.hist := QEx.hist_ok

/-- (id, stamp, prev, departure): p2's stamp is 15 but p1 leaves at 100010, so p2 leaves at
    max(100010, 15) + 50·1000; the over-capacity ACK p4 follows. p6 (re-entrant) is still queued
    and its `next_packet_sent` is armed for max(200010, 100020) + 50·1000. -/
example : (QS.run QEx.cfg {} QEx.hist).fwdLog.map (fun f => (f.pkt.id, f.ts, f.prev, f.dep))
    = [(1, 10, none, 100010), (2, 15, some 100010, 150010), (4, 17, some 150010, 200010)] := by decide +kernel

example : (QS.run QEx.cfg {} QEx.hist).q.items.map (fun x => (x.1, x.2.id)) = [(100020, 6)]
    ∧ (QS.run QEx.cfg {} QEx.hist).timer = some (250010, .sent) := by decide +kernel

example := C09_recurrence QEx.cfg QEx.cfg_wf QEx.hist QEx.hist_ok
example := C09_busy_kind QEx.cfg QEx.cfg_wf QEx.hist QEx.hist_ok

/-- the hypothesis `c.WF.guard` is needed: without the guard (pinned tree) a re-entrant arrival
    into the just-emptied queue starts the sender, `next_packet_sent` starts it again, the
    second `expires_at` aborts the first wait: two callbacks pending for one packet. -/
example : QS.okRun QEx.cfgPinned {} QEx.histPinned
    ∧ (QS.run QEx.cfgPinned {} QEx.histPinned).timer = some (100020, .begin)
    ∧ (QS.run QEx.cfgPinned {} QEx.histPinned).posted = [.begin]
    ∧ (QS.run QEx.cfgPinned {} QEx.histPinned).q.items.length = 1 := by decide +kernel

/-- bandwidth 0: both packets leave at the instant of arrival + latency, via `post` -/
example : QS.okRun QEx.cfg0 {} QEx.hist0 := by decide +kernel
example : (QS.run QEx.cfg0 {} QEx.hist0).fwdLog.map (fun f => (f.pkt.id, f.ts, f.prev, f.dep))
    = [(1, 3, none, 3), (2, 3, some 3, 3)] := by decide +kernel

end SimVerif
