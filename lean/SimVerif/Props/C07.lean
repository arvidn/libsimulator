/-
  C07 — TCP connect/accept pairing, refusal and endpoint views are consistent.

  The property theorems, the few list / view lemmas they are proved from, and a Boolean mirror
  (`HS.okB`) of the side condition for the concrete example. Mechanism model:
  SimVerif/Tcp.lean (`tcpConnect`, `internalConnect`,
  `accIncoming`, `accCheckQueue`, `tcpAttach`, `accAsyncAccept`, `accClose`, `tcpOpen`, `tcpBind`,
  `accListen`, `accCancel`, `tcpCancel`, `tcpClose`, `tcpIncoming`), unchanged. Open system: ANY
  number of acceptors and of other sockets; acceptors are opened, bound (to any endpoint),
  made to listen, closed and RE-OPENED (on the same or another endpoint) in any order — each
  open..close period is a LISTENING EPOCH, identified by the forwarder id that `open`
  allocates; connectors and accepted sockets may be cancelled / closed by the user at any
  time; the network is an adversary that delivers SYNs / SYN-ACKs in any order, at any later
  time or never, through any NAT hops: SimVerif/AcceptSys.lean; its invariant:
  SimVerif/Lemmas/AcceptInv.lean, AcceptStep.lean. All system theorems quantify over every
  history `ls` admitted by `HS.ok` from the initial state `HS.init cfg accs clients` (any
  configuration, any acceptor objects, any socket objects, all freshly constructed).

  Not in the pinned/as-is form: `accClose` has no `TParams` switch for the unrepaired
  `acceptor::close` (which left `m_incoming_conns` alone), so only the repaired behaviour is
  proved (`C07_close_resets_queue`, third part of `C07_pairing_fifo`, `C07_reopen_fresh_epoch`).
-/
import SimVerif.Lemmas.TcpMtu
import SimVerif.Lemmas.AcceptStep
import SimVerif.Lemmas.Decide

namespace SimVerif
open Hs

/-- for a socket that is open and bound, `async_connect` is the family check followed by
    `internal_connect` -/
theorem tcpConnect_bound (n : NetSt) (now : Int) (name : String) (target : Ep) (h : Nat) (s : TcpSock)
    (hs : n.tcp? name = some s) (hopen : s.isOpen = true) (hbound : s.bound.addr ≠ "0.0.0.0") :
    n.tcpConnect now name target h = n.tcpConnectFinish name target h [] := by
  rw [tcpConnect_eq n now name target h s hs]
  have hb : (s.bound.addr == "0.0.0.0") = false := by simp [hbound]
  simp only [NetSt.tcpConnectOpen, hopen, Bool.not_true, Bool.false_eq_true, if_false, hs, tcpConnectBind_eq, hb]
  rfl

/-- `async_connect` on an open, bound socket of the right
    family yields a channel and a SYN (and parks the handler) iff the registry maps the
    dialled endpoint to a socket that is listening (an acceptor with `m_queue_size_limit > 0`). -/
theorem C07_connect_needs_listener (n : NetSt) (now : Int) (name : String) (target : Ep) (h : Nat) (s : TcpSock)
    (hs : n.tcp? name = some s) (hopen : s.isOpen = true) (hbound : s.bound.addr ≠ "0.0.0.0")
    (hfam : s.bound.isV4 = target.isV4) :
    n.Listening target ↔
      ∃ syn, (n.tcpConnect now name target h).2 = [.forward syn] ∧ syn.ty = .syn
        ∧ syn.chan = some n.chans.length
        ∧ ((n.tcpConnect now name target h).1.tcp? name).bind (·.chan) = some n.chans.length
        ∧ ((n.tcpConnect now name target h).1.tcp? name).bind (·.connectH) = some h
        ∧ (n.tcpConnect now name target h).1.chans.length = n.chans.length + 1 := by
  rw [tcpConnect_bound n now name target h s hs hopen hbound]
  rcases tcpConnectFinish_rows n name target h [] s hs with ⟨hf, _⟩ | ⟨hnl, e⟩ | ⟨rname, r, l1, l2, l3, e⟩
  · exact absurd hfam hf
  · rw [e]; exact ⟨fun hl => absurd hl hnl, fun ⟨syn, he, _⟩ => by simp at he⟩
  · rw [e, tcp?_setTcp_same]
    exact ⟨fun _ => ⟨_, rfl, rfl, rfl, rfl, rfl, by simp⟩, fun _ => ⟨rname, r, l1, l2, l3⟩⟩

/-- Nobody listening on the dialled endpoint: the effects are exactly the
    50 ms connect timer carrying `connection_refused` for the handler — a positive delay —,
    no packet is forwarded, no channel is created and the socket's channel stays empty. -/
theorem C07_refused (n : NetSt) (now : Int) (name : String) (target : Ep) (h : Nat) (s : TcpSock)
    (hs : n.tcp? name = some s) (hopen : s.isOpen = true) (hbound : s.bound.addr ≠ "0.0.0.0")
    (hfam : s.bound.isV4 = target.isV4) (hnl : ¬ n.Listening target) :
    (n.tcpConnect now name target h).2 = [.armAfter name 0 50000000 (.tcpConnectRefused name h)]
    ∧ (0 : Int) < 50000000
    ∧ fwdPkts (n.tcpConnect now name target h).2 = []
    ∧ ((n.tcpConnect now name target h).1.tcp? name).bind (·.chan) = none
    ∧ ((n.tcpConnect now name target h).1.tcp? name).bind (·.connectH) = s.connectH
    ∧ (n.tcpConnect now name target h).1.chans = n.chans
    ∧ (n.tcpConnect now name target h).1.reg = n.reg := by
  rw [tcpConnect_bound n now name target h s hs hopen hbound]
  rcases tcpConnectFinish_rows n name target h [] s hs with ⟨hf, _⟩ | ⟨_, e⟩ | ⟨rname, r, l1, l2, l3, _⟩
  · exact absurd hfam hf
  · rw [e, tcp?_setTcp_same]; exact ⟨rfl, by decide, rfl, rfl, rfl, rfl, rfl⟩
  · exact absurd ⟨rname, r, l1, l2, l3⟩ hnl



section system
variable (cfg : NetCfg) (accs clients : List (String × String)) (tp : TParams)

/-- **Invariant of every reachable state** (all clauses of `HInv` + work conservation). -/
theorem C07_invariant (ls : List HLbl) (hok : HS.okRun tp (HS.init cfg accs clients) ls) :
    HFull (HS.run tp (HS.init cfg accs clients) ls) :=
  HFull.run tp ls _ (HFull.init cfg accs clients) hok

theorem map_cid_eq (l : List AccDone) (hl : ∀ e ∈ l, ∃ c, e.cid = some c) :
    l.map (·.cid) = (l.filterMap (·.cid)).map some := by
  induction l with
  | nil => rfl
  | cons e es ih =>
    obtain ⟨c, hc⟩ := hl e List.mem_cons_self
    rw [List.map_cons, List.filterMap_cons, hc]
    simp only [List.map_cons]
    rw [ih (fun e' he' => hl e' (List.mem_cons_of_mem _ he'))]

theorem accLog_some {s : HS} (h : HInv s) : ∀ e ∈ s.accLog, ∃ c, e.cid = some c := by
  intro e he
  obtain ⟨_, c, _, _, a⟩ := h.acc he
  exact ⟨c, a.cid_eq⟩

/-- In EVERY listening epoch `f` (of any acceptor) the i-th SYN to
    ARRIVE in that epoch is matched with the i-th accept to COMPLETE in that epoch — for all
    three overloads and any interleaving of arrivals and accept calls. While the epoch is open
    (the acceptor holds forwarder `f`) nothing is skipped: the arrivals are exactly the accepted
    channels followed by the queue, and no SYN waits while an accept is outstanding. And an
    accept completing in epoch `f` of acceptor `e.acc` hands out only a connection that was
    DIALLED TO that acceptor IN that epoch (at the endpoint it is listening on) and whose SYN
    ARRIVED in that epoch: connections queued before a `close` are never handed out by a later
    epoch (`accClose` resets the queue — `C07_close_resets_queue` — and the epoch's forwarder is
    never attached again). -/
theorem C07_pairing_fifo (ls : List HLbl) (hok : HS.okRun tp (HS.init cfg accs clients) ls) :
    let s := HS.run tp (HS.init cfg accs clients) ls
    (∀ f, (s.accAt f).map (·.cid) = ((s.synAt f).take (s.accAt f).length).map some)
    ∧ (∀ a sa ac f, s.net.tcp? a = some sa → sa.acc = some ac → sa.fwd = some f →
         s.synAt f = (s.accAt f).filterMap (·.cid) ++ ac.conns ∧ (ac.acceptOp.isSome → ac.conns = []))
    ∧ (∀ e ∈ s.accLog, ∃ c d, e.cid = some c ∧ s.dialLog[c]? = some d
         ∧ d.epoch = e.epoch ∧ d.lsock = e.acc ∧ d.target = e.lep ∧ (e.epoch, c) ∈ s.synLog) := by
  intro s
  have h := C07_invariant cfg accs clients tp ls hok
  refine ⟨?_, ?_, ?_⟩
  · intro f
    obtain ⟨dropped, hf⟩ := h.inv.fifo_all f
    have hc := map_cid_eq (accAtL s.accLog f) (fun e he => accLog_some h.inv e (mem_accAtL.mp he).1)
    have hlen : ((accAtL s.accLog f).filterMap (·.cid)).length = (accAtL s.accLog f).length := by
      have := congrArg List.length hc; simp at this; exact this.symm
    show (accAtL s.accLog f).map (·.cid) = ((synAtL s.synLog f).take (accAtL s.accLog f).length).map some
    rw [hc, hf, ← hlen, List.take_left']
    rfl
  · intro a sa ac f hsa hac hvf
    have hva := sv_of_tcp? hsa
    exact ⟨h.inv.fifo a _ ac f hva hac hvf, h.work a _ ac hva hac (h.inv.open_of_fwd hva hac hvf)⟩
  · intro e he
    obtain ⟨_, c, _, d, a⟩ := h.inv.acc he
    exact ⟨c, d, a.cid_eq, a.dial, a.epoch, a.lsock, a.target, h.inv.acc_syn e he c a.cid_eq⟩

/-- No channel is handed to two accepts — over all acceptors and all
    epochs —; no `accept` call completes twice (per acceptor, completions carry strictly
    increasing call numbers, all of calls actually made on that acceptor); no SYN arrives twice. -/
theorem C07_one_to_one (ls : List HLbl) (hok : HS.okRun tp (HS.init cfg accs clients) ls) :
    let s := HS.run tp (HS.init cfg accs clients) ls
    (s.accLog.filterMap (·.cid)).Nodup
    ∧ (s.accLog.map (·.cid)).Nodup
    ∧ s.accLog.Pairwise (fun e e' => e.acc = e'.acc → e.serial < e'.serial)
    ∧ (∀ e ∈ s.accLog, e.serial < s.accCalls e.acc)
    ∧ (s.synLog.map (·.2)).Nodup := by
  intro s
  have h := C07_invariant cfg accs clients tp ls hok
  refine ⟨?_, h.inv.acc_nd, h.inv.ser_mono, h.inv.ser_lt, h.inv.syn_nd⟩
  have hc := map_cid_eq s.accLog (accLog_some h.inv)
  have := h.inv.acc_nd
  rw [hc] at this
  exact (List.pairwise_map.mp this).imp (fun hne heq => hne (congrArg some heq))

/-- **Every successful connect is matched with exactly one accept; every connect completes at
    most once.** A connect completion `k` — with success (its SYN-ACK arrived) or with
    operation_aborted (the user's `cancel` / `close`) — is for the channel that very socket
    dialled, and it is the ONLY completion logged for that channel: a cancelled / closed connect
    never also succeeds, a successful one is never also aborted. A SUCCESSFUL one was accepted by
    exactly one accept completion, by the acceptor that was dialled, in the epoch that was dialled,
    at the endpoint that was dialled. (An aborted connect may still have been — or later be —
    matched with an accept: its SYN is queued at the acceptor; see the example below.) -/
theorem C07_connect_matched (ls : List HLbl) (hok : HS.okRun tp (HS.init cfg accs clients) ls) :
    let s := HS.run tp (HS.init cfg accs clients) ls
    ∀ k ∈ s.conLog, ∃ c d, k.cid = some c ∧ s.dialLog[c]? = some d ∧ d.cid = c ∧ d.sock = k.sock
      ∧ (s.conLog.filter (fun k' => k'.cid == some c)).length = 1
      ∧ (k.ec = .ok →
          (∃ e ∈ s.accLog, e.cid = some c ∧ e.acc = d.lsock ∧ e.epoch = d.epoch ∧ e.lep = d.target)
          ∧ (s.accLog.filter (fun e => e.cid == some c)).length = 1) := by
  intro s k hk
  have h := C07_invariant cfg accs clients tp ls hok
  obtain ⟨c, d, q1, q2, q3, q4⟩ := h.inv.con_ok k hk
  have hlt : c < s.net.chans.length := by
    rw [← h.inv.dial_len]; exact (List.getElem?_eq_some_iff.mp q2).1
  obtain ⟨cv, hcv⟩ := cv_of_lt hlt
  obtain ⟨_, dk⟩ := h.inv.chan hcv q2
  have h1 := filter_one_of_nodup (fun k' : ConDone => k'.cid) s.conLog h.inv.con_nd k hk
  rw [q1] at h1
  refine ⟨c, d, q1, q2, dk.cid, q3, h1, ?_⟩
  intro hke
  obtain ⟨e, he, q5⟩ := q4 hke
  obtain ⟨_, c', _, d', a⟩ := h.inv.acc he
  cases q5.symm.trans a.cid_eq
  cases q2.symm.trans a.dial
  have h2 := filter_one_of_nodup (fun e' : AccDone => e'.cid) s.accLog h.inv.acc_nd e he
  rw [q5] at h2
  exact ⟨⟨e, he, q5, a.lsock.symm, a.epoch.symm, a.target.symm⟩, h2⟩

/-- For every completed accept `e` (of acceptor `e.acc`, listening on `e.lep`),
    with `ch` its channel and `d` the dial that created it:
    * the accept completed its own handler with success and — for the overload with an endpoint
      out-parameter — reported `ch.vis0`;
    * the connector dialled the endpoint that acceptor was listening on, and that is what it
      sees as its remote endpoint (`remote_endpoint()` = `visible_ep[remote_idx]`);
    * the accepted socket is bound to the listening endpoint and sees `ch.vis0` as its remote
      endpoint — the endpoint accept reported;
    * `ch.vis0` is the connector's bound endpoint with its address replaced by the external
      address of the LAST NAT hop its SYN crossed (none: its real address), port unchanged.
    The clauses about sockets hold while they are still on the channel (the user may have
    cancelled or closed them since). -/
theorem C07_views (ls : List HLbl) (hok : HS.okRun tp (HS.init cfg accs clients) ls) :
    let s := HS.run tp (HS.init cfg accs clients) ls
    ∀ e ∈ s.accLog, ∃ op c ch d,
      e.op = some op ∧ e.cid = some c ∧ s.net.chans[c]? = some ch ∧ s.dialLog[c]? = some d ∧ d.cid = c
      ∧ e.compl.h = op.h ∧ e.compl.ec = .ok
      ∧ e.compl.extra = (if op.withEp then "ep=" ++ ch.vis0.toString else "")
      ∧ d.target = e.lep ∧ d.lsock = e.acc ∧ ch.ep0 = d.ep0 ∧ ch.ep1 = e.lep ∧ ch.vis1 = d.target
      ∧ (∀ o sk, s.net.tcp? o = some sk → sk.chan = some c → sk.bound = ch.ep0 →
            ch.vis (ch.remoteIdx sk.bound) = d.target)
      ∧ (∀ sk, s.net.tcp? op.peer = some sk → sk.chan = some c →
            sk.bound = e.lep ∧ ch.vis (ch.remoteIdx sk.bound) = ch.vis0)
      ∧ ch.vis0 = natView s.natLog c d.ep0 ∧ ch.vis0.port = d.ep0.port := by
  intro s e he
  have h := C07_invariant cfg accs clients tp ls hok
  obtain ⟨op, c, _, d, a⟩ := h.inv.acc he
  obtain ⟨ch, hch, hcv⟩ := h.inv.acc_chan he a.cid_eq
  obtain ⟨_, k⟩ := h.inv.chan hcv a.dial
  have x2 : ch.vis0 = natView s.natLog c d.ep0 := by rw [← k.ep0]; exact k.vis0
  refine ⟨op, c, ch, d, a.op_eq, a.cid_eq, hch, a.dial, k.cid, a.h_eq, a.ec_ok, a.extra ch.hview hcv, a.target, a.lsock,
    k.ep0, k.ep1.trans a.target, k.vis1, ?_, ?_, x2, ?_⟩
  · intro o sk _ _ hb
    rw [hb, Chan.remoteIdx_ep0]; exact k.vis1
  · intro sk hsk hskc
    have hb : sk.bound = e.lep := (h.inv.peer_b e he op c _ a.op_eq a.cid_eq (sv_of_tcp? hsk) hskc).1
    have hne : ch.ep0 ≠ sk.bound := by rw [hb, ← a.target]; exact k.ep_ne
    exact ⟨hb, by rw [Chan.remoteIdx_ne hne]; rfl⟩
  · rw [x2]; exact natView_port _ _ _

/-- After the hand-over the route towards side 1 ends in the ACCEPTED
    socket's forwarder `g` (never the forwarder of the listening epoch, the acceptor's) and the
    route towards side 0 in the connector's forwarder `f0`; the routes are the outgoing route of
    the sender's address, the network route of the pair, the incoming route of the receiver's
    address. While the two sockets are attached to the channel those forwarders point at them —
    and at nothing else: what either socket writes (`hops[remote_idx]`) is delivered to the
    other socket of the pair. Between acceptors: the channel was dialled to THIS acceptor
    (`d.lsock = e.acc`), in THIS epoch, at the endpoint it listens on. -/
theorem C07_no_crosstalk (ls : List HLbl) (hok : HS.okRun tp (HS.init cfg accs clients) ls) :
    let s := HS.run tp (HS.init cfg accs clients) ls
    ∀ e ∈ s.accLog, ∃ op c ch d f0 g,
      e.op = some op ∧ e.cid = some c ∧ s.net.chans[c]? = some ch ∧ s.dialLog[c]? = some d
      ∧ d.lsock = e.acc ∧ d.epoch = e.epoch ∧ d.target = e.lep
      ∧ d.fwd = some f0 ∧ e.fwd = some g ∧ g ≠ e.epoch ∧ f0 ≠ e.epoch
      ∧ ch.hops0 = s.net.cfg.outRoute e.lep.addr ++ s.net.cfg.netRoute ch.ep0.addr e.lep.addr
                    ++ s.net.cfg.inRoute ch.ep0.addr ++ [fwdHop f0]
      ∧ ch.hops1 = s.net.cfg.outRoute ch.ep0.addr ++ s.net.cfg.netRoute ch.ep0.addr e.lep.addr
                    ++ s.net.cfg.inRoute e.lep.addr ++ [fwdHop g]
      ∧ (∀ sk, s.net.tcp? op.peer = some sk → sk.chan = some c →
            sk.fwd = some g ∧ s.net.fwdTarget g = some op.peer ∧ ch.hops (ch.remoteIdx sk.bound) = ch.hops0)
      ∧ (∀ o sk, s.net.tcp? o = some sk → sk.chan = some c → sk.bound = ch.ep0 →
            sk.fwd = some f0 ∧ s.net.fwdTarget f0 = some o ∧ ch.hops (ch.remoteIdx sk.bound) = ch.hops1) := by
  intro s e he
  have h := C07_invariant cfg accs clients tp ls hok
  obtain ⟨op, c, g, d, a⟩ := h.inv.acc he
  obtain ⟨ch, hch, hcv⟩ := h.inv.acc_chan he a.cid_eq
  obtain ⟨f0, k⟩ := h.inv.chan hcv a.dial
  have r3 : ch.hview.ep1 = e.lep := k.ep1.trans a.target
  obtain ⟨g', t1, t2⟩ := h.inv.hops1_a c _ e hcv he a.cid_eq
  cases a.fwd_eq.symm.trans t1
  refine ⟨op, c, ch, d, f0, g, a.op_eq, a.cid_eq, hch, a.dial, a.lsock, a.epoch, a.target, k.fwd, a.fwd_eq, a.fwd_ne,
    a.epoch ▸ k.fwd_ne, ?_, ?_, ?_, ?_⟩
  · have := k.hops0; simp only [route0, r3] at this; exact this
  · simp only [route1, r3] at t2; exact t2
  · intro sk hsk hskc
    have hv := sv_of_tcp? hsk
    obtain ⟨hb, hf⟩ := h.inv.peer_b e he op c _ a.op_eq a.cid_eq hv hskc
    have hb : sk.bound = e.lep := hb
    have hf : sk.fwd = some g := hf.trans a.fwd_eq
    have hne : ch.ep0 ≠ sk.bound := by rw [hb, ← a.target]; exact k.ep_ne
    exact ⟨hf, (h.inv.s_fwd op.peer _ g hv hf).2, by rw [Chan.remoteIdx_ne hne]; rfl⟩
  · intro o sk hsk hskc hb
    have hv := sv_of_tcp? hsk
    obtain ⟨cv', d', p1, p2, p3⟩ := h.inv.conn o _ c hv hskc
    cases hcv.symm.trans p1
    cases a.dial.symm.trans p2
    have hf : sk.fwd = some f0 := by
      rcases p3 with ⟨_, _, p6⟩ | ⟨p4, _⟩
      · exact p6.trans k.fwd
      · exact absurd (hb.symm.trans p4) k.ep_ne
    refine ⟨hf, (h.inv.s_fwd o _ f0 hv hf).2, ?_⟩
    rw [hb, Chan.remoteIdx_ep0]; rfl

/-- No cross-talk between acceptors and between epochs, before the
    hand-over. A SYN in flight can only ever be handed — by a network that respects routes —
    to the acceptor it was dialled to, while that acceptor is still in the listening epoch that
    was dialled and bound to the endpoint that was dialled: never to another acceptor (on
    another endpoint of the same node or elsewhere), never to the same acceptor after a close
    and re-open. And every arrival logged for epoch `f` is of a channel dialled to epoch `f`. -/
theorem C07_syn_routing (ls : List HLbl) (hok : HS.okRun tp (HS.init cfg accs clients) ls) :
    let s := HS.run tp (HS.init cfg accs clients) ls
    (∀ pk ∈ s.bag, pk.ty = .syn → ∀ a, s.net.routedTo pk a →
        ∃ c d sa, pk.chan = some c ∧ s.dialLog[c]? = some d ∧ a = d.lsock ∧ s.net.tcp? a = some sa
          ∧ sa.acc.isSome ∧ sa.bound = d.target ∧ sa.fwd = some d.epoch ∧ (∀ x ∈ s.synLog, x.2 ≠ c))
    ∧ (∀ x ∈ s.synLog, ∃ d, s.dialLog[x.2]? = some d ∧ d.epoch = x.1) := by
  intro s
  have h := C07_invariant cfg accs clients tp ls hok
  refine ⟨?_, ?_⟩
  · intro pk hpk hty a hrt
    obtain ⟨c, d, va, q1, _, q3, hd, hva, hvf, r1, r2, r3⟩ := h.inv.syn_routed pk hpk hty a hrt
    obtain ⟨sa, hsa, rfl⟩ := sv_some hva
    exact ⟨c, d, sa, q1, hd, r1, hsa, r3, r2, hvf, fun x hx hxc => q3 (List.mem_map.mpr ⟨x, hx, hxc⟩)⟩
  · intro x hx
    have hlt : x.2 < s.dialLog.length := by rw [h.inv.dial_len]; exact (h.inv.syn_lt x hx).1
    exact ⟨_, List.getElem?_eq_getElem hlt, h.inv.syn_ep x hx _ (List.getElem?_eq_getElem hlt)⟩

/-- `acceptor::open` in any reachable state — after a close, or
    on an acceptor that is still listening with connections queued and an accept outstanding —
    starts a NEW epoch: the acceptor is open with a forwarder `f` that no earlier epoch (of any
    acceptor) had; nothing has arrived or been accepted in `f`; the queue is empty, no accept is
    outstanding, it does not listen yet and is unbound. With the third part of
    `C07_pairing_fifo`: nothing queued before is ever handed out after. -/
theorem C07_reopen_fresh_epoch (ls : List HLbl) (hok : HS.okRun tp (HS.init cfg accs clients) ls)
    (a : String) (v4 : Bool) :
    let s := HS.run tp (HS.init cfg accs clients) ls
    s.ok (.openAcc a v4) →
    let s' := s.step tp (.openAcc a v4)
    ∃ sa ac, s'.net.tcp? a = some sa ∧ sa.acc = some ac ∧ sa.isOpen = true ∧ sa.fwd = some s.net.fwds.length
      ∧ sa.bound = {} ∧ ac.conns = [] ∧ ac.acceptOp = none ∧ ac.queueLimit = -1
      ∧ s'.synAt s.net.fwds.length = [] ∧ s'.accAt s.net.fwds.length = []
      ∧ (∀ x ∈ s'.synLog, x.1 < s.net.fwds.length) ∧ (∀ e ∈ s'.accLog, e.epoch < s.net.fwds.length) := by
  intro s hacc s'
  have h := C07_invariant cfg accs clients tp ls hok
  obtain ⟨va, ac, hva, hac⟩ := isAcc_view hacc
  have hv := accOpen_sv s.net s.now a v4 va ac hva hac a
  rw [if_pos rfl] at hv
  obtain ⟨sa, hsa, hsav⟩ := sv_some hv
  have hs1 : ∀ x ∈ s.synLog, x.1 < s.net.fwds.length := fun x hx => (h.inv.syn_lt x hx).2
  have hs2 : ∀ e ∈ s.accLog, e.epoch < s.net.fwds.length := fun e he => by
    obtain ⟨_, _, _, _, k⟩ := h.inv.acc he; exact k.epoch_lt
  exact ⟨sa, _, hsa, congrArg SockV.acc hsav, congrArg SockV.isOpen hsav, congrArg SockV.fwd hsav,
    congrArg SockV.bound hsav, rfl, rfl, rfl, synAtL_eq_nil hs1, accAtL_eq_nil hs2, hs1, hs2⟩

end system

/-- The repaired `acceptor::close`: whatever was queued and
    whatever accept was outstanding, afterwards the acceptor is closed, unbound, unregistered,
    its forwarder detached, the queue EMPTY, no accept outstanding, not listening; no handler
    completes with success; everything it sends is an error (reset) packet. -/
theorem C07_close_resets_queue (n : NetSt) (now : Int) (a : String) (sa : TcpSock) (ac : AccState)
    (hs : n.tcp? a = some sa) (hac : sa.acc = some ac) :
    (∃ sa', (n.accClose now a).1.tcp? a = some sa' ∧ sa'.isOpen = false ∧ sa'.bound = {} ∧ sa'.fwd = none
        ∧ sa'.acc = some { ac with queueLimit := -1, conns := [], acceptOp := none })
    ∧ (∀ g, sa.fwd = some g → (n.accClose now a).1.fwdTarget g = none)
    ∧ okPosts (n.accClose now a).2 = []
    ∧ (∀ q ∈ fwdPkts (n.accClose now a).2, q.ty = .err) := by
  have hva := sv_of_tcp? hs
  have t := accClose_sum n now a sa.hview ac hva hac
  obtain ⟨sa', hsa', hv'⟩ := sv_some ((t.sv a).trans (if_pos rfl))
  refine ⟨⟨sa', hsa', congrArg SockV.isOpen hv', congrArg SockV.bound hv', congrArg SockV.fwd hv',
    congrArg SockV.acc hv'⟩, fun g hg => ?_, t.posts, t.errs⟩
  rw [t.ft g, if_neg nofun, if_pos (show sa.hview.fwd = some g from hg)]

theorem mem_tcpCancelEffs {s : TcpSock} {h : Nat} (hc : s.connectH = some h) :
    NEff.post { h := h, ec := .aborted } ∈ tcpCancelEffs s := by
  unfold tcpCancelEffs tcpAbortConnEffs
  rw [hc]; simp

/-- `cancel` on a socket whose connect is in progress (before its
    SYN-ACK arrived) completes the connect handler with operation_aborted — and with nothing
    else: no handler completes with success, no packet is sent —; the socket stays on its
    channel with no connect pending, so the SYN-ACK, when it arrives, completes nothing
    (`tcpIncoming`: `m_connect_handler` is empty). -/
theorem C07_cancel_aborts (tp : TParams) (n : NetSt) (now : Int) (o : String) (sk : TcpSock) (h : Nat)
    (hs : n.tcp? o = some sk) (hc : sk.connectH = some h) :
    NEff.post { h := h, ec := .aborted } ∈ (n.tcpCancel o).2
    ∧ okPosts (n.tcpCancel o).2 = [] ∧ fwdPkts (n.tcpCancel o).2 = []
    ∧ (∃ sk', (n.tcpCancel o).1.tcp? o = some sk' ∧ sk'.connectH = none ∧ sk'.chan = sk.chan
         ∧ sk'.bound = sk.bound ∧ sk'.fwd = sk.fwd ∧ sk'.isOpen = sk.isOpen)
    ∧ (∀ pk, pk.ty = .synack → (n.tcpCancel o).1.tcpIncoming tp now o pk = ((n.tcpCancel o).1, [])) := by
  rw [tcpCancel_eq n o sk hs, TcpSock.cancel_eq]
  exact ⟨mem_tcpCancelEffs hc, (aborts_tcpCancelEffs sk).okPosts, (aborts_tcpCancelEffs sk).posts.fwdPkts,
    ⟨_, tcp?_setTcp_same _ _ _, rfl, rfl, rfl, rfl, rfl⟩,
    fun pk hty => by rw [tcpIncoming_synack (tcp?_setTcp_same _ _ _) tp now pk hty]⟩

/-- `close` on a socket whose connect is in progress completes the
    connect handler with operation_aborted, no handler with success; the socket leaves its
    channel (closed, unbound, forwarder detached): the SYN-ACK can no longer be delivered to it
    (`routedTo` needs an attached forwarder). No end-of-stream is announced (everything sent is
    an error packet, and none is sent while the connect is pending: see `tcpClose`). -/
theorem C07_close_aborts (n : NetSt) (now : Int) (o : String) (sk : TcpSock) (h : Nat)
    (hs : n.tcp? o = some sk) (hc : sk.connectH = some h) :
    NEff.post { h := h, ec := .aborted } ∈ (n.tcpClose now o).2
    ∧ okPosts (n.tcpClose now o).2 = []
    ∧ fwdPkts (n.tcpClose now o).2 = []
    ∧ (∃ sk', (n.tcpClose now o).1.tcp? o = some sk' ∧ sk'.connectH = none ∧ sk'.chan = none
         ∧ sk'.isOpen = false ∧ sk'.fwd = none ∧ sk'.bound = {})
    ∧ (∀ g, sk.fwd = some g → (n.tcpClose now o).1.fwdTarget g = none) := by
  obtain ⟨cs, -, e⟩ := tcpClose_exact n now o sk hs
  have heof : tcpCloseEof n now o sk = (n, []) := by
    rcases tcpCloseEof_cases n now o sk with e | ⟨cid, ch, h1, h2, -⟩
    · exact e
    · rw [tcpCloseEof_conn n now o sk cid ch h1 h2, hc]; simp
  rw [e, heof]
  exact ⟨mem_tcpCancelEffs hc, (aborts_tcpCancelEffs sk).okPosts, (aborts_tcpCancelEffs sk).posts.fwdPkts,
    ⟨sk.afterClose, tcp?_setTcp_same _ _ _, rfl, rfl, rfl, rfl, rfl⟩,
    fun g hg => by rw [fwdTarget_setTcp, fwdTarget_released, if_pos hg]⟩

/-! data follows the channel's route: what `C07_no_crosstalk` is about -/

/-- `write_some` sends along `hops[remote_idx(m_bound_to)]` of the socket's channel -/
theorem C07_write_route (n : NetSt) (name : String) (bufs : List (List UInt8)) (hops : List String)
    (segs : List (List UInt8)) (h : n.tcpWritePrep name bufs = .ok (hops, segs)) :
    ∃ s ch, n.tcp? name = some s ∧ s.chan.bind n.chan? = some ch ∧ hops = ch.hops (ch.remoteIdx s.bound) := by
  obtain ⟨s, ch, hs, _, hc, _, hh, _⟩ := tcpWritePrep_ok n name bufs hops segs h
  exact ⟨s, ch, hs, hc, hh⟩

/-- every segment the loop forwards carries exactly that route -/
theorem C07_segment_route (n : NetSt) (now : Int) (name : String) (hops : List String) (seg : List UInt8) :
    ∀ q ∈ fwdPkts (n.tcpSendSeg now name hops seg).2, q.hops = hops ∧ q.ty = .payload ∧ q.payload = seg := by
  intro q hq
  cases hs : n.tcp? name with
  | none => rw [tcpSendSeg_none n now name hops seg hs] at hq; cases hq
  | some s =>
    rw [tcpSendSeg_some n now name hops seg s hs] at hq
    obtain ⟨bc, rfl⟩ := tcpSendPacket_mem _ now name _ q (by rw [s5_forwards_eq]; exact hq)
    exact ⟨rfl, rfl, rfl⟩

/-! Non-vacuity: a Boolean mirror of the side condition `HS.ok`, and a concrete history it admits. -/

def NetSt.routedToB (n : NetSt) (pk : Pkt) (name : String) : Bool :=
  match pk.hops.getLast? with
  | some hop => (List.range n.fwds.length).any (fun f => fwdHop f == hop && n.fwdTarget f == some name)
  | none => false

theorem routedTo_of_routedToB {n : NetSt} {pk : Pkt} {name : String} (h : n.routedToB pk name = true) :
    n.routedTo pk name := by
  unfold NetSt.routedToB at h
  cases hl : pk.hops.getLast? with
  | none => simp [hl] at h
  | some hop =>
    simp only [hl, List.any_eq_true, Bool.and_eq_true, beq_iff_eq] at h
    obtain ⟨f, _, h1, h2⟩ := h
    exact ⟨f, by rw [h1]; exact hl, h2⟩

def NetSt.isAccB (n : NetSt) (a : String) : Bool := ((n.tcp? a).map (fun sk => sk.acc.isSome)).getD false
def NetSt.isSockB (n : NetSt) (o : String) : Bool := ((n.tcp? o).map (fun sk => sk.acc.isNone)).getD false

theorem tcp_of_testB {n : NetSt} {o : String} {p : TcpSock → Bool} (h : ((n.tcp? o).map p).getD false = true) :
    ∃ sk, n.tcp? o = some sk ∧ p sk = true := by
  cases hs : n.tcp? o with
  | none => simp [hs] at h
  | some sk => exact ⟨sk, rfl, by simpa [hs] using h⟩

theorem bag_of_testB {s : HS} {i : Nat} {ty : PType} {name : String}
    (h : ((s.bag[i]?).map (fun pk => pk.ty == ty && s.net.routedToB pk name)).getD false = true) :
    ∃ pk, s.bag[i]? = some pk ∧ pk.ty = ty ∧ s.net.routedTo pk name := by
  cases hb : s.bag[i]? with
  | none => simp [hb] at h
  | some pk =>
    simp only [hb, Option.map_some, Option.getD_some, Bool.and_eq_true, beq_iff_eq] at h
    exact ⟨pk, rfl, h.1, routedTo_of_routedToB h.2⟩

theorem isAcc_of_isAccB {n : NetSt} {a : String} (h : n.isAccB a = true) : n.isAcc a := tcp_of_testB h

theorem isSock_of_isSockB {n : NetSt} {o : String} (h : n.isSockB o = true) : n.isSock o := by
  obtain ⟨sk, hs, hp⟩ := tcp_of_testB h
  exact ⟨sk, hs, Option.isNone_iff_eq_none.mp hp⟩

def HS.okB (s : HS) : HLbl → Bool
  | .openAcc a _ => s.net.isAccB a
  | .bind o _ => ((s.net.tcp? o).map (fun sk => sk.chan.isNone)).getD false
  | .openSock o _ => s.net.isSockB o
  | .listen a _ => s.net.isAccB a
  | .cancelAcc a => s.net.isAccB a
  | .closeAcceptor a => s.net.isAccB a
  | .accept a (.into _ p _) => s.net.isAccB a && s.net.isSockB p
  | .accept a (.fresh _ nn) => s.net.isAccB a && (s.net.tcp? nn).isNone
  | .deliverSyn i a => ((s.bag[i]?).map (fun pk => pk.ty == .syn && s.net.routedToB pk a)).getD false
  | .deliverErr i a => s.net.isAccB a && ((s.bag[i]?).map (fun pk => pk.ty == .err && s.net.routedToB pk a)).getD false
  | .connect c _ _ => ((s.net.tcp? c).map (fun sk => sk.acc.isNone && sk.chan.isNone)).getD false
  | .cancel o => s.net.isSockB o
  | .close o => s.net.isSockB o
  | .deliverSynAck i c => ((s.bag[i]?).map (fun pk => pk.ty == .synack && s.net.routedToB pk c)).getD false
  | _ => true

theorem HS.ok_of_okB {s : HS} {l : HLbl} (h : s.okB l = true) : s.ok l := by
  cases l with
  | tick t => trivial
  | natRewrite i e => trivial
  | openAcc a v4 => exact isAcc_of_isAccB h
  | openSock o v4 => exact isSock_of_isSockB h
  | bind o ep =>
    obtain ⟨sk, hs, hp⟩ := tcp_of_testB h
    exact ⟨sk, hs, Option.isNone_iff_eq_none.mp hp⟩
  | listen a q => exact isAcc_of_isAccB h
  | cancelAcc a => exact isAcc_of_isAccB h
  | closeAcceptor a => exact isAcc_of_isAccB h
  | cancel o => exact isSock_of_isSockB h
  | close o => exact isSock_of_isSockB h
  | accept a op =>
    cases op with
    | into hh p w =>
      simp only [HS.okB, Bool.and_eq_true] at h
      exact ⟨isAcc_of_isAccB h.1, isSock_of_isSockB h.2⟩
    | fresh hh nn =>
      simp only [HS.okB, Bool.and_eq_true, Option.isNone_iff_eq_none] at h
      exact ⟨isAcc_of_isAccB h.1, h.2⟩
  | connect c t hh =>
    obtain ⟨sk, hs, hp⟩ := tcp_of_testB h
    simp only [Bool.and_eq_true, Option.isNone_iff_eq_none] at hp
    exact ⟨sk, hs, hp.1, hp.2⟩
  | deliverSyn i a => exact bag_of_testB h
  | deliverErr i a =>
    simp only [HS.okB, Bool.and_eq_true] at h
    exact ⟨isAcc_of_isAccB h.1, bag_of_testB h.2⟩
  | deliverSynAck i c => exact bag_of_testB h

def HS.okRunB (tp : TParams) : HS → List HLbl → Bool
  | _, [] => true
  | s, l :: rest => s.okB l && HS.okRunB tp (s.step tp l) rest

theorem HS.okRun_of_okRunB {tp : TParams} : ∀ (ls : List HLbl) (s : HS),
    HS.okRunB tp s ls = true → HS.okRun tp s ls
  | [], _, _ => trivial
  | l :: rest, s, h => by
    simp only [HS.okRunB, Bool.and_eq_true] at h
    exact ⟨HS.ok_of_okB h.1, HS.okRun_of_okRunB rest _ h.2⟩

namespace HEx

/-- two nodes; `n0` is multi-homed; the clients' node sits behind a NAT-capable route (the
    adversary's `natRewrite` label plays the NAT hop) -/
def cfg : NetCfg :=
  { nodes := [("n0", ["10.0.0.1", "10.0.0.2"]), ("n1", ["10.0.1.1"])],
    routeIn := [("*", ["qi"])], routeOut := [("10.0.1.1", ["nat", "qo"]), ("*", ["qo"])], routeNet := [("*", ["net"])] }

def aep : Ep := { addr := "10.0.0.1", port := 8000 }
/-- a second acceptor listens on another endpoint of the same node -/
def bep : Ep := { addr := "10.0.0.2", port := 9000 }

def accs : List (String × String) := [("a0", "n0"), ("a1", "n0")]
def clients : List (String × String) :=
  [("s0", "n0"), ("s1", "n1"), ("s2", "n1"), ("s3", "n1"), ("s4", "n1"), ("s5", "n1")]

def init : HS := HS.init cfg accs clients

/-- s3 dials before anybody listens; `a0` and `a1` are opened, bound, made to listen (epochs 1
    and 2); s1 and s2 dial `a0`; s2's SYN crosses a NAT and ARRIVES FIRST; s4 dials `a1`; an accept
    with endpoint out-parameter is posted on `a0` after the first arrival, the socket-returning
    one before the second arrival; s2's SYN-ACK arrives; s1 CANCELS its connect — the SYN-ACK that
    arrives afterwards completes nothing, yet its channel was accepted —; s4's SYN is queued at
    `a1` (no accept), s4 cancels and closes (its end-of-stream reaches `a1`); `a1` is RE-OPENED
    (epoch 8; the queued connection is reset), bound and listens again, an accept is posted: the
    stale connection is NOT handed out; s5 — opened and bound explicitly to port 7000 — dials, is
    accepted, and CLOSES before its SYN-ACK arrives; `a0` is closed and s3 dials again; the accepted socket s9 is closed -/
def hist : List HLbl :=
  [ .connect "s3" aep 3,
    .openAcc "a0" true, .bind "a0" aep, .listen "a0" 5,
    .openAcc "a1" true, .bind "a1" bep, .listen "a1" 5,
    .connect "s1" aep 1, .connect "s2" aep 2, .natRewrite 1 "99.0.0.9", .connect "s4" bep 4,
    .deliverSyn 1 "a0", .accept "a0" (.into 10 "s0" true), .accept "a0" (.fresh 11 "s9"), .deliverSyn 0 "a0",
    .deliverSynAck 1 "s2", .cancel "s1", .deliverSynAck 1 "s1",
    .deliverSyn 0 "a1", .cancel "s4", .close "s4", .deliverErr 0 "a1",
    .openAcc "a1" true, .bind "a1" bep, .listen "a1" 5, .accept "a1" (.fresh 12 "s8"),
    .openSock "s5" true, .bind "s5" { addr := "10.0.1.1", port := 7000 },
    .connect "s5" bep 5, .deliverSyn 1 "a1", .close "s5",
    .tick 7, .closeAcceptor "a0", .connect "s3" aep 6, .close "s9" ]

def fin : HS := HS.run {} init hist

end HEx

/-- The example history, evaluated ONCE (Lemmas/Decide): its side condition, the two states around the
    re-open of `a1`, and what it leaves behind. The examples below (and the one in Props/C13) are the
    components. `+kernel`: the elaborator's own evaluator is several times slower on the run. -/
theorem HEx.obs :
    (HS.okRunB {} HEx.init HEx.hist = true
      ∧ (HS.run {} HEx.init (HEx.hist.take 22)).okB (.openAcc "a1" true) = true
      ∧ (((HS.run {} HEx.init (HEx.hist.take 22)).net.tcp? "a1").bind (·.acc)).map (·.conns) = some [2]
      ∧ (((HS.run {} HEx.init (HEx.hist.take 23)).net.tcp? "a1").bind (·.acc)).map (·.conns) = some []
      ∧ (HS.run {} HEx.init (HEx.hist.take 22)).net.fwds.length = 8)
    ∧ (HEx.fin.synLog = [(1, 1), (1, 0), (2, 2), (8, 3)]
     ∧ (HEx.fin.accLog.map (fun e => (e.acc, e.epoch, e.serial, e.compl.h, e.compl.extra))
          = [("a0", 1, 0, 10, "ep=99.0.0.9:2002"), ("a0", 1, 1, 11, ""), ("a1", 8, 0, 12, "")]
        ∧ HEx.fin.accLog.map (fun e => (e.lep.toString, e.cid, e.fwd))
          = [("10.0.0.1:8000", some 1, some 6), ("10.0.0.1:8000", some 0, some 7), ("10.0.0.2:9000", some 3, some 10)])
     ∧ HEx.fin.conLog.map (fun e => (e.sock, e.h, e.ec, e.cid))
          = [("s2", 2, .ok, some 1), ("s1", 1, .aborted, some 0), ("s4", 4, .aborted, some 2), ("s5", 5, .aborted, some 3)])
    ∧ ((HEx.fin.dialLog.map (fun e => (e.cid, e.sock, e.ep0.toString, e.fwd))
          = [(0, "s1", "10.0.1.1:2001", some 3), (1, "s2", "10.0.1.1:2002", some 4),
             (2, "s4", "10.0.1.1:2003", some 5), (3, "s5", "10.0.1.1:7000", some 9)]
        ∧ HEx.fin.dialLog.map (fun e => (e.target.toString, e.lsock, e.epoch))
          = [("10.0.0.1:8000", "a0", 1), ("10.0.0.1:8000", "a0", 1), ("10.0.0.2:9000", "a1", 2), ("10.0.0.2:9000", "a1", 8)])
       ∧ (HEx.fin.accCalls "a0", HEx.fin.accCalls "a1") = (2, 1)
       ∧ (HEx.fin.dialLog.length = 4 ∧ HEx.fin.net.chans.length = 4
          ∧ ((HEx.fin.net.tcp? "s3").map (fun s => (s.chan, s.connectH))) = some (none, none)))
    ∧ ((HEx.fin.net.chans.map (fun c => (c.hops0, c.hops1, c.vis0.toString, c.vis1.toString))
          = [(["qo", "net", "qi", "@3"], ["nat", "qo", "net", "qi", "@7"], "10.0.1.1:2001", "10.0.0.1:8000"),
             (["qo", "net", "qi", "@4"], ["nat", "qo", "net", "qi", "@6"], "99.0.0.9:2002", "10.0.0.1:8000"),
             (["qo", "net", "qi", "@5"], ["nat", "qo", "net", "qi", "@2"], "10.0.1.1:2003", "10.0.0.2:9000"),
             (["qo", "net", "qi", "@9"], ["nat", "qo", "net", "qi", "@10"], "10.0.1.1:7000", "10.0.0.2:9000")]
        ∧ HEx.fin.net.fwdTarget 2 = none ∧ (HEx.fin.net.tcp? "a1").bind (·.fwd) = some 8)
       ∧ HEx.fin.net.chans.map (fun c => (c.ep0.toString, c.vis0.toString, c.vis1.toString))
          = [("10.0.1.1:2001", "10.0.1.1:2001", "10.0.0.1:8000"), ("10.0.1.1:2002", "99.0.0.9:2002", "10.0.0.1:8000"),
             ("10.0.1.1:2003", "10.0.1.1:2003", "10.0.0.2:9000"), ("10.0.1.1:7000", "10.0.1.1:7000", "10.0.0.2:9000")]) :=
  and3_of_decide (by decide +kernel)

theorem HEx.hist_ok : HS.okRun {} HEx.init HEx.hist := HS.okRun_of_okRunB _ _ HEx.obs.1.1

/-- arrivals per epoch: in epoch 1 (of `a0`) channel 1 (s2) before channel 0 (s1); channel 2 in
    epoch 2 of `a1`, channel 3 in epoch 8 of `a1` (after the re-open) -/
example : HEx.fin.synLog = [(1, 1), (1, 0), (2, 2), (8, 3)] := HEx.obs.2.1.1

/-- the first accept call on `a0` (serial 0, into `s0`, with endpoint) got channel 1 and reports
    s2's endpoint as seen through the NAT; the second (serial 1, a new socket) got channel 0 —
    the channel of the connect that s1 cancelled —; the accept on `a1` after the re-open (epoch 8)
    got channel 3, NOT channel 2 which was queued in epoch 2 -/
example : HEx.fin.accLog.map (fun e => (e.acc, e.epoch, e.serial, e.compl.h, e.compl.extra))
    = [("a0", 1, 0, 10, "ep=99.0.0.9:2002"), ("a0", 1, 1, 11, ""), ("a1", 8, 0, 12, "")]
    ∧ HEx.fin.accLog.map (fun e => (e.lep.toString, e.cid, e.fwd))
    = [("10.0.0.1:8000", some 1, some 6), ("10.0.0.1:8000", some 0, some 7), ("10.0.0.2:9000", some 3, some 10)] :=
  HEx.obs.2.1.2.1

/-- one success (s2); the cancelled connect of s1, the cancelled-then-closed one of s4 and the
    closed one of s5 completed with operation_aborted, each exactly once -/
example : HEx.fin.conLog.map (fun e => (e.sock, e.h, e.ec, e.cid))
    = [("s2", 2, .ok, some 1), ("s1", 1, .aborted, some 0), ("s4", 4, .aborted, some 2), ("s5", 5, .aborted, some 3)] :=
  HEx.obs.2.1.2.2

example : HEx.fin.dialLog.map (fun e => (e.cid, e.sock, e.ep0.toString, e.fwd))
    = [(0, "s1", "10.0.1.1:2001", some 3), (1, "s2", "10.0.1.1:2002", some 4),
       (2, "s4", "10.0.1.1:2003", some 5), (3, "s5", "10.0.1.1:7000", some 9)]
    ∧ HEx.fin.dialLog.map (fun e => (e.target.toString, e.lsock, e.epoch))
    = [("10.0.0.1:8000", "a0", 1), ("10.0.0.1:8000", "a0", 1), ("10.0.0.2:9000", "a1", 2), ("10.0.0.2:9000", "a1", 8)] :=
  HEx.obs.2.2.1.1

/-- channel 2 was never handed out: its route towards side 1 still ends in forwarder 2, the
    forwarder of `a1`'s FIRST epoch, detached for good -/
example : HEx.fin.net.chans.map (fun c => (c.hops0, c.hops1, c.vis0.toString, c.vis1.toString))
    = [(["qo", "net", "qi", "@3"], ["nat", "qo", "net", "qi", "@7"], "10.0.1.1:2001", "10.0.0.1:8000"),
       (["qo", "net", "qi", "@4"], ["nat", "qo", "net", "qi", "@6"], "99.0.0.9:2002", "10.0.0.1:8000"),
       (["qo", "net", "qi", "@5"], ["nat", "qo", "net", "qi", "@2"], "10.0.1.1:2003", "10.0.0.2:9000"),
       (["qo", "net", "qi", "@9"], ["nat", "qo", "net", "qi", "@10"], "10.0.1.1:7000", "10.0.0.2:9000")]
    ∧ HEx.fin.net.fwdTarget 2 = none ∧ (HEx.fin.net.tcp? "a1").bind (·.fwd) = some 8 := HEx.obs.2.2.2.1

example : (HEx.fin.accCalls "a0", HEx.fin.accCalls "a1") = (2, 1) := HEx.obs.2.2.1.2.1

example := C07_pairing_fifo HEx.cfg HEx.accs HEx.clients {} HEx.hist HEx.hist_ok
example := C07_one_to_one HEx.cfg HEx.accs HEx.clients {} HEx.hist HEx.hist_ok
example := C07_views HEx.cfg HEx.accs HEx.clients {} HEx.hist HEx.hist_ok
example := C07_no_crosstalk HEx.cfg HEx.accs HEx.clients {} HEx.hist HEx.hist_ok
example := C07_connect_matched HEx.cfg HEx.accs HEx.clients {} HEx.hist HEx.hist_ok
example := C07_syn_routing HEx.cfg HEx.accs HEx.clients {} HEx.hist HEx.hist_ok

/-- the connect before `listen` and the one after `close` were refused: no channel, no SYN -/
example : HEx.fin.dialLog.length = 4 ∧ HEx.fin.net.chans.length = 4
    ∧ ((HEx.fin.net.tcp? "s3").map (fun s => (s.chan, s.connectH))) = some (none, none) := HEx.obs.2.2.1.2.2

/-- the re-open of `a1` while channel 2 was queued (`C07_reopen_fresh_epoch` applies to that
    prefix of the history): the acceptor comes out with an empty queue in a fresh epoch -/
example : (HS.run {} HEx.init (HEx.hist.take 22)).ok (.openAcc "a1" true)
    ∧ (((HS.run {} HEx.init (HEx.hist.take 22)).net.tcp? "a1").bind (·.acc)).map (·.conns) = some [2]
    ∧ (((HS.run {} HEx.init (HEx.hist.take 23)).net.tcp? "a1").bind (·.acc)).map (·.conns) = some []
    ∧ (HS.run {} HEx.init (HEx.hist.take 22)).net.fwds.length = 8 :=
  And.imp_left HS.ok_of_okB HEx.obs.1.2

/-- without the side condition `HS.ok` the statements fail: a SYN-ACK handed to the wrong
    socket completes THAT socket's connect (the network never does this: `routedTo`) -/
example : ((HS.run {} HEx.init
      [.openAcc "a0" true, .bind "a0" HEx.aep, .listen "a0" 5, .connect "s1" HEx.aep 1, .connect "s2" HEx.aep 2,
       .deliverSyn 0 "a0", .accept "a0" (.into 10 "s0" false),
       .deliverSynAck 1 "s2"]).conLog.map (fun e => (e.sock, e.cid))) = [("s2", some 1)]
    ∧ (HS.run {} HEx.init
      [.openAcc "a0" true, .bind "a0" HEx.aep, .listen "a0" 5, .connect "s1" HEx.aep 1, .connect "s2" HEx.aep 2,
       .deliverSyn 0 "a0", .accept "a0" (.into 10 "s0" false),
       .deliverSynAck 1 "s2"]).accLog.map (·.cid) = [some 0] := by decide +kernel

end SimVerif
