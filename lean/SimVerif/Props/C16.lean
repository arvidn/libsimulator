/-
  SimVerif.Props.C16 — HTTP test server (`sim::http_server`): one response per request, in
  order, for any segmentation.

  Objects: the mechanism model `SimVerif/HttpServer.lean` (one function per callback of the
  C++ class), the connection-level system `SimVerif/HttpServerSys.lean` (`serve`/`run`: the
  callbacks driven by an environment that delivers the client's bytes in an ARBITRARY
  chunking, one chunk per read completion, clipped to the capacity `read()` offers), and the
  reference `specStream` (the statement on a plain byte stream).
-/
import SimVerif.Lemmas.HttpServerRun
import SimVerif.Lemmas.HttpServerReq
import SimVerif.Lemmas.AccClose

namespace SimVerif.HttpServer

open SimVerif.Http

-- for `decide` on the two `contentHandler` examples at the end, whose values are `Except`
deriving instance DecidableEq for Except

/-- The mechanism refines the reference: serving a connection whose client bytes arrive in ANY
    chunking (any number of chunks of any sizes, empty ones included; a chunk larger than the
    capacity `read()` offers is delivered in pieces) yields exactly what the reference says about
    the concatenated stream — the same response byte strings in the same order and the same end
    (waiting / stalled / closed with or without re-arming accept). -/
theorem C16_run_eq_reference (cfg : Srv) (chunks : List Bytes) :
    run cfg chunks = specStream cfg chunks.flatten :=
  run_eq_spec cfg chunks

/-- For every request byte stream and every two ways of cutting it, the sequence of response
    byte strings and the close/keep decision are the same; both equal the result for the
    unsplit stream. -/
theorem C16_segmentation_independent (cfg : Srv) (cs₁ cs₂ : List Bytes)
    (h : cs₁.flatten = cs₂.flatten) :
    run cfg cs₁ = run cfg cs₂ ∧ run cfg cs₁ = run cfg [cs₁.flatten] := by
  refine ⟨?_, ?_⟩
  · rw [run_eq_spec, run_eq_spec, h]
  · rw [run_eq_spec, run_eq_spec]; simp

/-- The same in the middle of a connection: from ANY state in which a read is outstanding and
    no complete request is pending (what `on_read` leaves behind when it calls `read()`),
    whatever is in the receive buffer beyond `m_bytes_used` and whatever its size. -/
theorem C16_segmentation_independent_from (s : Srv) (cs₁ cs₂ : List Bytes) (f₁ f₂ : Nat)
    (hwf : s.wf) (hcap : s.used < s.buf.length) (hmore : reqStep s s.pend = .more)
    (h : cs₁.flatten = cs₂.flatten) (h₁ : need s.used cs₁ ≤ f₁) (h₂ : need s.used cs₂ ≤ f₂) :
    serve f₁ (s, [.asyncReadSome (s.buf.length - s.used)]) cs₁
      = serve f₂ (s, [.asyncReadSome (s.buf.length - s.used)]) cs₂ := by
  rw [serve_read_eq_spec cs₁ s f₁ hcap hmore h₁, serve_read_eq_spec cs₂ s f₂ hcap hmore h₂, h]

/-- For a stream that is the concatenation of `k` well-formed requests (each ending at its
    first blank line), cut in any way: the responses are the answers to the requests, in request
    order, up to and including the first request that asks for close (or the first one at all
    when keep-alive is off), that stalls, or whose handler throws; the rest is not answered on
    this connection (`expectedOut`, SimVerif/Lemmas/HttpServerReq.lean). -/
theorem C16_one_per_request_in_order (cfg : Srv) (rs : List RawRequest)
    (h : ∀ r ∈ rs, WellFormed r ∧ Framed r) (cs : List Bytes)
    (hcs : cs.flatten = (rs.map render).flatten) :
    run cfg cs = expectedOut cfg rs := by
  rw [run_eq_spec, hcs, ← List.append_nil (List.flatten _),
    specStream_requests_partial cfg rs [] h firstBlank_nil]

/-- A trailing incomplete request behind the `k` requests changes nothing (the server waits for its rest). -/
theorem C16_one_per_request_partial_tail (cfg : Srv) (rs : List RawRequest) (tail : Bytes)
    (h : ∀ r ∈ rs, WellFormed r ∧ Framed r) (ht : firstBlank tail = none) (cs : List Bytes)
    (hcs : cs.flatten = (rs.map render).flatten ++ tail) :
    run cfg cs = expectedOut cfg rs := by
  rw [run_eq_spec, hcs, specStream_requests_partial cfg rs tail h ht]

/-- the answer to one request, as a byte string (empty when there is none) -/
def respOf (cfg : Srv) (r : RawRequest) : Bytes :=
  match answer cfg (canon r) with
  | .respond x _ => x
  | _ => []

/-- while keep-alive is on and no request asks for close, the answers accumulate -/
theorem expectedOut_keep (cfg : Srv) (hk : cfg.keepAlive = true) (pre rest : List RawRequest)
    (hpre : ∀ q ∈ pre, ∃ x, answer cfg (canon q) = .respond x false) :
    expectedOut cfg (pre ++ rest) =
      ⟨pre.map (respOf cfg) ++ (expectedOut cfg rest).responses, (expectedOut cfg rest).fin⟩ := by
  induction pre with
  | nil => rfl
  | cons q pre ih =>
    obtain ⟨y, hy⟩ := hpre q (List.mem_cons_self ..)
    rw [List.cons_append, expectedOut, hy]
    simp only [hk, Bool.not_false, Bool.and_self, ↓reduceIte]
    rw [ih (fun r' hr' => hpre r' (List.mem_cons_of_mem _ hr'))]
    simp [Out.cons, respOf, hy]

/-- EXACTLY `k` responses for `k` requests, in order, and the connection stays open, when
    keep-alive is on and no request asks for close. -/
theorem C16_exactly_k_responses (cfg : Srv) (hk : cfg.keepAlive = true) (rs : List RawRequest)
    (h : ∀ r ∈ rs, WellFormed r ∧ Framed r)
    (hall : ∀ r ∈ rs, ∃ x, answer cfg (canon r) = .respond x false)
    (cs : List Bytes) (hcs : cs.flatten = (rs.map render).flatten) :
    (run cfg cs).responses = rs.map (respOf cfg) ∧ (run cfg cs).responses.length = rs.length ∧
      (run cfg cs).fin = .waiting := by
  have := expectedOut_keep cfg hk rs [] hall
  rw [List.append_nil] at this
  rw [C16_one_per_request_in_order cfg rs h cs hcs, this]
  simp [expectedOut]

/-- The first request asking for close is the last one answered: whatever follows it on the
    connection (`post`) gets no response, the connection is closed and accept re-armed (unless
    stopping). -/
theorem C16_rest_not_answered_after_close (cfg : Srv) (hk : cfg.keepAlive = true)
    (pre : List RawRequest) (r : RawRequest) (post : List RawRequest)
    (h : ∀ q ∈ pre ++ r :: post, WellFormed q ∧ Framed q)
    (hpre : ∀ q ∈ pre, ∃ x, answer cfg (canon q) = .respond x false)
    (x : Bytes) (hr : answer cfg (canon r) = .respond x true)
    (cs : List Bytes) (hcs : cs.flatten = ((pre ++ r :: post).map render).flatten) :
    run cfg cs = ⟨pre.map (respOf cfg) ++ [x], .closed (!cfg.closing)⟩ := by
  rw [C16_one_per_request_in_order cfg _ h cs hcs, expectedOut_keep cfg hk pre _ hpre, expectedOut, hr]
  rfl

/-- With keep-alive off only the first request is answered. -/
theorem C16_keepalive_off_one_response (cfg : Srv) (hk : cfg.keepAlive = false) (r : RawRequest)
    (post : List RawRequest) (h : ∀ q ∈ r :: post, WellFormed q ∧ Framed q)
    (x : Bytes) (c : Bool) (hr : answer cfg (canon r) = .respond x c)
    (cs : List Bytes) (hcs : cs.flatten = ((r :: post).map render).flatten) :
    run cfg cs = ⟨[x], .closed (!cfg.closing)⟩ := by
  rw [C16_one_per_request_in_order cfg _ h cs hcs]
  unfold expectedOut
  rw [hr]
  simp [hk]

/-- What is answered: 404 for a path that is neither registered nor stalled, nothing for a
    stalled path, otherwise what the registered handler returns (its exception closes the
    connection). A handler wins over a stall entry for the same path. -/
theorem C16_answer_cases (cfg : Srv) (req : Request) :
    (findHandler req.path cfg.handlers = none → cfg.stalls.contains req.path = false →
      answer cfg req = .respond (sendResponse 404 (str "Not Found") 0 []) (wantsClose req.headers)) ∧
    (findHandler req.path cfg.handlers = none → cfg.stalls.contains req.path = true →
      answer cfg req = .stall) ∧
    (∀ h r, findHandler req.path cfg.handlers = some h → h.run req.headers = .ok r →
      answer cfg req = .respond r (wantsClose req.headers)) ∧
    (∀ h, findHandler req.path cfg.handlers = some h → h.run req.headers = .error .throw →
      answer cfg req = .fail) := by
  unfold answer
  refine ⟨?_, ?_, ?_, ?_⟩
  · intro h1 h2; rw [h1]; simp only; rw [if_neg (by rw [h2]; simp)]
  · intro h1 h2; rw [h1]; simp only; rw [if_pos h2]
  · intro h r h1 h2; rw [h1]; simp [h2]
  · intro h h1 h2; rw [h1]; simp [h2]

/-- Every response the server writes is `send_response(code, msg, len, extra)` — i.e.
    `HTTP/1.1 <code> <msg> CRLF content-length: <len> CRLF <extra> CRLF` — followed by EXACTLY `len`
    body bytes (fixed bodies shorter than 2^31 bytes: the harness passes `int(body.size())`). -/
theorem C16_content_length (cfg : Srv) (req : Request) (r : Bytes) (c : Bool)
    (hfix : ∀ p b, (p, Handler.fixed b) ∈ cfg.handlers → b.length < 2147483648)
    (h : answer cfg req = .respond r c) :
    ∃ code msg extra body, r = sendResponse code msg (body.length : Int) extra ++ body := by
  rcases (answer_respond cfg req r c h).2 with rfl | ⟨p, hd, hp, hx⟩
  · exact ⟨404, str "Not Found", [], [], (List.append_nil _).symm⟩
  · cases hd with
    | content size =>
      rcases contentHandler_cases size req.headers with h' | ⟨code, msg, extra, body, h'⟩ <;>
        rw [Handler.run, h'] at hx <;> cases hx
      exact ⟨_, _, _, _, rfl⟩
    | redirect target => cases hx; exact ⟨301, _, _, [], (List.append_nil _).symm⟩
    | fixed body =>
      cases hx
      rw [int32_id _ (by omega) (by have := hfix p body hp; omega)]
      exact ⟨_, _, _, _, rfl⟩

/-- What `register_content` computes for `Range: bytes=<a>-<b>` (decimal digit strings, a ≤ b,
    at most 4 MiB, b < 2^63-1): status 206, `content-length: b-a+1`, then bytes `a..b` of the
    generator. ODDITIES (they do not contradict the property): the `Content-Range` header says
    `bytes a-b/<b-a+1>` — the LENGTH of the range where HTTP puts the total size; and the range is
    not clamped to the registered `size` (which is not even consulted). -/
theorem C16_ranged_content (size : Int) (hdrs : HMap) (da db : Bytes)
    (hda : da ≠ [] ∧ ∀ d ∈ da, isDigit d = true) (hdb : db ≠ [] ∧ ∀ d ∈ db, isDigit d = true)
    (hr : mapLookup (str "range") hdrs = some (str "bytes=" ++ da ++ [45] ++ db))
    (hle : digitsVal da ≤ digitsVal db) (hsz : digitsVal db - digitsVal da < 4194304)
    (hbig : digitsVal db < 9223372036854775807) :
    contentHandler size hdrs = .ok
      (sendResponse 206 (str "Partial Content") ((digitsVal db - digitsVal da + 1 : Nat) : Int)
          (str "Content-Range: bytes " ++ decI (digitsVal da) ++ [45] ++ decI (digitsVal db) ++ [47]
            ++ decI ((digitsVal db - digitsVal da + 1 : Nat) : Int) ++ CRLF)
        ++ (List.range (digitsVal db - digitsVal da + 1)).map (genByte (digitsVal da))) := by
  obtain ⟨h1, h2⟩ := range_parse da db hda hdb (by omega) (by omega)
  rw [contentHandler_eq, hr]
  dsimp only
  rw [h1, h2]
  dsimp only
  rw [if_neg (by omega), show ((digitsVal db : Int) + 1 - (digitsVal da : Int)) = ((digitsVal db - digitsVal da + 1 : Nat) : Int) by omega,
    genContent_nat _ _ (by omega), withBody, List.length_map, List.length_range]

/-- Without a Range header: 200, `content-length: size`, the `size` bytes `0..size-1`. -/
theorem C16_whole_content (size : Nat) (hdrs : HMap) (hs : size ≤ 4194304)
    (hr : mapLookup (str "range") hdrs = none) :
    contentHandler size hdrs = .ok
      (sendResponse 200 (str "OK") (size : Int) [] ++ (List.range size).map (genByte 0)) := by
  rw [contentHandler_eq, hr]
  dsimp only
  rw [genContent_nat 0 size hs, withBody, List.length_map, List.length_range]

/-- A request that does not parse, or whose handler throws (`reqStep … = .fail`): exactly
    `close_connection()` — buffer reset, connection closed, accept re-armed unless stopping;
    tables, flags and the send buffer unchanged, nothing written. -/
theorem C16_malformed_closes_only_this (s : Srv) (data : Bytes) (hwf : s.wf)
    (hfit : s.used + data.length ≤ s.buf.length) (h : reqStep s (s.pend ++ data) = .fail) :
    s.onRead .ok data = ({ s with buf := [], used := 0 }, closeActs s) := by
  have ht := onRead_ok s data hfit
  rwa [h] at ht

/-- On the stream level: a stream whose first request does not parse gets no response and the
    connection is closed, whatever follows. -/
theorem C16_malformed_stream (cfg : Srv) (bad rest : Bytes) (n : Nat)
    (hb : firstBlank bad = some n) (hp : parseRequest bad n = .parseFailed)
    (cs : List Bytes) (hcs : cs.flatten = bad ++ rest) :
    run cfg cs = ⟨[], .closed (!cfg.closing)⟩ := by
  have h1 : reqStep cfg bad = .fail := by rw [reqStep, hb]; dsimp only; rw [hp]
  rw [run_eq_spec, hcs, specStream_eq, reqStep_append, h1]

/-- A request for a stalled path: `on_read` returns without ANY action — no write, no read, no
    close — so nothing can ever happen on this connection again. -/
theorem C16_stall_never_answered (s : Srv) (data rest : Bytes) (hwf : s.wf)
    (hfit : s.used + data.length ≤ s.buf.length) (h : reqStep s (s.pend ++ data) = .stall rest) :
    ∃ s', s.onRead .ok data = (s', []) ∧
      ∀ fuel chunks, serve (fuel + 1) (s', []) chunks = ⟨[], .stalled⟩ := by
  have ht := onRead_ok s data hfit
  rw [h] at ht
  obtain ⟨s', h1, _⟩ := ht
  exact ⟨s', h1, fun _ _ => rfl⟩

/-- On the stream level: a stalled request is never answered, nor is anything behind it,
    however long the client keeps sending. -/
theorem C16_stall_stream (cfg : Srv) (r : RawRequest) (hwf : WellFormed r) (hfr : Framed r)
    (hst : answer cfg (canon r) = .stall) (rest : Bytes) (cs : List Bytes)
    (hcs : cs.flatten = render r ++ rest) :
    run cfg cs = ⟨[], .stalled⟩ := by
  rw [run_eq_spec, hcs, specStream_eq, reqStep_render cfg r hwf hfr rest, hst]

/-- For EVERY byte stream in EVERY chunking the run never performs an out-of-bounds access
    (`&m_recv_buffer[m_bytes_used]`, the transport's write into the buffer, the parser's raw
    pointer reads, `erase`, `m_bytes_used -= req_len`) and no handler overflows: the checked
    operations of the model never yield `Act.ub`. (The pinned tree overflows in
    `register_content` — `stoll(..) + 1`, `end - start` on hostile Range headers; the range guard
    of the repaired tree is what makes `contentHandler` overflow-free.) -/
theorem C16_no_undefined_behaviour (cfg : Srv) (chunks : List Bytes) :
    (run cfg chunks).fin ≠ .ub := by
  rw [run_eq_spec]
  exact specStream_no_ub cfg _

/-- After a response has been written the connection is kept (the server re-enters `on_read`
    through `post`, with nothing else changed) IFF keep-alive is enabled and the request did
    not ask for close; otherwise — and only otherwise — `close_connection()` runs. The `close`
    flag bound into `on_write` is `lower_case(headers["connection"]) == "close"` of the request
    that was answered. -/
theorem C16_keepalive_iff (s : Srv) (close : Bool) :
    (s.onWrite .ok close = (s, [.postOnRead]) ↔ (s.keepAlive = true ∧ close = false)) ∧
    (¬(s.keepAlive = true ∧ close = false) →
        s.onWrite .ok close = ({ s with buf := [], used := 0 }, closeActs s)) ∧
    (∀ (req : Request) (r : Bytes) (c : Bool), answer s req = .respond r c →
        c = (lowerCase ((mapLookup CONNECTION req.headers).getD []) == CLOSE)) := by
  have hne : ∀ t : Srv, (t, closeActs s) ≠ (s, [Act.postOnRead]) := fun t h => by
    unfold closeActs at h; split at h <;> cases h
  rw [onWrite_ok]
  refine ⟨?_, ?_, fun req r c h => (answer_respond s req r c h).1⟩
  · cases close <;> cases hk : s.keepAlive <;> simp [hne]
  · cases close <;> cases hk : s.keepAlive <;> simp

/-- End-of-file or any error reported to `on_read`, an error reported to `on_write` or
    `on_accept`: the receive buffer is reset, the connection socket is closed, `async_accept`
    is re-armed (unless the server is stopping) — and NOTHING else changes (tables, flags, the
    send buffer are the same). -/
theorem C16_error_closes_only_this (s : Srv) (ec : Ec) (hec : ec ≠ .ok) :
    (∀ data, s.onRead ec data = ({ s with buf := [], used := 0 }, closeActs s)) ∧
    (∀ c, s.onWrite ec c = ({ s with buf := [], used := 0 }, closeActs s)) ∧
    s.onAccept ec = ({ s with buf := [], used := 0 }, closeActs s) ∧
    (s.closing = false → closeActs s = [.closeConn, .asyncAccept]) :=
  ⟨fun data => onRead_err s ec data hec, fun c => onWrite_err s ec c hec, onAccept_err s ec hec,
   fun h => by simp [closeActs, h]⟩

/-- `stop()` sets `m_close` and closes the listen socket (the acceptor's `close()`); from then
    on `m_close` stays set under every callback, no callback ever starts an `async_accept`
    again, and `close_connection()` only closes the connection. (That the acceptor's `close()`
    unbinds the port and refuses later connects is `C16_stop_frees_port`; on implementation
    traces it is the monitor clause `stop_frees_port` / `stop_refuses`.) -/
theorem C16_stop (s : Srv) :
    s.stop = ({ s with closing := true }, [.closeListen]) ∧
    ∀ s' : Srv, s'.closing = true →
      (∀ ec, (s'.onAccept ec).1.closing = true ∧ Act.asyncAccept ∉ (s'.onAccept ec).2) ∧
      (∀ ec data, (s'.onRead ec data).1.closing = true ∧ Act.asyncAccept ∉ (s'.onRead ec data).2) ∧
      (∀ ec c, (s'.onWrite ec c).1.closing = true ∧ Act.asyncAccept ∉ (s'.onWrite ec c).2) ∧
      s'.closeConnection = ({ s' with buf := [], used := 0 }, [.closeConn]) := by
  refine ⟨rfl, ?_⟩
  intro s' hc
  refine ⟨fun ec => onAccept_closing s' hc ec, fun ec data => onRead_closing s' hc ec data,
    fun ec c => onWrite_closing s' hc ec c, ?_⟩
  rw [closeConnection_eq]
  simp [closeActs, hc]

/-- What the action `closeListen` of `stop()` does in the world (Drv/HttpSrv.lean maps it to the
    acceptor's `close()`, `NetSt.accClose` of SimVerif/Tcp.lean): the listen socket is closed,
    unbound and no longer listening; its registry entry is gone, so — the listen socket having
    been the only holder of its endpoint — a later connect to that endpoint finds no listener
    (`internal_connect` returns no channel: refused) and the port can be bound again. Side
    condition: the acceptor was bound (the constructor binds it before it listens). -/
theorem C16_stop_frees_port (n : NetSt) (now : Int) (name : String) (s : TcpSock)
    (hs : n.tcp? name = some s) (hb : s.bound.isDefault = false)
    (honly : ∀ e ∈ n.reg.tcp, e.1 = s.bound → e.2 = name) :
    (∃ s', (n.accClose now name).1.tcp? name = some s' ∧ s'.isOpen = false ∧
        s'.isListening = false ∧ s'.bound = {}) ∧
    (n.accClose now name).1.reg.tcp.lookup s.bound = none ∧
    (∀ c : String, ((n.accClose now name).1.internalConnect c s.bound).2.2 = none) ∧
    (∀ other : String, 1024 ≤ s.bound.port →
      (simBind (n.accClose now name).1.reg.tcp (n.accClose now name).1.reg.nextPort other s.bound).2.2
        = .ok s.bound) :=
  ⟨(accClose_spec n now name s hs).2, accClose_port_free n now name s hs hb honly⟩

section examples

def exCfg : Srv :=
  { handlers := [(str "/h", .fixed (str "hello")), (str "/c", .content 300), (str "/r", .redirect (str "/c"))],
    stalls := [str "/s"] }

def exR1 : RawRequest :=
  { method := str "GET", target := str "/x/../h", version := str "HTTP/1.1", headers := [(str "Host", str " a")] }
def exR2 : RawRequest :=
  { method := str "GET", target := str "/c", version := str "HTTP/1.1", headers := [(str "Range", str " bytes=10-12")] }
def exR3 : RawRequest :=
  { method := str "GET", target := str "/nope", version := str "HTTP/1.1", headers := [(str "CONNECTION", str "  Close ")] }
def exR4 : RawRequest :=
  { method := str "GET", target := str "/h", version := str "HTTP/1.1", headers := [] }
def exStall : RawRequest :=
  { method := str "GET", target := str "/s", version := str "HTTP/1.1", headers := [] }

def exOut : Out :=
  ⟨[str "HTTP/1.1 200 OK\r\ncontent-length: 5\r\n\r\nhello",
    str "HTTP/1.1 206 Partial Content\r\ncontent-length: 3\r\nContent-Range: bytes 10-12/3\r\n\r\n" ++ [10, 11, 12],
    str "HTTP/1.1 404 Not Found\r\ncontent-length: 0\r\n\r\n"], .closed true⟩

theorem ex_wf : ∀ r ∈ [exR1, exR2, exR3, exR4], WellFormed r ∧ Framed r := by
  have h : ∀ r ∈ [exR1, exR2, exR3, exR4],
      WellFormed r ∧ hasCRLF r.method = false ∧ hasCRLF r.target = false := by decide +kernel
  exact fun r hr => ⟨(h r hr).1, framed_of_noCRLF r (h r hr).1 (h r hr).2.1 (h r hr).2.2⟩

/-- the four facts about `expectedOut` below, evaluated together (they share the answers) -/
theorem ex_expectedOut :
    expectedOut exCfg [exR1, exR2, exR3, exR4] = exOut ∧
    expectedOut { exCfg with keepAlive := false } [exR1, exR2] =
      ⟨[str "HTTP/1.1 200 OK\r\ncontent-length: 5\r\n\r\nhello"], .closed true⟩ ∧
    expectedOut { exCfg with closing := true } [exR3] =
      ⟨[str "HTTP/1.1 404 Not Found\r\ncontent-length: 0\r\n\r\n"], .closed false⟩ ∧
    (WellFormed exStall ∧ Framed exStall ∧ answer exCfg (canon exStall) = .stall ∧
      expectedOut exCfg [exR4, exStall, exR4] =
        ⟨[str "HTTP/1.1 200 OK\r\ncontent-length: 5\r\n\r\nhello"], .stalled⟩) := by
  rw [exOut, str_ofList, str_ofList, str_ofList]
  decide +kernel

/-- four pipelined requests: registered (through `..`), ranged, unknown + `CONNECTION:  Close`,
    and one more that must NOT be answered -/
theorem ex_expected : expectedOut exCfg [exR1, exR2, exR3, exR4] = exOut := ex_expectedOut.1

/-- the hypotheses of `C16_one_per_request_in_order` are satisfiable, for very different cuts:
    the whole stream at once, and one byte per read completion -/
example : run exCfg [([exR1, exR2, exR3, exR4].map render).flatten] = exOut :=
  (C16_one_per_request_in_order exCfg _ ex_wf _ (List.append_nil _)).trans ex_expected

example : run exCfg ((([exR1, exR2, exR3, exR4].map render).flatten).map (fun b => [b])) = exOut :=
  (C16_one_per_request_in_order exCfg _ ex_wf _ (by rw [← List.flatMap_def, List.flatMap_singleton'])).trans
    ex_expected

/-- a cut in the middle of the first request line and one inside the blank line -/
example : run exCfg [render exR1 |>.take 5, (render exR1 |>.drop 5) ++ (render exR2).take 40,
      (render exR2).drop 40 ++ render exR3 ++ render exR4] = exOut := by
  refine (C16_one_per_request_in_order exCfg _ ex_wf _ ?_).trans ex_expected
  simp only [List.flatten_cons, List.flatten_nil, List.map_cons, List.map_nil, List.append_nil,
    List.append_assoc]
  rw [← List.append_assoc (List.take 5 _), List.take_append_drop,
    ← List.append_assoc (List.take 40 _), List.take_append_drop]

/-- the mechanism itself, evaluated (not through the theorem): the buffer is 500 bytes, the
    stream is delivered in chunks of 7 bytes -/
example : run exCfg [(render exR1).take 7, ((render exR1).drop 7).take 7, (render exR1).drop 14] =
    ⟨[str "HTTP/1.1 200 OK\r\ncontent-length: 5\r\n\r\nhello"], .waiting⟩ := by
  rw [str_ofList]
  decide +kernel

/-- keep-alive off: one response, closed -/
example : expectedOut { exCfg with keepAlive := false } [exR1, exR2] =
    ⟨[str "HTTP/1.1 200 OK\r\ncontent-length: 5\r\n\r\nhello"], .closed true⟩ :=
  ex_expectedOut.2.1

/-- stopping: closed without re-arming accept -/
example : expectedOut { exCfg with closing := true } [exR3] =
    ⟨[str "HTTP/1.1 404 Not Found\r\ncontent-length: 0\r\n\r\n"], .closed false⟩ :=
  ex_expectedOut.2.2.1

/-- a stalled path: no response, nothing after it either -/
example : WellFormed exStall ∧ Framed exStall ∧ answer exCfg (canon exStall) = .stall ∧
    expectedOut exCfg [exR4, exStall, exR4] =
      ⟨[str "HTTP/1.1 200 OK\r\ncontent-length: 5\r\n\r\nhello"], .stalled⟩ :=
  ex_expectedOut.2.2.2

/-- a request with a header line without a colon is framed all the same: its first blank line ends at 24 -/
example : firstBlank (str "GET /h HTTP/1.1\r\nbad\r\n\r\n") = some 24 := by
  rw [str_ofList]
  decide +kernel

/-- `Framed` is needed: `WellFormed` allows a blank line inside the target, and then the
    server (rightly) frames the bytes differently -/
example : WellFormed { method := str "GET", target := str "/a\r\n\r\nb", version := str "HTTP/1.1", headers := [] } ∧
    ¬ Framed { method := str "GET", target := str "/a\r\n\r\nb", version := str "HTTP/1.1", headers := [] } := by
  decide +kernel

/-- the handler evaluated on `Range: bytes=250-259` (the case `C16_ranged_content` describes): the
    bytes wrap around modulo 256 -/
example : contentHandler 300 [(str "range", str "bytes=250-259")] = .ok
    (str "HTTP/1.1 206 Partial Content\r\ncontent-length: 10\r\nContent-Range: bytes 250-259/10\r\n\r\n"
      ++ [250, 251, 252, 253, 254, 255, 0, 1, 2, 3]) := by
  rw [str_ofList, str_ofList, str_ofList]
  decide +kernel

/-- a hostile range: the handler throws, the connection is closed -/
example : contentHandler 300 [(str "range", str "bytes=0-9223372036854775807")] = .error .throw ∧
    contentHandler 300 [(str "range", str "bytes=x-y")] = .error .throw ∧
    contentHandler 300 [(str "range", str "bytes=5-2")] = .error .throw := by
  decide +kernel

/-- `C16_stop_frees_port` on a concrete world: a listening acceptor with an accept outstanding;
    before the close a connect finds it, afterwards it does not and the port can be bound -/
def exEp : Ep := { addr := "10.0.1.1", port := 8080 }
def exSock : TcpSock :=
  { node := "n1", isOpen := true, bound := exEp, fwd := some 0, acc := some { queueLimit := 20, acceptOp := some (.into 3000000 "w0.c" true) } }
def exNet : NetSt :=
  { reg := { tcp := [(exEp, "w0.l")] }, fwds := [some "w0.l"], tcps := [("w0.l", exSock), ("w0.c", { node := "n1" })] }

example : exSock.isListening = true ∧ (exNet.internalConnect "w0.c" exEp).2.2 ≠ none ∧
    ((exNet.accClose 0 "w0.l").1.internalConnect "w0.c" exEp).2.2 = none ∧
    (simBind (exNet.accClose 0 "w0.l").1.reg.tcp (exNet.accClose 0 "w0.l").1.reg.nextPort "a0" exEp).2.2 = .ok exEp := by
  have h := C16_stop_frees_port exNet 0 "w0.l" exSock rfl (by decide +kernel) (by decide +kernel)
  refine ⟨by decide +kernel, by decide +kernel, h.2.2.1 "w0.c", ?_⟩
  exact h.2.2.2 "a0" (by decide +kernel)

end examples

end SimVerif.HttpServer
