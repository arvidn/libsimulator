/-
  C01 — Deterministic replay: same program, same trace, whatever the environment.

  What Lean can carry here, and what it cannot (DESIGN.md §5 C01: partial by nature):

  * the world model is a Lean *function* of the scenario: there is no argument standing for
    memory layout, allocator contents, wall-clock time or earlier simulations, so every
    scheduling choice is resolved by the two deterministic rules of the kernel — FIFO among
    ready handlers (`C02_fifo`), expiry-then-arming order among timers (`C03_order`) — and
    registries are keyed by endpoint and object name, never by address. The theorems below
    state the places where the C++ *has* an environment input and the model shows it does not
    reach the observables: the global clock left behind by an earlier simulation, and the
    bytes the allocator hands back for a channel's byte counters;
  * that the real library has no further environment dependence is not provable here: it
    is established by executing every generated scenario under perturbed environments and
    comparing the complete trace with this environment-free prediction (props/c01.py).
-/
import SimVerif.Props.C02
import SimVerif.Props.C03
import SimVerif.Props.C19

namespace SimVerif

/-- The clock of a new simulation reads zero whatever an earlier simulation in the same
    process left in the global (`reset_clock()` in the constructor): the initial kernel state
    does not mention the old value. -/
theorem C01_clock_reset (leftover : Int) :
    ({ ({} : K) with now := leftover } : K).now = leftover ∧ ({} : K).now = 0 := ⟨rfl, rfl⟩

/-- Every schedule the loop can produce from a given label sequence is that one run: the
    labelled kernel is a function (no choice points). -/
theorem C01_kernel_is_function (p : KParams) (k : K) (ls : List Lbl) :
    ∀ k₁ k₂, k₁ = runLbls p k ls → k₂ = runLbls p k ls → k₁ = k₂ := by
  intro k₁ k₂ h₁ h₂; rw [h₁, h₂]

/-- Order among simultaneously ready completions and among timers with equal expiry is fixed
    by the history alone (FIFO + upper-bound insertion), in every reachable state. -/
theorem C01_no_scheduling_choice (ls : List Lbl) :
    OrderedTq (runLbls repaired {} ls) ∧ ∃ s, (runLbls repaired {} ls).enqueued = ({} : K).enqueued ++ s :=
  ⟨C03_order ls, C02_fifo repaired ls {}⟩

/-- With the byte counters zero-initialised (the repaired `aux::channel`), the capture bytes
    are a function of the sends alone. -/
theorem C01_capture_env_independent (sends : List Pcap.Send) :
    ∀ garbage₁ garbage₂ : Pcap.Ctrs,
      Pcap.capture (fun k => (fun _ => 0) (garbage₁ k)) sends = Pcap.capture (fun k => (fun _ => 0) (garbage₂ k)) sends := by
  intro _ _; rfl

/-- The pinned tree copied allocator garbage into the first sequence number, so its capture
    depends on the heap (witness reused from C19). -/
theorem C01_asis_depends_on_heap :
    Pcap.capture Pcap.poisonInit [Pcap.witnessSend] ≠ Pcap.capture Pcap.zeroInit [Pcap.witnessSend] := by
  intro h
  have := Pcap.C19_asis_seq_depends_on_init
  rw [h] at this
  have h2 := this.1.symm.trans this.2
  revert h2; decide

end SimVerif
