/-
  C15 — HTTP request parser is total, stays in bounds and round-trips requests.

  "For every byte string and length, request parsing either returns a request or throws its
   parse-failure error, never reads outside the given range and always terminates;
   request-length detection returns the offset just past the first blank line (CRLFCRLF), or -1
   when there is none.  For every well-formed request (method, target, header lines, blank line)
   the result carries exactly that method and target and every header under its lower-cased name
   with surrounding whitespace trimmed (the last duplicate wins).  For methods other than CONNECT
   the path is the target up to '?', with a leading '/' ensured and every 'segment/../' detour
   removed."

  The mechanism model (`parseRequest`, `findRequestLen`, `normalize`,
  `trim`, `lowerCase`: a statement-level transcription of `src/http_server.cpp` over checked
  memory) is in `SimVerif/Http.lean`; the independent specification-level definitions
  (`trimSpec`, `normSpec`, `RawRequest`, `render`, `WellFormed`, `canon`) are in
  `SimVerif/HttpSpec.lean`; helper lemmas are in `SimVerif/Lemmas/Http*.lean`.

  * Termination: every model function is a total Lean function (structural or well-founded
    recursion, no `partial`, no fuel), so "always terminates" is discharged by Lean's
    termination checker on the transcribed loops.
  * In bounds: every raw-pointer read of the C++ is a checked read in the model that produces
    the value `oob` when it leaves the allocation `bs`; `C15_in_bounds` excludes that value and
    `C15_reads_only_prefix` shows that bytes at offsets `≥ len` do not influence the result.
  * Domain: `len` is a `Nat` for `parse_request` (for a negative `int len` the *diagnostic*
    `std::string(start, len)` of the failure path throws `std::length_error`, which is neither
    outcome of the property; no caller in the library passes a negative length) and an `Int`
    for `find_request_len`; `len < 2^31` (no `int` overflow).
-/
import SimVerif.Lemmas.HttpParse
import SimVerif.Lemmas.HttpMap

namespace SimVerif.Http

/-- `parse_request(start, len)` never reads outside the allocation when `len` bytes are
    available.  Instantiated with an exactly-sized buffer (`bs.length = len`) this is
    "never reads outside `[0, len)`". -/
theorem C15_in_bounds (bs : Bytes) (len : Nat) (h : len ≤ bs.length) :
    parseRequest bs len ≠ .oob :=
  parseRequest_ne_oob bs len h

/-- The result is a function of the first `len` bytes only: whatever follows them in a larger
    allocation is never looked at (and, by `C15_in_bounds` on `bs.take len`, nothing is read
    past them). -/
theorem C15_reads_only_prefix (bs : Bytes) (len : Nat) (h : len ≤ bs.length) :
    parseRequest bs len = parseRequest (bs.take len) len ∧ parseRequest (bs.take len) len ≠ .oob :=
  ⟨(parseRequest_take bs len h).symm, parseRequest_ne_oob _ _ (by simp; omega)⟩

/-- Either a request is returned or `std::runtime_error("parse failed")` is thrown. -/
theorem C15_total (bs : Bytes) (len : Nat) (h : len ≤ bs.length) :
    (∃ r, parseRequest bs len = .ok r) ∨ parseRequest bs len = .parseFailed := by
  have := C15_in_bounds bs len h
  cases hp : parseRequest bs len with
  | ok r => exact Or.inl ⟨r, rfl⟩
  | parseFailed => exact Or.inr rfl
  | oob => exact absurd hp this

/-- `find_request_len(buf, len)` never reads outside `[0, len)` and returns an integer
    (`len` may be negative or zero). -/
theorem C15_find_request_len_in_bounds (bs : Bytes) (len : Int) (h : len ≤ bs.length) :
    ∃ v : Int, findRequestLen bs len = .ok v := by
  rcases findRequestLen_cases bs len h with ⟨hf, _⟩ | ⟨p, hf, _⟩ <;> exact ⟨_, hf⟩

theorem C15_find_request_len_ne_oob (bs : Bytes) (len : Int) (h : len ≤ bs.length) :
    findRequestLen bs len ≠ .error .oob := by
  obtain ⟨v, hv⟩ := C15_find_request_len_in_bounds bs len h
  rw [hv]; simp

theorem C15_find_request_len_reads_only_prefix (bs : Bytes) (len : Nat) (h : len ≤ bs.length) :
    findRequestLen bs len = findRequestLen (bs.take len) len :=
  findRequestLen_take bs len h

/-- Request-length detection against an independent specification:
    * it returns `n + 4` iff the four bytes at offset `n` are CR LF CR LF, they lie within the
      first `len` bytes, and no smaller offset has them;
    * it returns `-1` iff no offset within the first `len` bytes has them;
    * it returns nothing else. -/
theorem C15_find_request_len (bs : Bytes) (len : Int) (h : len ≤ bs.length) :
    (∀ n : Nat, findRequestLen bs len = .ok ((n : Int) + 4) ↔
        ((n : Int) + 4 ≤ len ∧ (bs.drop n).take 4 = [13, 10, 13, 10] ∧
          ∀ k : Nat, k < n → (bs.drop k).take 4 ≠ [13, 10, 13, 10])) ∧
    (findRequestLen bs len = .ok (-1) ↔
        ∀ k : Nat, (k : Int) + 4 ≤ len → (bs.drop k).take 4 ≠ [13, 10, 13, 10]) ∧
    (∃ v : Int, findRequestLen bs len = .ok v ∧ (v = -1 ∨ (4 ≤ v ∧ v ≤ len))) := by
  refine ⟨findRequestLen_eq_some bs len h, ?_, ?_⟩ <;>
    rcases findRequestLen_cases bs len h with ⟨hf, hno⟩ | ⟨p, hf, hp, hw, _⟩ <;> rw [hf]
  · exact ⟨fun _ => hno, fun _ => rfl⟩
  · exact ⟨fun he => by injection he; omega, fun hall => absurd hw (hall p hp)⟩
  · exact ⟨-1, rfl, .inl rfl⟩
  · exact ⟨_, rfl, .inr (by omega)⟩

/-- `trim` never indexes its string outside `[0, size()]` and drops exactly the white space
    (`' '`, CR, LF, TAB and NUL — `strchr` matches the terminator) at both ends. -/
theorem C15_trim_spec (s : Bytes) : trim s = .ok (trimSpec s) :=
  trim_eq_spec s

/-- `normalize` stays inside its C string and equals the functional specification `normSpec`
    (cut at the first NUL, drop one leading '/', split at '/', fold all segments but the last
    over a stack where ".." pops, append the last segment, put '/' in front of every element).
    The output always starts with '/'.  For NUL-free input the NUL cut disappears. -/
theorem C15_normalize_spec (s : Bytes) :
    normalize s = .ok (normSpec s) ∧
    (normSpec s).head? = some 47 ∧
    (0 ∉ s →
      normSpec s =
        let u := match s with
          | 47 :: r => r
          | _ => s
        let segs := splitOn 47 u
        47 :: [47].intercalate (segs.dropLast.foldl stackStep [] ++ [segs.getLastD []])) := by
  refine ⟨normalize_eq_spec s, rfl, ?_⟩
  intro h0
  have : s.takeWhile (· != 0) = s := by
    have := List.takeWhile_append_of_pos (p := (· != 0)) (l₁ := s) (l₂ := [])
      (fun a ha => by simpa using fun (h : a = 0) => h0 (h ▸ ha))
    simpa using this
  unfold normSpec
  rw [this]
  rfl

/-- For *every* successful parse: for methods other than CONNECT the path is the normalised
    target up to the first '?'; for CONNECT it is the target itself. -/
theorem C15_path (bs : Bytes) (len : Nat) (r : Request) (h : parseRequest bs len = .ok r) :
    (r.method ≠ CONNECT → r.path = normSpec (r.req.takeWhile (· != 63))) ∧
    (r.method = CONNECT → r.path = r.req) := by
  have he : parseRequestE bs len = .ok r := by
    unfold parseRequest at h
    split at h
    · rename_i r' he; simp at h; rw [he, h]
    · simp at h
    · simp at h
  have hp := parseRequestE_path bs len r he
  constructor
  · intro hm
    rw [if_pos hm, normalize_eq_spec] at hp
    simp at hp
    exact hp.symm
  · intro hm
    rw [if_neg (by simp [hm])] at hp
    simp at hp
    exact hp.symm

/-! ## Round trip

  `WellFormed r` (decidable, `SimVerif/HttpSpec.lean`) is

      32 ∉ r.method ∧ 32 ∉ r.target ∧ hasCRLF r.version = false ∧
      ∀ h ∈ r.headers, 58 ∉ h.1 ∧ hasCRLF h.1 = false ∧ hasCRLF h.2 = false

  Nothing else is needed: the method may be empty and, like the target, may contain CR, LF,
  NUL, ':' and bytes ≥ 0x80; version, names and values may contain lone CR / LF, NUL and spaces;
  names and values may be empty.  Each conjunct is necessary — the `C15_wf_needs_*` theorems
  below exhibit, for every conjunct, a request violating only that conjunct on which the parser
  does not return `canon r`:

  1. `32 ∉ method`      : the method ends at the first SP.  "G T / V" parses as method "G",
                          target "T".
  2. `32 ∉ target`      : the target ends at the second SP.  "G /a b V" gives target "/a".
  3. no CRLF in version : the header block starts at the first CRLF after the second SP.
                          version "H\r\na:b" makes the parser see a header a ↦ b that `r` does
                          not have (and e.g. version "H\r\nX" is rejected: line without ':').
  4. `':' ∉ name`       : the name ends at the first ':'.  ("a:b","c") is stored as a ↦ "b:c".
  5. no CRLF in name    : the line ends at the first CRLF, the first ':' then lies behind the
                          end of the line → `value > next` → parse failure.
  6. no CRLF in value   : the value ends at the first CRLF.  ("a","b\r\nc:d") is stored as two
                          headers a ↦ b, c ↦ d.
-/

/-- Every well-formed request, rendered as
    `method SP target SP version CRLF (name ":" value CRLF)* CRLF`, parses to exactly that method
    and target, the specified path, and the headers folded left-to-right into the map under
    `lowerCase (trim name) ↦ trim value`. -/
theorem C15_roundtrip (r : RawRequest) (h : WellFormed r) :
    parseRequest (render r) (render r).length = .ok (canon r) :=
  parseRequest_render r h

/-- What `canon r` says about the headers: looking a key up yields the trimmed value of the
    *last* header line whose lower-cased trimmed name is that key (`none` if there is none), and
    the association list is strictly sorted by unsigned byte-wise order (`std::map` iteration
    order; in particular keys are unique). -/
theorem C15_roundtrip_headers (r : RawRequest) (h : WellFormed r) :
    ∃ q, parseRequest (render r) (render r).length = .ok q ∧
      q.method = r.method ∧ q.req = r.target ∧
      sortedKeys q.headers ∧
      ∀ k : Bytes, mapLookup k q.headers =
        r.headers.foldl
          (fun acc h => if k = lowerCase (trimSpec h.1) then some (trimSpec h.2) else acc) none :=
  ⟨canon r, C15_roundtrip r h, rfl, rfl, canonHeaders_sorted r.headers,
    fun k => canonHeaders_lookup r.headers k⟩

/-- 1. SP in the method: "G T / V\r\n\r\n" is parsed with method "G". -/
theorem C15_wf_needs_method_no_space :
    let r : RawRequest := { method := [71, 32, 84], target := [47], version := [86], headers := [] }
    ¬ WellFormed r ∧ parseRequest (render r) (render r).length ≠ .ok (canon r) := by
  decide +kernel

/-- 2. SP in the target: "G /a b V\r\n\r\n" is parsed with target "/a". -/
theorem C15_wf_needs_target_no_space :
    let r : RawRequest := { method := [71], target := [47, 97, 32, 98], version := [86], headers := [] }
    ¬ WellFormed r ∧ parseRequest (render r) (render r).length ≠ .ok (canon r) := by
  decide +kernel

/-- 3. CRLF in the version: "G / H\r\na:b\r\n\r\n" yields a header `a ↦ b` the request does not
    have. -/
theorem C15_wf_needs_version_no_crlf :
    let r : RawRequest := { method := [71], target := [47], version := [72, 13, 10, 97, 58, 98],
                            headers := [] }
    ¬ WellFormed r ∧ parseRequest (render r) (render r).length ≠ .ok (canon r) := by
  decide +kernel

/-- 4. ':' in a header name: ("a:b", "c") is stored as `a ↦ "b:c"`. -/
theorem C15_wf_needs_name_no_colon :
    let r : RawRequest := { method := [71], target := [47], version := [86],
                            headers := [([97, 58, 98], [99])] }
    ¬ WellFormed r ∧ parseRequest (render r) (render r).length ≠ .ok (canon r) := by
  decide +kernel

/-- 5. CRLF in a header name: ("x\r\ny", "v") is rejected. -/
theorem C15_wf_needs_name_no_crlf :
    let r : RawRequest := { method := [71], target := [47], version := [86],
                            headers := [([120, 13, 10, 121], [118])] }
    ¬ WellFormed r ∧ parseRequest (render r) (render r).length = .parseFailed := by
  decide +kernel

/-- 6. CRLF in a header value: ("a", "b\r\nc:d") is stored as two headers. -/
theorem C15_wf_needs_value_no_crlf :
    let r : RawRequest := { method := [71], target := [47], version := [86],
                            headers := [([97], [98, 13, 10, 99, 58, 100])] }
    ¬ WellFormed r ∧ parseRequest (render r) (render r).length ≠ .ok (canon r) := by
  decide +kernel

/-- `GET /x/a/../b?q=1 HTTP/1.1` with headers `Host: " ex "`, `X-A: "1"`, `"hOST ": "two\t"`
    (a duplicate of `Host` in another case with trailing white space). -/
def exRaw : RawRequest :=
  { method := [71, 69, 84],
    target := [47, 120, 47, 97, 47, 46, 46, 47, 98, 63, 113, 61, 49],
    version := [72, 84, 84, 80, 47, 49, 46, 49],
    headers := [([72, 111, 115, 116], [32, 101, 120, 32]), ([88, 45, 65], [49]),
                ([104, 79, 83, 84, 32], [116, 119, 111, 9])] }

/-- method `GET`, target unchanged, path `/x/b`, headers `host ↦ two`, `x-a ↦ 1`. -/
def exParsed : Request :=
  { method := [71, 69, 84],
    req := [47, 120, 47, 97, 47, 46, 46, 47, 98, 63, 113, 61, 49],
    path := [47, 120, 47, 98],
    headers := [([104, 111, 115, 116], [116, 119, 111]), ([120, 45, 97], [49])] }

theorem exRaw_canon : WellFormed exRaw ∧ canon exRaw = exParsed := by decide +kernel

example : WellFormed exRaw := exRaw_canon.1

example : canon exRaw = exParsed := exRaw_canon.2

example : parseRequest (render exRaw) (render exRaw).length = .ok exParsed :=
  (C15_roundtrip exRaw exRaw_canon.1).trans (congrArg _ exRaw_canon.2)

/-- CONNECT keeps the target as path; an empty method, an empty version, empty names/values,
    NUL / lone CR / lone LF / ':' in the target are all well-formed. -/
def exConnect : RawRequest :=
  { method := [67, 79, 78, 78, 69, 67, 84], target := [97, 47, 46, 46, 47, 98, 63, 120],
    version := [], headers := [([], [])] }

example : WellFormed exConnect := by decide +kernel

example : parseRequest (render exConnect) (render exConnect).length
    = .ok { method := [67, 79, 78, 78, 69, 67, 84], req := [97, 47, 46, 46, 47, 98, 63, 120],
            path := [97, 47, 46, 46, 47, 98, 63, 120], headers := [([], [])] } := by
  rw [C15_roundtrip exConnect (by decide +kernel)]
  decide +kernel

example : WellFormed { method := [], target := [0, 13, 58, 10], version := [13], headers := [] } := by
  decide +kernel

/-- `find_request_len`: "ab\r\n\r\ncd" → 6; "ab\r\n\r" → -1; `parse_request` of the empty buffer fails. -/
example : findRequestLen [97, 98, 13, 10, 13, 10, 99, 100] 8 = .ok 6 := rfl

example : findRequestLen [97, 98, 13, 10, 13] 5 = .ok (-1) := rfl

example : parseRequest [] 0 = .parseFailed := by decide +kernel

/-- `normalize`: "a/../../b//c/.." → "/b//c/.." (".." on the empty stack is dropped, the last
    segment is kept verbatim), and an embedded NUL truncates: "/a\0/b" → "/a". -/
example : normSpec [97, 47, 46, 46, 47, 46, 46, 47, 98, 47, 47, 99, 47, 46, 46]
    = [47, 98, 47, 47, 99, 47, 46, 46] := by decide +kernel

example : normSpec [47, 97, 0, 47, 98] = [47, 97] := by decide +kernel

/-- `trim`: NUL counts as white space. -/
example : trimSpec [32, 0, 9, 97, 32, 98, 13, 10, 0] = [97, 32, 98] := by decide +kernel

end SimVerif.Http
