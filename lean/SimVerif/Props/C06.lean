/-
  C06 — TCP makes progress: written bytes arrive and pending reads complete.

  FULL STATEMENT (properties.jsonl): on an established connection whose two sockets stay open,
  every byte accepted by a write is eventually delivered to a reader that keeps reading, and
  the simulation never goes quiescent while (a) a read is pending although deliverable data
  is queued, (b) a writer is blocked although nothing is in flight, or (c) dropped segments
  wait unsent; with unbounded queues for any traffic, with finite tail-drop queues (each able
  to hold one full segment) when payload flows one direction at a time; connects to a
  listening acceptor with an accept outstanding complete.

  WHAT IS PROVED HERE (DESIGN.md §5 C06: liveness is NOT proved; proved are the
  quiescence-safety invariants of the mechanism model SimVerif/Tcp.lean, all repairs in place,
  `({} : TParams)`), over EVERY history of two open systems (SimVerif/TcpSys.lean):

    sender `TxS`   — labels write / deliver / ack / dropped / synack; the environment decides
                    which segment reaches the peer, which ACK comes back and when (or never),
                    and which segment a queue hands back, at label boundaries and
                    synchronously inside the segmentation and retransmission loops;
    receiver `RxS` — labels arrive (payload or error packet, ANY sequence number, any order,
                    duplicates allowed) / read / waitRead / readNb.

  None of the theorems about `TxS`/`RxS` needs the side conditions of the property text (queue
  capacities, one direction at a time, no foreign traffic, drops only by queues): they are
  invariants of the socket mechanism against an arbitrary network. The only side conditions
  are `RxS.okRun` (payload segments are non-empty — what `cutBuf` produces, lemma
  `Prog.cutBuf_nonempty` — and error packets do not carry the code `would_block`).

  Ghost state of `TxS`: `bag` = segments of the socket in the network (every packet it
  forwarded — first transmission or retransmission — that was neither delivered nor handed
  back), `acks` = sequence numbers delivered whose ACK has not arrived, `lost` = segments that
  vanished without notification (a hand-back of a packet that carries no drop callback).

  As-is witnesses (`C06_asis_*`): concrete runs of the same systems with ONE repair switched
  off, reproducing the stalls of the pinned tree (F8 reader, F8a writer, F9 in-flight leak,
  F10 lost callback).
-/
import SimVerif.Lemmas.TcpProgress
import SimVerif.Lemmas.StreamQuiesce
import SimVerif.Lemmas.StreamNet
import SimVerif.TcpEx
import SimVerif.Lemmas.Decide

namespace SimVerif
open Prog

/-- `a0.open; a0.bind :8000; a0.listen; a0.accept s1 h0; s0.connect 10.0.0.2:8000 h1`, then
    the SYN reaches the acceptor -/
def Prog.handshake (mss : Nat) : NetSt × List NEff :=
  let n : NetSt := { cfg := cfg0 mss, tcps := [("a0", { node := "n1", acc := some {} }), (sockB, { node := "n1" }),
                                               (sockA, { node := "n0" })] }
  let n := (n.tcpOpen 0 "a0" true).1
  let n := (n.tcpBind "a0" { addr := "0.0.0.0", port := 8000 }).1
  let n := (n.accListen "a0" (-1)).1
  let (n, e1) := n.accAsyncAccept 0 "a0" (.into 0 sockB false)
  let (n, e2) := n.tcpConnect 0 sockA epB 1
  let syn := (forwards e2).headD (ackPkt 0)
  let (n, e3) := n.accIncoming 0 "a0" { syn with hops := [] }
  (n, e1 ++ e2 ++ e3)

/-- for MSS 1475 and 10 the explicit initial state `net0` is the state after the handshake functions ran -/
example : (handshake 1475).1 = net0 1475 := by rfl
example : (handshake 10).1 = net0 10 := by rfl
/-- the handshake forwarded the SYN along `hops1`, the SYN-ACK along `hops0`, and completed the accept -/
example : (forwards (handshake 1475).2).map (fun p => (p.ty, p.hops, p.chan))
    = [(.syn, chan0.hops1.dropLast ++ ["@0"], some 0), (.synack, chan0.hops0, some 0)] := by decide +kernel
example : (handshake 1475).2.any (fun e => match e with | .post c => c.h == 0 && c.ec == .ok | _ => false) = true := by
  decide +kernel

/-- **Window floor.** `mss ≤ cwnd` at every label boundary (initially `cwnd = 2·mss`; a
    hand-back halves it but not below `mss`; ACKs only add), so a single segment always fits
    an empty window. (Stronger than `0 < mss → mss ≤ cwnd`.) Needs no side condition. -/
theorem C06_window_floor (mss : Nat) (ls : List TxLbl) :
    ∃ t, (TxS.run {} (TxS.init mss) ls).sock = some t ∧ t.mss = mss ∧ t.mss ≤ t.cwnd := by
  obtain ⟨t, hsv, _, hm⟩ := SInv.reach mss ls
  exact ⟨t, hsv.est.sock, hm, hsv.core.floor⟩

/-- **In-flight account.** At every label boundary:
    * `m_bytes_in_flight` is the sum of the recorded segment sizes, in particular ≥ 0;
    * the keys of `m_outstanding_packet_sizes` are distinct and are EXACTLY the sequence numbers
      of the segments in the network (`bag`) or delivered with the ACK still to come (`acks`),
      i.e. sent (or retransmitted) and neither ACKed nor handed back; every segment in the
      network is recorded with its own size;
    * a sequence number is in at most one place: network, ACK pending, or retransmission list;
    * no segment ever vanished unreported (`lost = []`).
    This is the invariant the pinned tree broke (`C06_asis_inflight_leaks`). -/
theorem C06_in_flight_account (mss : Nat) (ls : List TxLbl) :
    let s := TxS.run {} (TxS.init mss) ls
    ∃ t, s.sock = some t
      ∧ t.inFlight = sumSizes t.outstanding ∧ 0 ≤ t.inFlight
      ∧ (keys t.outstanding).Nodup
      ∧ (∀ k, k ∈ keys t.outstanding ↔ (k ∈ ids s.bag ∨ k ∈ s.acks))
      ∧ (∀ p, p ∈ s.bag → (p.id, p.payload.length) ∈ t.outstanding)
      ∧ (ids s.bag).Nodup ∧ s.acks.Nodup ∧ (ids t.resend).Nodup
      ∧ (∀ k, k ∈ ids s.bag → k ∉ s.acks)
      ∧ (∀ k, k ∈ ids t.resend → k ∉ ids s.bag ∧ k ∉ s.acks)
      ∧ s.lost = [] := by
  obtain ⟨t, hsv, _, _⟩ := SInv.reach mss ls
  have c := hsv.core
  exact ⟨t, hsv.est.sock, c.acct, by rw [c.acct]; exact sumSizes_nonneg _, c.keysND, c.live, c.sized, c.bagND,
    c.acksND, c.resendND, c.disjBA, c.disjR, hsv.lost⟩

/-- nothing outstanding ⇒ nothing counted as in flight (corollary of the account) -/
theorem C06_idle_means_zero_in_flight (mss : Nat) (ls : List TxLbl) :
    let s := TxS.run {} (TxS.init mss) ls
    s.bag = [] → s.acks = [] → ∃ t, s.sock = some t ∧ t.outstanding = [] ∧ t.inFlight = 0 := by
  intro s hb ha
  obtain ⟨t, hsv, _, _⟩ := SInv.reach mss ls
  have a := hsv.core.toAcct
  rw [show (TxS.run {} (TxS.init mss) ls).bag = [] from hb, show (TxS.run {} (TxS.init mss) ls).acks = [] from ha] at a
  exact ⟨t, hsv.est.sock, a.empty_zero⟩

def Prog.wr (h len off : Nat) : WriteOp := { h := h, bufs := [List.replicate len 0], stream := 3, off := off }

/-- what the witnesses look at: (write parked, bytes in flight, size table, retransmission
    list length), ids in the network, ACKs pending, ids lost -/
def Prog.sview (s : TxS) : (Bool × Int × List (Nat × Nat) × Nat) × List Nat × List Nat × List Nat :=
  (match s.sock with
   | some t => (t.sendH.isSome, t.inFlight, t.outstanding, t.resend.length)
   | none => (false, -1, [], 0),
   ids s.bag, s.acks, ids s.lost)

/-- two short segments, the first handed back once, retransmitted, everything ACKed -/
def Prog.histLeak : List TxLbl :=
  [.synack 0 [], .write 0 (wr 2 100 0) [], .write 0 (wr 3 100 100) [], .dropped 0,
   .deliver 1, .ack 0 1 [] [], .deliver 0, .ack 0 0 [] []]

/-- **As-is (F9, `releaseOnDrop := false`).** After one hand-back and ALL ACKs the network is
    empty, the size table is empty, nothing waits for retransmission — and 100 bytes are still
    counted as in flight, forever (every later window test is off by them). -/
theorem C06_asis_inflight_leaks :
    sview (TxS.run { releaseOnDrop := false } (TxS.init 1475) histLeak) = ((false, 100, [], 0), [], [], []) := by
  decide +kernel

/-- the same history with the repair: the account returns to zero -/
example : sview (TxS.run {} (TxS.init 1475) histLeak) = ((false, 0, [], 0), [], [], []) := by
  decide +kernel

/-- **Writer not stranded.** At every label boundary a parked write (`m_send_handler` set)
    means: the handshake is not finished, or the window is full, or segments wait for
    retransmission. Hence (with the floor and the account): a parked write on an established
    socket with an empty retransmission list has bytes in flight, and some segment of the
    connection is in the network or its ACK is still to come — the event that will run the
    ACK path (`C06_ack_wakes_writer`) or the hand-back path. No side condition. -/
theorem C06_writer_not_stranded (mss : Nat) (ls : List TxLbl) :
    let s := TxS.run {} (TxS.init mss) ls
    ∃ t, s.sock = some t
      ∧ (t.sendH.isSome = true →
            t.connectH.isSome = true ∨ t.inFlight + t.mss > t.cwnd ∨ t.resend ≠ [])
      ∧ (t.sendH.isSome = true → t.connectH = none → t.resend = [] →
            0 < t.inFlight ∧ ∃ k, k ∈ ids s.bag ∨ k ∈ s.acks) := by
  obtain ⟨t, hsv, hw, _⟩ := SInv.reach mss ls
  refine ⟨t, hsv.est.sock, hw, ?_⟩
  intro h1 h2 h3
  have hfl := hsv.core.floor
  have hpos : 0 < t.inFlight := by
    rcases hw h1 with h | h | h
    · simp [h2] at h
    · omega
    · exact absurd h3 h
  refine ⟨hpos, ?_⟩
  cases hx : t.outstanding with
  | nil => have := hsv.core.acct; rw [hx] at this; simp [sumSizes] at this; omega
  | cons e es => exact ⟨e.1, (hsv.core.live e.1).mp (by rw [hx]; simp [keys])⟩

/-- **The ACK path wakes the writer** (the step that matters, `tcpAckPost` with
    `wakeWriterFixed`): after an ACK has been processed — retransmission loop, window growth,
    `maybe_wakeup_writer` — whatever the environment handed back meanwhile, a write is parked
    only if `write_some_impl` refused it again: window full (or handshake pending). If the
    window has room, the parked write HAS been re-run. -/
theorem C06_ack_wakes_writer (mss : Nat) (ls : List TxLbl) (now : Int) (k : Nat) (ds dw : List (List Nat))
    (hk : k ∈ (TxS.run {} (TxS.init mss) ls).acks) :
    ∃ t, (TxS.run {} (TxS.init mss) (ls ++ [.ack now k ds dw])).sock = some t
      ∧ (t.sendH.isSome = true → t.connectH.isSome = true ∨ t.inFlight + t.mss > t.cwnd) := by
  obtain ⟨t, hsv, _, _⟩ := SInv.reach mss ls
  obtain ⟨t', a, b, _⟩ := step_ack {} rfl rfl rfl now k ds dw hsv hk
  refine ⟨t', ?_, b⟩
  simp only [TxS.run, List.foldl_append, List.foldl_cons, List.foldl_nil]
  exact a.est.sock

/-- **A write call leaves a write parked only on a full window** (or a pending handshake): after
    every label except a hand-back the `resend ≠ []` disjunct of `C06_writer_not_stranded` is not needed. -/
theorem C06_write_parks_only_on_full_window (mss : Nat) (ls : List TxLbl) (now : Int) (op : WriteOp)
    (ds : List (List Nat)) :
    ∃ t, (TxS.run {} (TxS.init mss) (ls ++ [.write now op ds])).sock = some t
      ∧ (t.sendH.isSome = true → t.connectH.isSome = true ∨ t.inFlight + t.mss > t.cwnd) := by
  obtain ⟨t, hsv, _, _⟩ := SInv.reach mss ls
  obtain ⟨t', a, b, _⟩ := step_write {} rfl rfl now op ds hsv
  refine ⟨t', ?_, b⟩
  simp only [TxS.run, List.foldl_append, List.foldl_cons, List.foldl_nil]
  exact a.est.sock

/-- shape of corpus/_defects/f8a_writer_not_woken.scn: the window is shrunk to one segment by
    a hand-back, then only short segments are ACKed while a write is parked -/
def Prog.histWriter : List TxLbl :=
  [.synack 0 [], .write 0 (wr 2 1475 0) [], .dropped 0, .write 0 (wr 3 100 1475) [], .write 0 (wr 4 100 1575) [],
   .deliver 1, .ack 0 1 [] [], .deliver 0, .ack 0 0 [] []]

/-- **As-is (F8a, `wakeWriterFixed := false`).** The write `h4` is parked (100 + 1475 > 1475);
    every ACK arrives while the window is still full BEFORE it, so `!was_blocked && writeable`
    is never true: at the end the write is parked, nothing is in flight, nothing waits for
    retransmission, the network is empty — no event is left that could run it. -/
theorem C06_asis_writer_missed :
    sview (TxS.run { wakeWriterFixed := false } (TxS.init 1475) histWriter) = ((true, 0, [], 0), [], [], []) := by
  decide +kernel

theorem Prog.acks_of_sview {s : TxS} {x : Bool × Int × List (Nat × Nat) × Nat} {b a l : List Nat}
    (h : sview s = (x, b, a, l)) : s.acks = a := congrArg (·.2.2.1) h

/-- The repaired runs of `histWriter`, evaluated once (Lemmas/Decide; the first full-size `write`
    is nearly all of the work): at the end the last ACK has re-run the write, its segment is out and all
    four handlers have completed; six labels in a write IS parked at a label boundary (window full)
    with ACK 1 pending — the hypothesis of `C06_ack_wakes_writer`. -/
theorem Prog.histWriter_obs :
    (sview (TxS.run {} (TxS.init 1475) histWriter) = ((false, 100, [(2, 100)], 0), [2], [], [])
      ∧ (TxS.run {} (TxS.init 1475) histWriter).posts.map (fun c => (c.h, c.ec))
          = [(1, .ok), (2, .ok), (3, .ok), (4, .ok)])
    ∧ sview (TxS.run {} (TxS.init 1475) (histWriter.take 6)) = ((true, 100, [(1, 100)], 1), [], [1], []) :=
  and_of_decide (by decide +kernel)

example : sview (TxS.run {} (TxS.init 1475) histWriter) = ((false, 100, [(2, 100)], 0), [2], [], []) :=
  histWriter_obs.1.1
example : ((TxS.run {} (TxS.init 1475) histWriter).posts.map (fun c => (c.h, c.ec)))
    = [(1, .ok), (2, .ok), (3, .ok), (4, .ok)] := histWriter_obs.1.2

example : sview (TxS.run {} (TxS.init 1475) (histWriter.take 6))
    = ((true, 100, [(1, 100)], 1), [], [1], []) := histWriter_obs.2
example := C06_ack_wakes_writer 1475 (histWriter.take 6) 0 1 [] []
  (by rw [acks_of_sview histWriter_obs.2]; exact List.mem_singleton_self 1)

/-- **The retransmission loop stops only at a segment that does not fit** (no synchronous
    hand-backs, at least as many iterations as the list is long — what `.tcpResend` grants):
    from any reachable state, after the loop, the head of the list (if any) exceeds the
    window. -/
theorem C06_resend_loop_exit (mss : Nat) (ls : List TxLbl) (now : Int) (n : Nat) :
    let s := TxS.run {} (TxS.init mss) ls
    (∀ t, s.sock = some t → t.resend.length ≤ n) →
    ∃ t', (TxS.resendLoop {} now n [] s).sock = some t'
      ∧ ∀ p rest, t'.resend = p :: rest → t'.inFlight + p.payload.length > t'.cwnd := by
  intro s hn
  obtain ⟨t, hsv, _, _⟩ := SInv.reach mss ls
  obtain ⟨t', a, _, c⟩ := resendLoop_sv {} rfl rfl now n [] hsv
  exact ⟨t', a.est.sock, c rfl (hn t hsv.est.sock)⟩

/-- **Resend drains.** After an ACK has been processed without synchronous hand-backs
    (`ds = dw = []`), segments still wait for retransmission only if bytes are in flight
    (the head did not fit: `inFlight + size > cwnd`, and `size ≤ mss ≤ cwnd`), i.e. another ACK
    or hand-back is still to come. The exact exit condition is `C06_resend_loop_exit`; with
    synchronous hand-backs during the loop the statement is false (the loop is bounded by the
    list length at entry, a segment handed back during the loop stays for the next ACK) —
    that residue is `C06_no_orphan_resend`. -/
theorem C06_resend_drains (mss : Nat) (hm : 0 < mss) (ls : List TxLbl) (now : Int) (k : Nat)
    (hk : k ∈ (TxS.run {} (TxS.init mss) ls).acks) :
    ∃ t, (TxS.run {} (TxS.init mss) (ls ++ [.ack now k [] []])).sock = some t
      ∧ (t.resend ≠ [] → 0 < t.inFlight) := by
  obtain ⟨t, hsv, _, hmss⟩ := SInv.reach mss ls
  obtain ⟨t', a, _, _, _, e⟩ := step_ack {} rfl rfl rfl now k [] [] hsv hk
  refine ⟨t', ?_, e rfl rfl (by rw [hmss]; exact hm)⟩
  simp only [TxS.run, List.foldl_append, List.foldl_cons, List.foldl_nil]
  exact a.est.sock

/-- MSS 10; the window grown to 32 by three ACKs, three segments out (3, 4, 5), two of them
    handed back (window 10 again), then the ACK of the third: one retransmission fits, the
    other stays -/
def Prog.histDrain : List TxLbl :=
  [.synack 0 [], .write 0 (wr 2 20 0) [], .deliver 0, .ack 0 0 [] [], .deliver 1, .ack 0 1 [] [],
   .write 0 (wr 3 30 20) [], .deliver 2, .ack 0 2 [] [], .write 0 (wr 4 30 40) [],
   .dropped 4, .dropped 5, .deliver 3]

/-- non-vacuity of `C06_resend_drains`: ACK 3 is pending; after it one segment still waits for
    retransmission while the retransmitted one (10 bytes) is in flight -/
theorem Prog.histDrain_obs :
    sview (TxS.run {} (TxS.init 10) histDrain) = ((false, 10, [(3, 10)], 2), [], [3], [])
    ∧ sview (TxS.run {} (TxS.init 10) (histDrain ++ [.ack 0 3 [] []]))
        = ((false, 10, [(4, 10)], 1), [4], [], []) :=
  and_of_decide (by decide +kernel)

example : sview (TxS.run {} (TxS.init 10) histDrain) = ((false, 10, [(3, 10)], 2), [], [3], []) :=
  histDrain_obs.1
example : sview (TxS.run {} (TxS.init 10) (histDrain ++ [.ack 0 3 [] []]))
    = ((false, 10, [(4, 10)], 1), [4], [], []) := histDrain_obs.2
example := C06_resend_drains 10 (by decide) histDrain 0 3
  (by rw [acks_of_sview histDrain_obs.1]; exact List.mem_singleton_self 3)

/-- **A retransmission keeps its drop callback.** At every label boundary every segment in the
    network and every segment waiting for retransmission carries a drop callback bound to the
    socket's own (attached) forwarder, retransmitted ones included (`rearmDrop`) — so a second
    hand-back is reported like the first, and no segment is ever lost unreported. Segments are
    at most one MSS long. No side condition. -/
theorem C06_retransmission_keeps_callback (mss : Nat) (ls : List TxLbl) :
    let s := TxS.run {} (TxS.init mss) ls
    ∃ t f, s.sock = some t ∧ t.fwd = some f ∧ s.net.fwdTarget f = some sockA
      ∧ (∀ p, (p ∈ s.bag ∨ p ∈ t.resend) → p.hasDrop = true ∧ p.dropFwd = some f)
      ∧ (∀ p, (p ∈ s.bag ∨ p ∈ t.resend) → 0 < mss → p.payload.length ≤ mss)
      ∧ s.lost = [] := by
  obtain ⟨t, hsv, _, hmss⟩ := SInv.reach mss ls
  obtain ⟨f, hf1, hf2⟩ := hsv.est.fwdOk
  refine ⟨t, f, hsv.est.sock, hf1, hf2, ?_, ?_, hsv.lost⟩
  · intro p hp; rw [← hf1]; exact hsv.core.cb p hp
  · intro p hp; rw [← hmss]; exact hsv.core.segLen p hp

/-- two full segments; the first is handed back, retransmitted by the ACK of the second, and
    handed back again -/
def Prog.histRearm : List TxLbl :=
  [.synack 0 [], .write 0 (wr 2 1475 0) [], .write 0 (wr 3 1475 1475) [], .dropped 0,
   .deliver 1, .ack 0 1 [] [], .dropped 0]

/-- **As-is (F10, `rearmDrop := false`).** The retransmitted segment 0 carries no callback: its
    second loss is not reported. The network is empty, the retransmission list is empty, and
    1475 bytes stay in flight waiting for an ACK that cannot come. -/
theorem C06_asis_retransmission_unreported :
    sview (TxS.run { rearmDrop := false } (TxS.init 1475) histRearm) = ((false, 1475, [(0, 1475)], 0), [], [], [0]) := by
  decide +kernel

/-- with the repair the second hand-back is reported: the segment waits for retransmission,
    its bytes are released -/
example : sview (TxS.run {} (TxS.init 1475) histRearm) = ((false, 0, [], 1), [], [], []) := by
  decide +kernel

/-- **Reader not stranded.** At every label boundary of the receiver system: while a read or
    a wait-for-read is pending the incoming queue is empty — a read is never left pending
    while deliverable data, or an error / end-of-stream packet, is queued. (The handshake is
    over on this side: `connectH = none` throughout.) Arrivals are arbitrary: any sequence
    numbers, any order, duplicates; the only side condition is `RxS.okRun` (payload segments
    non-empty, error packets not `would_block`). -/
theorem C06_reader_not_stranded (mss : Nat) (ls : List RxLbl) (hl : RxS.okRun ls) :
    ∃ t, (RxS.run {} (RxS.init mss) ls).sock = some t ∧ t.connectH = none
      ∧ ((t.recvH.isSome = true ∨ t.waitRecvH.isSome = true) → t.inq = []) := by
  obtain ⟨t, h1, h2⟩ := (RInv.init mss).run {} rfl ls hl
  exact ⟨t, h1, h2.conn, h2.pend⟩

def Prog.seg (id : Nat) (b : UInt8) : Pkt := { id := id, ty := .payload, len := 1, ovh := 40, payload := [b] }

/-- a read is pending; segment 1 overtakes segment 0 (a retransmission); segment 0 arrives and
    releases both at once -/
def Prog.histReader : List RxLbl := [.read { h := 5, caps := [100] }, .arrive 0 (seg 1 7), .arrive 1 (seg 0 6)]

example : RxS.okRun histReader := by decide +kernel

def Prog.rview (s : RxS) : Option (Bool × Nat) × List (Nat × Ec × String) :=
  (s.sock.map (fun t => (t.recvH.isSome, t.inq.length)), s.posts.map (fun c => (c.h, c.ec, c.extra)))

/-- **As-is (F8, `wakeReaderFixed := false`).** `maybe_wakeup_reader` looks for a queue length
    of exactly 1; the reorder buffer released two segments together: the read stays pending
    with two segments queued. -/
theorem C06_asis_reader_stranded :
    rview (RxS.run { wakeReaderFixed := false } (RxS.init 1475) histReader) = (some (true, 2), []) := by
  decide +kernel

/-- with the repair the read completes with both bytes -/
example : rview (RxS.run {} (RxS.init 1475) histReader) = (some (false, 0), [(5, .ok, "n=2 data=0607")]) := by
  decide +kernel

theorem Prog.peerOf_eq (op : AcceptOp) : peerOf op = op.peer := by cases op <;> rfl

theorem Prog.acceptDone_eq (op : AcceptOp) (vis : Ep) :
    acceptDone op vis = .post { h := op.h, ec := .ok, extra := if op.withEp then "ep=" ++ vis.toString else "" } := by
  cases op <;> rfl

/-- the hand-over of `check_accept_queue` (`accHandOver`, Lemmas/TcpEq) in the vocabulary of this
    file: exactly the SYN-ACK is forwarded, the accept completion is posted, only the accept's socket
    is touched -/
theorem Prog.accHandOver_spec (n1 : NetSt) (now : Int) (bound : Ep) (op : AcceptOp) (c : Nat) (p0 : TcpSock) (ch : Chan)
    (hpeer : n1.tcp? op.peer = some p0) (hpc : p0.chan = none) (hch : n1.chan? c = some ch) :
    forwards (accHandOver n1 now bound op c).2 = [synAckFor c ch bound]
    ∧ acceptDone op ch.vis0 ∈ (accHandOver n1 now bound op c).2
    ∧ ∀ o, o ≠ op.peer → (accHandOver n1 now bound op c).1.tcp? o = n1.tcp? o := by
  obtain ⟨d1, ⟨ch2, d2, d3⟩, d4⟩ := tcpAttach_spec n1 now op.peer bound c p0 ch hpeer hpc hch
  unfold accHandOver
  simp only [d2, hch, Option.map_some, Option.getD_some, acceptDone_eq]
  exact ⟨by rw [forwards_append, d1]; simp [forwards, synAckFor, d3], by simp, d4⟩

/-- **Connect completes: the mechanism** (`check_accept_queue` on an open acceptor with an accept
    outstanding and a SYN queued; the socket the accept hands the connection to exists and is not
    attached to a channel): exactly ONE packet is forwarded, the SYN-ACK for `c` along `hops0` (the
    route back to the connector), the accept completion is posted with `ok`, and the accept and
    the SYN are taken out of the acceptor. -/
theorem C06_connect_completes_check_queue (n : NetSt) (now : Int) (a : String) (s : TcpSock) (ac : AccState)
    (op : AcceptOp) (c : Nat) (rest : List Nat) (ch : Chan) (p0 : TcpSock)
    (hs : n.tcp? a = some s) (hopen : s.isOpen = true) (hacc : s.acc = some ac)
    (hop : ac.acceptOp = some op) (hconns : ac.conns = c :: rest) (hch : n.chan? c = some ch)
    (hne : peerOf op ≠ a) (hpeer : n.tcp? (peerOf op) = some p0) (hpc : p0.chan = none) :
    forwards (n.accCheckQueue now a).2 = [synAckFor c ch s.bound]
    ∧ acceptDone op ch.vis0 ∈ (n.accCheckQueue now a).2
    ∧ ∃ s', (n.accCheckQueue now a).1.tcp? a = some s'
        ∧ s'.acc = some { ac with conns := rest, acceptOp := none } := by
  rw [peerOf_eq] at hne hpeer
  rw [accCheckQueue_open hs hacc now hopen, accTryAccept_pop hs hacc now hop hconns]
  have hp : (n.setTcp a { s with acc := some { ac with conns := rest, acceptOp := none } }).tcp? op.peer = some p0 := by
    rw [tcp?_setTcp_other _ _ _ _ hne]; exact hpeer
  obtain ⟨h1, h2, h3⟩ := accHandOver_spec _ now s.bound op c p0 ch hp hpc (by rw [chan?_setTcp]; exact hch)
  exact ⟨h1, h2, _, (h3 a (Ne.symm hne)).trans (tcp?_setTcp_same _ _ _), rfl⟩

/-- **Connect completes, acceptor side (SYN arrives while an accept is outstanding).** An open
    acceptor with `acceptOp = some op` and nothing queued receives the SYN of channel `c`
    (the socket the accept hands the connection to exists and is not attached to a channel —
    `async_accept` closed it): exactly ONE packet is forwarded, the SYN-ACK for `c` along
    `hops0` (the route back to the connector), and the accept completion is posted with `ok`. -/
theorem C06_connect_completes_syn (n : NetSt) (now : Int) (a : String) (s : TcpSock) (ac : AccState)
    (op : AcceptOp) (c : Nat) (ch : Chan) (p0 : TcpSock) (p : Pkt)
    (hs : n.tcp? a = some s) (hopen : s.isOpen = true) (hacc : s.acc = some ac)
    (hop : ac.acceptOp = some op) (hconns : ac.conns = []) (hch : n.chan? c = some ch)
    (hne : peerOf op ≠ a) (hpeer : n.tcp? (peerOf op) = some p0) (hpc : p0.chan = none)
    (hty : p.ty = .syn) (hpch : p.chan = some c) :
    forwards (n.accIncoming now a p).2 = [synAckFor c ch s.bound]
    ∧ acceptDone op ch.vis0 ∈ (n.accIncoming now a p).2 := by
  rw [accIncoming_syn n now a p c s ac hs hacc hty hpch]
  have := C06_connect_completes_check_queue (n.setTcp a { s with acc := some { ac with conns := ac.conns ++ [c] } }) now a
    { s with acc := some { ac with conns := ac.conns ++ [c] } } { ac with conns := ac.conns ++ [c] } op c [] ch p0
    (tcp?_setTcp_same _ _ _) hopen rfl hop (by simp [hconns]) (by rw [chan?_setTcp]; exact hch) hne
    (by rw [tcp?_setTcp_other _ _ _ _ hne]; exact hpeer) hpc
  exact ⟨this.1, this.2.1⟩

/-- **Connect completes, acceptor side (SYN queued when the accept is issued).** -/
theorem C06_connect_completes_queued (n : NetSt) (now : Int) (a : String) (s : TcpSock) (ac : AccState)
    (h : Nat) (peer : String) (withEp : Bool) (c : Nat) (rest : List Nat) (ch : Chan) (p0 : TcpSock)
    (hs : n.tcp? a = some s) (hopen : s.isOpen = true) (hacc : s.acc = some ac)
    (hop : ac.acceptOp = none) (hconns : ac.conns = c :: rest) (hch : n.chan? c = some ch)
    (hne : peer ≠ a) (hpeer : n.tcp? peer = some p0) (hpo : p0.isOpen = false) (hpc : p0.chan = none) :
    forwards (n.accAsyncAccept now a (.into h peer withEp)).2 = [synAckFor c ch s.bound]
    ∧ acceptDone (.into h peer withEp) ch.vis0 ∈ (n.accAsyncAccept now a (.into h peer withEp)).2 := by
  unfold NetSt.accAsyncAccept
  simp only [hpeer, hpo, Bool.false_eq_true, if_false, hs]
  unfold TcpSock.abortAccept
  simp only [hacc, hop, List.nil_append]
  have := C06_connect_completes_check_queue (n.setTcp a { s with acc := some { ac with acceptOp := some (.into h peer withEp) } }) now a
    { s with acc := some { ac with acceptOp := some (.into h peer withEp) } } { ac with acceptOp := some (.into h peer withEp) }
    (.into h peer withEp) c rest ch p0
    (tcp?_setTcp_same _ _ _) hopen rfl rfl hconns (by rw [chan?_setTcp]; exact hch) hne
    (by show (NetSt.setTcp _ _ _).tcp? peer = _; rw [tcp?_setTcp_other _ _ _ _ hne]; exact hpeer) hpc
  exact ⟨this.1, this.2.1⟩

/-- **Connect completes, connector side.** A socket with `connectH = some h` that receives the
    SYN-ACK posts `h` with `ok`, clears the handler and runs `maybe_wakeup_writer`. -/
theorem C06_connect_completes_synack (tp : TParams) (n : NetSt) (now : Int) (name : String) (t : TcpSock)
    (h : Nat) (p : Pkt) (hs : n.tcp? name = some t) (hc : t.connectH = some h) (hty : p.ty = .synack) :
    n.tcpIncoming tp now name p
      = (n.setTcp name { t with connectH := none }, [NEff.post { h := h, ec := .ok }, .tcpWake name]) :=
  (tcpIncoming_synack hs tp now p hty).trans (by rw [hc])

/-- non-vacuity of the acceptor-side theorems on the handshake's own states: the state after
    listen + accept + connect (SYN on its way), and the state after listen + connect + SYN
    arrival without an accept (SYN queued) -/
def Prog.preSyn : NetSt :=
  let n : NetSt := { cfg := cfg0 1475, tcps := [("a0", { node := "n1", acc := some {} }), (sockB, { node := "n1" }),
                                                (sockA, { node := "n0" })] }
  let n := (n.tcpOpen 0 "a0" true).1
  let n := (n.tcpBind "a0" { addr := "0.0.0.0", port := 8000 }).1
  let n := (n.accListen "a0" (-1)).1
  let n := (n.accAsyncAccept 0 "a0" (.into 0 sockB false)).1
  (n.tcpConnect 0 sockA epB 1).1

def Prog.synPkt : Pkt := { id := 0, ty := .syn, len := 0, ovh := 28, src := "10.0.0.1:2000", chan := some 0 }

example := C06_connect_completes_syn preSyn 0 "a0"
  { node := "n1", isOpen := true, bound := epB, fwd := some 0, acc := some { queueLimit := 20, acceptOp := some (.into 0 sockB false) } }
  { queueLimit := 20, acceptOp := some (.into 0 sockB false) } (.into 0 sockB false) 0
  { chan0 with hops1 := ["qo0", "net", "qi1", "@0"] } { node := "n1" } synPkt
  (by rfl) rfl rfl rfl rfl (by rfl) (by decide) (by rfl) rfl rfl rfl

def Prog.preAccept : NetSt :=
  let n : NetSt := { cfg := cfg0 1475, tcps := [("a0", { node := "n1", acc := some {} }), (sockB, { node := "n1" }),
                                                (sockA, { node := "n0" })] }
  let n := (n.tcpOpen 0 "a0" true).1
  let n := (n.tcpBind "a0" { addr := "0.0.0.0", port := 8000 }).1
  let n := (n.accListen "a0" (-1)).1
  let n := (n.tcpConnect 0 sockA epB 1).1
  (n.accIncoming 0 "a0" synPkt).1

example := C06_connect_completes_queued preAccept 0 "a0"
  { node := "n1", isOpen := true, bound := epB, fwd := some 0, acc := some { queueLimit := 20, conns := [0] } }
  { queueLimit := 20, conns := [0] } 0 sockB false 0 []
  { chan0 with hops1 := ["qo0", "net", "qi1", "@0"] } { node := "n1" }
  (by rfl) rfl rfl rfl rfl (by rfl) (by decide) (by rfl) rfl rfl

/-- in the open system `TxS`: after the `synack` label the connect handler of the initial state has
    been completed with `ok`, and the socket is established -/
example : ((TxS.step {} (TxS.init 1475) (.synack 0 [])).posts, (TxS.step {} (TxS.init 1475) (.synack 0 [])).sock.map (·.connectH))
    = ([{ h := 1, ec := .ok }], some none) := by decide +kernel

/-- **A tail-drop of a packet that would fit an empty queue means the queue is not empty**
    (any well-timed history of a queue, C10's account invariant): if `p` is tail-dropped —
    `cap < held + size` — although `size ≤ cap`, then `held > 0`, so a packet is queued. Under
    the property's side conditions (capacity ≥ one full segment incl. overhead; one direction
    at a time; no foreign traffic) that packet is another segment of the same connection and
    direction: whenever a segment is handed back, another one is still on its way, whose ACK
    (or hand-back) will run the sender again. -/
theorem C06_tail_drop_queue_nonempty (c : QCfg) (hc : c.WF) (ls : List QLbl) (h : QS.okRun c {} ls) (p : Pkt)
    (hd : TailDrop c (QS.run c {} ls).q.held p) (hfit : p.size ≤ c.cap) :
    (QS.run c {} ls).q.items ≠ [] := by
  have ha := hop_of_run c hc ls h
  have hne := hopDrops_nonempty c.cap _ p ((hopDrops_iff c _ p ha).mpr hd) (.inr hfit)
  exact fun he => hne (by rw [Q.pkts, he]; rfl)

end SimVerif

/-! ## the composed connection: quiescence

  Open system `TS` (SimVerif/StreamSys.lean): writer `c.a`, reader `c.b`, the network a bag of
  in-flight packets with `deliver i` / `drop i`, the writer's loops one iteration per `run`.
  `TS.Quiescent s` = the bag is empty and no loop is in progress: nothing can happen without a
  new API call. All theorems are about EVERY history `ls` from ANY established start state
  (`TcpStartQ`: handshake complete on both sides, both sockets attached to an existing channel,
  window account zero, `0 < mss ≤ cwnd`) that satisfies the drop side condition `TS.okRun`
  (SimVerif/StreamQuiesce.lean: a drop that takes effect leaves another packet of the
  connection in the network, or happens inside a writer loop that still sends), while both
  sockets stay open (`closed = false`: no `close()` of the writer took effect; the system has no
  label closing the reader). Hypotheses on the repair switches are stated per theorem; the
  default `TParams` (`{}`) satisfies them, and for each switch a witness shows what goes wrong
  without it. (`rearmDrop` plays no role here: the open system does not model the silent loss
  of a packet without drop callback — `drop i` on such a packet is a no-op — see
  `C06_retransmission_keeps_callback` / `C06_asis_retransmission_unreported` for that
  repair.) -/

namespace SimVerif

/-- **No orphan retransmission.** While segments wait for retransmission, a packet of the
    connection is in the network (every packet in the bag is a segment of the writer or an ACK
    on its way to the writer) or a writer loop that will still send is in progress — so the
    simulation is never quiescent while dropped segments wait unsent. Needs the in-flight
    release on drop (`C06_asis_orphan_resend`) and the side condition (`C06_dropOk_necessary`). -/
theorem C06_no_orphan_resend (c : TcpCfg) (n : NetSt) (h : TcpStartQ c n) (hD : c.tp.releaseOnDrop = true)
    (ls : List TLbl) (hok : TS.okRun c (TS.init c n) ls) :
    let s := TS.run c (TS.init c n) ls
    s.closed = false →
    ∃ sa, s.net.tcp? c.a = some sa
      ∧ (sa.resend ≠ [] → s.bag ≠ [] ∨ s.ctl.willSend = true)
      ∧ (s.Quiescent → sa.resend = []) := by
  intro s hc
  obtain ⟨sa, sb, hq, hJ, _⟩ := QLive.reach hD h ls hok hc
  exact ⟨sa, hq.hsa, hJ, fun hqs => (hq.quiescent hJ hqs).1⟩

/-- **The writer is not blocked at quiescence.** Outside the ACK path a parked write
    (`m_send_handler` set; the handshake is complete throughout) means the window is full or
    segments wait for retransmission; at quiescence nothing is in flight (`inFlight = 0`) and no
    write is parked. Needs the writer wake-up repair (`C06_asis_writer_parked_at_quiescence`). -/
theorem C06_writer_not_blocked_at_quiescence (c : TcpCfg) (n : NetSt) (h : TcpStartQ c n)
    (hD : c.tp.releaseOnDrop = true) (hF : c.tp.wakeWriterFixed = true)
    (ls : List TLbl) (hok : TS.okRun c (TS.init c n) ls) :
    let s := TS.run c (TS.init c n) ls
    s.closed = false →
    ∃ sa, s.net.tcp? c.a = some sa ∧ sa.connectH = none
      ∧ (s.ctl.inAck = false → sa.sendH.isSome = true → sa.inFlight + sa.mss > sa.cwnd ∨ sa.resend ≠ [])
      ∧ (s.Quiescent → sa.sendH = none ∧ sa.inFlight = 0) := by
  intro s hc
  obtain ⟨sa, sb, hq, hJ, hW⟩ := QLive.reach hD h ls hok hc
  exact ⟨sa, hq.hsa, hq.pure.connA, hW hF, fun hqs =>
    have ⟨_, h0, hs⟩ := hq.quiescent hJ hqs
    ⟨hs (hW hF), h0⟩⟩

/-- **The reader is not stranded.** At every label boundary — in particular at quiescence — a
    pending read or wait-for-read means the reader's incoming queue is EMPTY: no deliverable
    byte is queued. Needs the reader wake-up repair (`C06_asis_reader_stranded_at_quiescence`). -/
theorem C06_reader_not_stranded_at_quiescence (c : TcpCfg) (n : NetSt) (h : TcpStartQ c n)
    (hD : c.tp.releaseOnDrop = true) (hR : c.tp.wakeReaderFixed = true)
    (ls : List TLbl) (hok : TS.okRun c (TS.init c n) ls) :
    let s := TS.run c (TS.init c n) ls
    s.closed = false →
    ∃ sb, s.net.tcp? c.b = some sb
      ∧ ((sb.recvH.isSome = true ∨ sb.waitRecvH.isSome = true) → sb.inq = []) := by
  intro s hc
  obtain ⟨sa, sb, hq, _, _⟩ := QLive.reach hD h ls hok hc
  exact ⟨sb, hq.hsb, (hq.pure.rd hR).pend⟩

/-- **At quiescence everything written is at the reader.** Nothing waits for retransmission,
    the reader has received every segment in order (`nextIn = nextOut` = the number of segments
    created), what completed writes reported is what was written, and every byte written is
    delivered or queued for the next read: `written = delivered ++ queued`. If a read is
    pending (reader wake-up repair in place) nothing is queued: `delivered = written`. -/
theorem C06_quiescent_all_delivered (c : TcpCfg) (n : NetSt) (h : TcpStartQ c n)
    (hD : c.tp.releaseOnDrop = true) (ls : List TLbl) (hok : TS.okRun c (TS.init c n) ls) :
    let s := TS.run c (TS.init c n) ls
    s.closed = false → s.Quiescent →
    ∃ sa sb, s.net.tcp? c.a = some sa ∧ s.net.tcp? c.b = some sb
      ∧ sa.resend = [] ∧ sb.nextIn = sa.nextOut ∧ sa.nextOut = s.segs.length
      ∧ s.accepted = s.written
      ∧ s.written = s.delivered ++ bytesOf sb.inq
      ∧ (c.tp.wakeReaderFixed = true → (sb.recvH.isSome = true ∨ sb.waitRecvH.isSome = true) →
          s.delivered = s.written) := by
  intro s hc hqs
  obtain ⟨sa, sb, v⟩ := QLive.view (TInv.reach h.toTcpStart ls) hc (QLive.reach hD h ls hok hc)
  exact ⟨sa, sb, v.hq.hsa, v.hq.hsb, v.all_delivered hqs⟩

/-- **Unbounded queues**: a history without any drop satisfies the side condition, so the
    quiescence clauses hold for any traffic pattern. -/
theorem C06_quiescent_all_delivered_unbounded (c : TcpCfg) (n : NetSt) (h : TcpStartQ c n)
    (hD : c.tp.releaseOnDrop = true) (ls : List TLbl) (hnd : ∀ l ∈ ls, l.isDrop = false) :
    let s := TS.run c (TS.init c n) ls
    s.closed = false → s.Quiescent →
    ∃ sb, s.net.tcp? c.b = some sb ∧ s.accepted = s.written ∧ s.written = s.delivered ++ bytesOf sb.inq := by
  intro s hc hqs
  obtain ⟨_, sb, _, h2, _, _, _, h6, h7, _⟩ :=
    C06_quiescent_all_delivered c n h hD ls (TS.okRun_of_noDrop c ls hnd _) hc hqs
  exact ⟨sb, h2, h6, h7⟩

/-- the ctl-free form of the side condition suffices: every drop that takes effect leaves at
    least one other packet of the connection in the network (`TS.okRunStrong`) -/
theorem C06_no_orphan_resend_strong (c : TcpCfg) (n : NetSt) (h : TcpStartQ c n) (hD : c.tp.releaseOnDrop = true)
    (ls : List TLbl) (hok : TS.okRunStrong c (TS.init c n) ls) :
    let s := TS.run c (TS.init c n) ls
    s.closed = false → s.Quiescent → ∃ sa, s.net.tcp? c.a = some sa ∧ sa.resend = [] := by
  intro s hc hqs
  obtain ⟨sa, h1, _, h3⟩ := C06_no_orphan_resend c n h hD ls (TS.okRun_of_okRunStrong c ls _ hok) hc
  exact ⟨sa, h1, h3 hqs⟩

namespace QEx
open TcpEx

/-- (side condition holds, quiescent, both open), ids waiting for retransmission + write parked,
    (read or wait pending, packets queued), delivered, written -/
def qview (c : TcpCfg) (ls : List TLbl) :
    (Bool × Bool × Bool) × Option (List Nat × Bool) × Option (Bool × Nat) × List UInt8 × List UInt8 :=
  let s := TS.run c (TS.init c n0) ls
  ((decide (TS.okRun c (TS.init c n0) ls), decide s.Quiescent, !s.closed),
   (s.net.tcp? c.a).map (fun t => (t.resend.map (·.id), t.sendH.isSome)),
   (s.net.tcp? c.b).map (fun t => (t.recvH.isSome || t.waitRecvH.isSome, t.inq.length)),
   s.delivered, s.written)

theorem startQ : TcpStartQ c n0 :=
  (established_startQ _ _ _ _ _ _ (by decide +kernel) (by decide +kernel) (by decide +kernel)).1

/-- the history of SimVerif/TcpEx.lean up to the close: segment 0 handed back by the first hop
    INSIDE the segmentation loop (the bag is empty after the drop, but the loop still sends:
    `willSend`), segment 1 overtakes, its ACK retransmits segment 0, a pending 2-byte read is
    completed by the arrival, the rest is read non-blocking -/
def histOk : List TLbl := [
  .read { h := 7, caps := [1, 1] },
  .write 0 { h := 1, bufs := [[1, 2, 3, 4], [5, 6]], stream := 0, off := 0 },
  .drop 0 none, .run 0, .run 0,
  .deliver 0 0 none, .deliver 0 0 none, .run 0, .run 0,
  .deliver 0 0 none, .deliver 0 0 none, .run 0,
  .readNb [10]]

/-- two segments out, the loop over; segment 0 is handed back while segment 1 is still in the
    network (the strong form of the side condition); the ACK of segment 1 retransmits it -/
def histOk2 : List TLbl := [
  .write 0 { h := 1, bufs := [[1, 2, 3, 4]], stream := 0, off := 0 }, .run 0, .run 0,
  .drop 0 none,
  .deliver 0 0 none, .deliver 0 0 none, .run 0, .run 0,
  .deliver 0 0 none, .deliver 0 0 none, .run 0,
  .read { h := 7, caps := [10] }]

/-- the first component of a view, read back as the hypotheses of the quiescence theorems -/
theorem of_qview {c ls r} (h : qview c ls = ((true, true, true), r)) :
    TS.okRun c (TS.init c n0) ls ∧ (TS.run c (TS.init c n0) ls).closed = false
      ∧ (TS.run c (TS.init c n0) ls).Quiescent :=
  ⟨of_decide_eq_true (congrArg (·.1.1) h), Eq.mp (Bool.not_eq_true' _) (congrArg (·.1.2.2) h),
    of_decide_eq_true (congrArg (·.1.2.1) h)⟩

/-- non-vacuity: histories WITH drops that satisfy the side condition and end quiescent, both
    sockets open, nothing waiting for retransmission, everything written delivered -/
theorem qview_histOk :
    qview c histOk = ((true, true, true), some ([], false), some (false, 0), [1, 2, 3, 4], [1, 2, 3, 4]) := by
  decide +kernel
/-- `histOk2`, evaluated once: at its end, and in the middle where segment 0 DOES wait for
    retransmission while segment 1 is in the network (the hypothesis of `C06_no_orphan_resend` is not
    vacuous) -/
theorem qview_histOk2 :
    qview c histOk2 = ((true, true, true), some ([], false), some (false, 0), [1, 2, 3, 4], [1, 2, 3, 4])
    ∧ qview c (histOk2.take 4) = ((true, false, true), some ([0], false), some (false, 0), [], [1, 2, 3, 4]) :=
  and_of_decide (by decide +kernel)

example : qview c histOk = ((true, true, true), some ([], false), some (false, 0), [1, 2, 3, 4], [1, 2, 3, 4]) :=
  qview_histOk
example : qview c histOk2 = ((true, true, true), some ([], false), some (false, 0), [1, 2, 3, 4], [1, 2, 3, 4]) :=
  qview_histOk2.1
example :=
  have ⟨hok, hc, hq⟩ := of_qview qview_histOk
  C06_quiescent_all_delivered c n0 startQ rfl histOk hok hc hq
example :=
  have ⟨hok, hc, _⟩ := of_qview qview_histOk2.1
  C06_no_orphan_resend c n0 startQ rfl histOk2 hok hc
example : qview c (histOk2.take 4) = ((true, false, true), some ([0], false), some (false, 0), [], [1, 2, 3, 4]) :=
  qview_histOk2.2

/-- one segment out, handed back with nothing else of the connection in the network -/
def histOrphan : List TLbl :=
  [.write 0 { h := 1, bufs := [[1, 2, 3]], stream := 0, off := 0 }, .run 0, .drop 0 none]

end QEx

/-- **The side condition is necessary**: all repairs in place, the only packet in flight is
    dropped (the history violates `TS.okRun`): the system is quiescent with segment 0 waiting
    for retransmission forever, the 3 bytes a completed write reported never reach the reader.
    (The library has no retransmission timer: only an ACK runs the retransmission loop.) -/
theorem C06_dropOk_necessary :
    QEx.qview TcpEx.c QEx.histOrphan = ((false, true, true), some ([0], false), some (false, 0), [], [1, 2, 3]) := by
  decide +kernel

namespace QEx
open TcpEx

def cNoRelease : TcpCfg := { c with tp := { releaseOnDrop := false } }
def cNoWakeW : TcpCfg := { c with tp := { wakeWriterFixed := false } }
def cNoWakeR : TcpCfg := { c with tp := { wakeReaderFixed := false } }

/-- two full segments out; segment 0 handed back while segment 1 is in the network; segment 1
    delivered and ACKed -/
def histLeak : List TLbl := [
  .write 0 { h := 1, bufs := [[1, 2, 3, 4, 5, 6]], stream := 0, off := 0 }, .run 0, .run 0,
  .drop 0 none, .deliver 0 0 none, .deliver 0 0 none, .run 0, .run 0]

/-- segments [1,2,3] and [4] out; segment 0 handed back (window 3), a second write parks;
    segment 1 ACKed (retransmits segment 0), segment 0 ACKed -/
def histWriter : List TLbl := [
  .write 0 { h := 1, bufs := [[1, 2, 3], [4]], stream := 0, off := 0 }, .run 0, .run 0,
  .drop 0 none, .write 0 { h := 2, bufs := [[9]], stream := 0, off := 4 },
  .deliver 0 0 none, .deliver 0 0 none, .run 0, .run 0, .deliver 0 0 none, .deliver 0 0 none, .run 0]

/-- a read is pending; segment 1 overtakes segment 0; both ACKs arrive -/
def histReader : List TLbl := [
  .read { h := 7, caps := [10] },
  .write 0 { h := 1, bufs := [[1, 2, 3, 4]], stream := 0, off := 0 }, .run 0, .run 0,
  .deliver 0 1 none, .deliver 0 0 none, .deliver 0 0 none, .run 0, .deliver 0 0 none, .run 0]

end QEx

/-- **As-is (F9, `releaseOnDrop := false`)**: the history satisfies the side condition; the
    3 bytes of the dropped segment stay counted as in flight, so after the last ACK the
    retransmission does not fit the halved window: quiescent with segment 0 unsent. -/
theorem C06_asis_orphan_resend :
    QEx.qview QEx.cNoRelease QEx.histLeak
      = ((true, true, true), some ([0], false), some (false, 0), [], [1, 2, 3, 4, 5, 6]) := by
  decide +kernel

/-- the same history with the repair: the ACK retransmits segment 0 (not quiescent) -/
example : QEx.qview TcpEx.c QEx.histLeak
    = ((true, false, true), some ([], false), some (false, 0), [], [1, 2, 3, 4, 5, 6]) := by
  decide +kernel

/-- **As-is (F8a, `wakeWriterFixed := false`)**: every ACK arrives while the window is still
    full before it; quiescent with the write `h2` parked although nothing is in flight. -/
theorem C06_asis_writer_parked_at_quiescence :
    QEx.qview QEx.cNoWakeW QEx.histWriter
      = ((true, true, true), some ([], true), some (false, 2), [], [1, 2, 3, 4]) := by
  decide +kernel

/-- with the repair the last ACK re-runs the parked write (its segment is out: not quiescent) -/
example : QEx.qview TcpEx.c QEx.histWriter
    = ((true, false, true), some ([], false), some (false, 2), [], [1, 2, 3, 4, 9]) := by
  decide +kernel

/-- **As-is (F8, `wakeReaderFixed := false`)**: the reorder buffer releases two segments at
    once; quiescent with the read pending and both segments queued. -/
theorem C06_asis_reader_stranded_at_quiescence :
    QEx.qview QEx.cNoWakeR QEx.histReader
      = ((true, true, true), some ([], false), some (true, 2), [], [1, 2, 3, 4]) := by
  decide +kernel

/-- with the repair the read completes with all four bytes -/
example : QEx.qview TcpEx.c QEx.histReader
    = ((true, true, true), some ([], false), some (false, 0), [1, 2, 3, 4], [1, 2, 3, 4]) := by
  decide +kernel

/-
  WHAT REMAINS UNPROVED for the full statement of C06.

  1. Liveness proper ("eventually delivered", under fair timing) — not attempted (DESIGN §5).
     What is proved instead is its safety core: a history that ends quiescent has everything
     written at the reader (`C06_quiescent_all_delivered`), and quiescence with a pending read /
     parked write / waiting retransmission is impossible.

  2. The drop side condition `TS.okRun` is not an assumption about the network when the
     forward route is a chain of tail-drop queues carrying only this connection's forward
     packets: the `C06_queues_*` theorems (system `QN` of SimVerif/StreamNet.lean) DERIVE it
     from the configuration (each queue unlimited or of capacity ≥ mss + 40; drop re-arming)
     and restate the four quiescence theorems without it. What they still idealise: the queues are
     timing-free hops (`hopDeq` at the adversary's discretion — a superset of every bandwidth/latency;
     tied to `Q.incoming` / `Q.sentPop` by `C06_hop_is_queue`), they carry NO foreign traffic (next note), and the
     reverse path is a drop-free bag (ACKs are never dropped by a queue:
     `C10_control_never_dropped`).

     NOTE (checked on the real library and on the Lean world model, scenario
     corpus/_defects/c06_sole_segment_dropped.scn): the side condition is really about the
     CONNECTION's packets, not about queue capacities alone. Two connections from the same node
     sharing one finite outgoing queue (capacity 1600 ≥ one full segment), each writing ONE
     1475-byte segment 28 µs apart: the second connection's only segment is tail-dropped by the
     queue holding the first connection's segment; both writes report 1475 bytes accepted, the
     second reader never gets them, `run()` returns — the library has no retransmission timer.
     That history violates `TS.okRun` (nothing else of the second connection is in the network),
     exactly like `C06_dropOk_necessary`; the property's wording excludes it only if "payload
     one direction at a time on the connection" is read as "no other traffic in the queues".

  3. Both sockets open: after the writer's `close()` the model discards what waits for
     retransmission and ignores later hand-backs (the channel is gone), so bytes accepted
     before the close can be lost — the theorems are stated for `closed = false` only.
-/

end SimVerif

/-! ## the composed connection over tail-drop queues: the drop side condition discharged

  Refined open system `QN` (SimVerif/StreamNet.lean): the sockets, writer loops and ghost logs
  of `TS`, but the forward path writer → reader is a CHAIN OF TAIL-DROP QUEUES (`QNCfg.caps`: one
  byte capacity per hop, 0 = unlimited) carrying only this connection's forward packets; each
  hop is the timing-free abstraction of `sim::queue` (`hopDrops` = the tail-drop test of
  `Q.incoming` on the byte account, FIFO; tied to the mechanism functions by
  `C06_hop_is_queue`); the adversary only chooses WHEN a hop forwards its head (`hopDeq k`).
  The reverse path carries only ACKs (payload one direction at a time), which no queue ever
  drops (`C10_control_never_dropped`): it stays an adversarial bag without drops (`ackDeliver`).
  A packet tail-dropped by the first hop is handed back synchronously inside the send; one
  dropped by a later hop is handed back when it gets there; a droppable packet WITHOUT drop
  callback is silently lost, as in the queue.

  The four quiescence theorems hold for `QN` with NO assumption about the network — only about the
  configuration:
    * `TcpStartQ c n`      — established start state (as before);
    * `nc.CapOk (mssOf c n)` — at least one queue; each unlimited or of capacity ≥ one full
                              segment = the writer's `mss` + 40 bytes TCP overhead;
    * the repaired parameter values: `releaseOnDrop`, `rearmDrop` (a retransmitted segment
      keeps its drop callback; without it a queue loses it silently —
      `C06_queues_rearm_necessary`), and per theorem `wakeWriterFixed` / `wakeReaderFixed`;
    * both sockets open (`closed = false`). -/

namespace SimVerif

/-- **A hop is a queue without time.** On every state of a well-timed history of a
    `sim::queue` (C10's byte account holds there; it is kept by all four mechanism functions:
    `hop_incoming`, `hop_sentPop`, `hop_beginSend_acct`, `hop_sentFinish_acct`, so the same is
    true of the re-entrant states inside `next_packet_sent`): `incoming_packet` tail-drops
    exactly when `hopDrops` says so on the list of packets held — the queue is then untouched
    and the drop callback runs iff the packet has one — and otherwise appends the packet;
    `next_packet_sent` pops the head of that list; the timer callbacks do not touch it. -/
theorem C06_hop_is_queue (c : QCfg) (hc : c.WF) (ls : List QLbl) (h : QS.okRun c {} ls) (now : Int) (p : Pkt) :
    let q := (QS.run c {} ls).q
    (hopDrops c.cap q.pkts p = true → q.incoming c now p = (q, if p.hasDrop then [.dropCb p] else []))
    ∧ (hopDrops c.cap q.pkts p = false →
        (q.incoming c now p).1.pkts = q.pkts ++ [p] ∧ ∀ x, QEff.dropCb x ∉ (q.incoming c now p).2)
    ∧ (∀ p' rest, q.pkts = p' :: rest → q.sentPop.2 = some p' ∧ q.sentPop.1.pkts = rest)
    ∧ (q.beginSend c now).1.pkts = q.pkts ∧ (q.sentFinish c now).1.pkts = q.pkts := by
  intro q
  have ha : q.Acct := hop_of_run c hc ls h
  obtain ⟨h1, h2⟩ := hop_incoming c now q p ha
  refine ⟨h1, fun hd => ⟨(h2 hd).1, (h2 hd).2.2⟩, ?_, hop_beginSend c now q, hop_sentFinish c now q⟩
  intro p' rest hq
  obtain ⟨a, b, _⟩ := hop_sentPop q p' rest ha hq
  exact ⟨a, b⟩

/-- **The key fact.** A hop that is unlimited never drops; a hop able to hold the packet
    tail-drops it only when it holds another packet. -/
theorem C06_hop_drop_nonempty (cap : Nat) (held : List Pkt) (p : Pkt) (hd : hopDrops cap held p = true)
    (hcap : cap = 0 ∨ p.size ≤ cap) : held ≠ [] :=
  hopDrops_nonempty cap held p hd hcap

/-- **Every droppable packet of the connection is at most one full segment and carries a drop
    callback** (every history of `TS`, drop re-arming in place): what the capacity hypothesis
    has to cover is `mss + 40`. -/
theorem C06_segment_size (c : TcpCfg) (n : NetSt) (h : TcpStartQ c n) (hR : c.tp.rearmDrop = true)
    (ls : List TLbl) (p : Pkt) (hp : p ∈ (TS.run c (TS.init c n) ls).bag) (hk : p.okToDrop = true) :
    p.hasDrop = true ∧ p.size ≤ mssOf c n + 40 :=
  ((QNGood.init h).run hR ls).bound p hp hk

/-- **Refinement: the network side condition is a theorem.** Every history of the system over
    tail-drop queues — any interleaving of API calls, queue departures and ACK deliveries —
    projects to a history `ls` of the open system with the adversarial bag that satisfies the
    drop side condition `TS.okRun` and ends in the same state (`QNRel`: same sockets, writer
    control state and ghost logs; the bag holds, in some order, exactly what the queues and the
    reverse path hold). -/
theorem C06_queues_refine_bag (c : TcpCfg) (nc : QNCfg) (n : NetSt) (h : TcpStartQ c n)
    (hR : c.tp.rearmDrop = true) (hcap : nc.CapOk (mssOf c n)) (nls : List QNLbl) :
    ∃ ls, TS.okRun c (TS.init c n) ls
      ∧ QNRel (TS.run c (TS.init c n) ls) (QN.run c nc (QN.init c nc n) nls) :=
  QN.refines c nc n h hR hcap nls

/-- **No orphan retransmission, over tail-drop queues.** While segments wait for
    retransmission, a packet of the connection is in a queue or on the reverse path, or a
    writer loop that will still send is in progress; never quiescent with dropped segments
    unsent. No assumption about the network. -/
theorem C06_queues_no_orphan_resend (c : TcpCfg) (nc : QNCfg) (n : NetSt) (h : TcpStartQ c n)
    (hD : c.tp.releaseOnDrop = true) (hR : c.tp.rearmDrop = true) (hcap : nc.CapOk (mssOf c n))
    (nls : List QNLbl) :
    let s := QN.run c nc (QN.init c nc n) nls
    s.ts.closed = false →
    ∃ sa, s.ts.net.tcp? c.a = some sa
      ∧ (sa.resend ≠ [] → s.inNet ≠ [] ∨ s.ts.ctl.willSend = true)
      ∧ (s.Quiescent → sa.resend = []) := by
  intro s hc
  obtain ⟨ls, hok, hrel⟩ := QN.refines c nc n h hR hcap nls
  obtain ⟨sa, h1, h2, h3⟩ := C06_no_orphan_resend c n h hD ls hok (by rw [hrel.closed]; exact hc)
  refine ⟨sa, by rw [← hrel.net]; exact h1, ?_, fun hq => h3 (hrel.quiescent.mpr hq)⟩
  intro hne
  rcases h2 hne with x | x
  · exact Or.inl (fun he => x (hrel.bag_nil.mpr he))
  · exact Or.inr (by rw [← hrel.ctl]; exact x)

/-- **The writer is not blocked at quiescence, over tail-drop queues.** -/
theorem C06_queues_writer_not_blocked_at_quiescence (c : TcpCfg) (nc : QNCfg) (n : NetSt) (h : TcpStartQ c n)
    (hD : c.tp.releaseOnDrop = true) (hR : c.tp.rearmDrop = true) (hF : c.tp.wakeWriterFixed = true)
    (hcap : nc.CapOk (mssOf c n)) (nls : List QNLbl) :
    let s := QN.run c nc (QN.init c nc n) nls
    s.ts.closed = false →
    ∃ sa, s.ts.net.tcp? c.a = some sa ∧ sa.connectH = none
      ∧ (s.ts.ctl.inAck = false → sa.sendH.isSome = true → sa.inFlight + sa.mss > sa.cwnd ∨ sa.resend ≠ [])
      ∧ (s.Quiescent → sa.sendH = none ∧ sa.inFlight = 0) := by
  intro s hc
  obtain ⟨ls, hok, hrel⟩ := QN.refines c nc n h hR hcap nls
  obtain ⟨sa, h1, h2, h3, h4⟩ :=
    C06_writer_not_blocked_at_quiescence c n h hD hF ls hok (by rw [hrel.closed]; exact hc)
  exact ⟨sa, by rw [← hrel.net]; exact h1, h2, by rw [← hrel.ctl]; exact h3, fun hq => h4 (hrel.quiescent.mpr hq)⟩

/-- **The reader is not stranded, over tail-drop queues.** -/
theorem C06_queues_reader_not_stranded_at_quiescence (c : TcpCfg) (nc : QNCfg) (n : NetSt) (h : TcpStartQ c n)
    (hD : c.tp.releaseOnDrop = true) (hR : c.tp.rearmDrop = true) (hW : c.tp.wakeReaderFixed = true)
    (hcap : nc.CapOk (mssOf c n)) (nls : List QNLbl) :
    let s := QN.run c nc (QN.init c nc n) nls
    s.ts.closed = false →
    ∃ sb, s.ts.net.tcp? c.b = some sb
      ∧ ((sb.recvH.isSome = true ∨ sb.waitRecvH.isSome = true) → sb.inq = []) := by
  intro s hc
  obtain ⟨ls, hok, hrel⟩ := QN.refines c nc n h hR hcap nls
  obtain ⟨sb, h1, h2⟩ :=
    C06_reader_not_stranded_at_quiescence c n h hD hW ls hok (by rw [hrel.closed]; exact hc)
  exact ⟨sb, by rw [← hrel.net]; exact h1, h2⟩

/-- **At quiescence everything written is at the reader, over tail-drop queues**: all queues
    and the reverse path empty, no writer loop in progress ⇒ nothing waits for retransmission,
    the reader has every segment in order, what completed writes reported is what was written,
    and `written = delivered ++ queued` (`= delivered` if a read is pending). -/
theorem C06_queues_quiescent_all_delivered (c : TcpCfg) (nc : QNCfg) (n : NetSt) (h : TcpStartQ c n)
    (hD : c.tp.releaseOnDrop = true) (hR : c.tp.rearmDrop = true) (hcap : nc.CapOk (mssOf c n))
    (nls : List QNLbl) :
    let s := QN.run c nc (QN.init c nc n) nls
    s.ts.closed = false → s.Quiescent →
    ∃ sa sb, s.ts.net.tcp? c.a = some sa ∧ s.ts.net.tcp? c.b = some sb
      ∧ sa.resend = [] ∧ sb.nextIn = sa.nextOut ∧ sa.nextOut = s.ts.segs.length
      ∧ s.ts.accepted = s.ts.written
      ∧ s.ts.written = s.ts.delivered ++ bytesOf sb.inq
      ∧ (c.tp.wakeReaderFixed = true → (sb.recvH.isSome = true ∨ sb.waitRecvH.isSome = true) →
          s.ts.delivered = s.ts.written) := by
  intro s hc hq
  obtain ⟨ls, hok, hrel⟩ := QN.refines c nc n h hR hcap nls
  obtain ⟨sa, sb, h1, h2, h3, h4, h5, h6, h7, h8⟩ :=
    C06_quiescent_all_delivered c n h hD ls hok (by rw [hrel.closed]; exact hc) (hrel.quiescent.mpr hq)
  refine ⟨sa, sb, by rw [← hrel.net]; exact h1, by rw [← hrel.net]; exact h2, h3, h4,
    by rw [← hrel.segs]; exact h5, by rw [← hrel.accepted, ← hrel.written]; exact h6,
    by rw [← hrel.written, ← hrel.delivered]; exact h7, ?_⟩
  intro a b
  rw [← hrel.written, ← hrel.delivered]; exact h8 a b

/-- **Unlimited queues** (every capacity 0) satisfy the capacity hypothesis whatever the
    segment size, and never drop: the quiescence theorems hold for any traffic pattern. -/
theorem C06_queues_unlimited_capOk (k m : Nat) : ({ caps := List.replicate (k + 1) 0 } : QNCfg).CapOk m :=
  ⟨by simp [List.replicate_succ], fun cap hc => Or.inl (List.eq_of_mem_replicate hc)⟩

namespace QEx
open TcpEx

/-- what the witnesses look at -/
structure NView where
  quiescent : Bool
  open_     : Bool
  hops      : List (List Nat)            -- sequence numbers held by each hop
  rev       : List Nat                   -- ACKs on the reverse path
  drops     : List (Nat × Nat)           -- tail-drops so far: (hop, sequence number)
  resend    : List Nat                   -- waiting for retransmission
  parked    : Bool                       -- a write is parked
  rdPending : Bool                       -- a read or wait-for-read is pending
  queued    : Nat                        -- packets in the reader's incoming queue
  nextIn    : Nat                        -- next sequence number the reader expects
  delivered : List UInt8
  written   : List UInt8
  accepted  : List UInt8
  deriving DecidableEq, Repr

def nview (c : TcpCfg) (nc : QNCfg) (n : NetSt) (ls : List QNLbl) : NView :=
  let s := QN.run c nc (QN.init c nc n) ls
  let sa := (s.ts.net.tcp? c.a).getD { node := "" }
  let sb := (s.ts.net.tcp? c.b).getD { node := "" }
  { quiescent := decide s.Quiescent, open_ := !s.ts.closed, hops := s.hops.map (·.map (·.id)),
    rev := s.rev.map (·.id), drops := s.dropLog, resend := sa.resend.map (·.id), parked := sa.sendH.isSome,
    rdPending := sb.recvH.isSome || sb.waitRecvH.isSome, queued := sb.inq.length, nextIn := sb.nextIn,
    delivered := s.ts.delivered, written := s.ts.written, accepted := s.ts.accepted }

def nw (l : List UInt8) (h off : Nat) : QNLbl := .api (.write 0 { h := h, bufs := [l], stream := 0, off := off })
def nr : QNLbl := .api (.run 0)
def nd (k : Nat) : QNLbl := .hopDeq 0 k none
def na : QNLbl := .ackDeliver 0 0 none

/-- two hops, each able to hold exactly one full segment -/
def nc2 : QNCfg := { caps := [43, 43] }

example : mssOf c n0 = 3 := by decide +kernel
theorem capOk_nc2 : nc2.CapOk (mssOf c n0) := by decide +kernel
example : nc2.CapOk (mssOf c n0) := capOk_nc2

/-- two components of a view, read back as the hypotheses of the quiescence theorems -/
theorem of_nview {c nc n ls v} (h : nview c nc n ls = v) (ho : v.open_ = true) :
    (QN.run c nc (QN.init c nc n) ls).ts.closed = false
      ∧ (v.quiescent = true → (QN.run c nc (QN.init c nc n) ls).Quiescent) := by
  subst h
  exact ⟨Eq.mp (Bool.not_eq_true' _) ho, of_decide_eq_true⟩

/-- first write (6 bytes = segments 0, 1): segment 0 enters hop 0 and moves on to hop 1;
    segment 1 enters hop 0, the loop ends; hop 0 forwards segment 1 into the FULL hop 1:
    tail-dropped there (asynchronous hand-back, segment 0 still in hop 1) -/
def netDropLater : List QNLbl := [nw [1, 2, 3, 4, 5, 6] 1 0, nd 0, nr, nr, nd 0]

/-- then segment 0 reaches the reader, its ACK retransmits segment 1, which arrives and is
    acknowledged: quiescent -/
def netRecovered : List QNLbl := netDropLater ++ [nd 1, na, nr, nr, nd 0, nd 1, na, nr]

/-- second write (segments 2, 3): segment 2 sits in hop 0, so segment 3 is tail-dropped by the
    FIRST hop synchronously inside the segmentation loop; segment 2's ACK retransmits it;
    everything is read -/
def netBoth : List QNLbl :=
  netRecovered ++ [nw [7, 8, 9, 10, 11, 12] 2 6, nr, nr,
    nd 0, nd 1, na, nr, nr, nd 0, nd 1, na, nr, .api (.readNb [100])]

/-- non-vacuity, one evaluation of `netBoth` and its two prefixes: a real drop at a later hop; the
    recovery; and a drop at the first hop, in ONE history that ends quiescent with all 12 bytes
    delivered -/
theorem nview_netBoth :
    nview c nc2 n0 netDropLater
      = { quiescent := false, open_ := true, hops := [[], [0]], rev := [], drops := [(1, 1)], resend := [1], parked := false,
            rdPending := false, queued := 0, nextIn := 0, delivered := [],
            written := [1, 2, 3, 4, 5, 6], accepted := [1, 2, 3, 4, 5, 6] }
    ∧ nview c nc2 n0 netRecovered
      = { quiescent := true, open_ := true, hops := [[], []], rev := [], drops := [(1, 1)], resend := [], parked := false,
            rdPending := false, queued := 2, nextIn := 2, delivered := [],
            written := [1, 2, 3, 4, 5, 6], accepted := [1, 2, 3, 4, 5, 6] }
    ∧ nview c nc2 n0 netBoth
      = { quiescent := true, open_ := true, hops := [[], []], rev := [], drops := [(1, 1), (0, 3)], resend := [], parked := false,
            rdPending := false, queued := 0, nextIn := 4, delivered := [1, 2, 3, 4, 5, 6, 7, 8, 9, 10, 11, 12],
            written := [1, 2, 3, 4, 5, 6, 7, 8, 9, 10, 11, 12], accepted := [1, 2, 3, 4, 5, 6, 7, 8, 9, 10, 11, 12] } :=
  and3_of_decide (by decide +kernel)

example : nview c nc2 n0 netDropLater
    = { quiescent := false, open_ := true, hops := [[], [0]], rev := [], drops := [(1, 1)], resend := [1], parked := false,
            rdPending := false, queued := 0, nextIn := 0, delivered := [],
            written := [1, 2, 3, 4, 5, 6], accepted := [1, 2, 3, 4, 5, 6] } := nview_netBoth.1
example : nview c nc2 n0 netRecovered
    = { quiescent := true, open_ := true, hops := [[], []], rev := [], drops := [(1, 1)], resend := [], parked := false,
            rdPending := false, queued := 2, nextIn := 2, delivered := [],
            written := [1, 2, 3, 4, 5, 6], accepted := [1, 2, 3, 4, 5, 6] } := nview_netBoth.2.1
example : nview c nc2 n0 netBoth
    = { quiescent := true, open_ := true, hops := [[], []], rev := [], drops := [(1, 1), (0, 3)], resend := [], parked := false,
            rdPending := false, queued := 0, nextIn := 4, delivered := [1, 2, 3, 4, 5, 6, 7, 8, 9, 10, 11, 12],
            written := [1, 2, 3, 4, 5, 6, 7, 8, 9, 10, 11, 12], accepted := [1, 2, 3, 4, 5, 6, 7, 8, 9, 10, 11, 12] } :=
  nview_netBoth.2.2
example := C06_queues_quiescent_all_delivered c nc2 n0 startQ rfl rfl capOk_nc2 netBoth
  (of_nview nview_netBoth.2.2 rfl).1 ((of_nview nview_netBoth.2.2 rfl).2 rfl)
example := C06_queues_no_orphan_resend c nc2 n0 startQ rfl rfl capOk_nc2 netDropLater
  (of_nview nview_netBoth.1 rfl).1

/-- one hop that cannot hold a full segment (0 < 42 < 43) -/
def ncSmall : QNCfg := { caps := [42] }

/-- one 3-byte write -/
def netSmall : List QNLbl := [nw [1, 2, 3] 1 0, nr]

/-- the start state with a window of ten segments -/
def n0w : NetSt := match n0.tcp? c.a with | some sa => n0.setTcp c.a { sa with cwnd := 30 } | none => n0

theorem startQw : TcpStartQ c n0w := by
  apply tcpStartQ_of_check
  · exact tcpStart_of_check _ _ (by decide) (by decide +kernel) (by decide +kernel)
  · decide +kernel
  · decide +kernel

def cNoRearm : TcpCfg := { c with tp := { rearmDrop := false } }

/-- hop 0 holds two full segments, hop 1 one -/
def nc3 : QNCfg := { caps := [86, 43] }

/-- segments 0..3 written; 0 in hop 1, 1 and 2 in hop 0; 1 is tail-dropped by hop 1 (callback:
    handed back), 3 joins 2 in hop 0; segment 0's ACK retransmits 1 into the full hop 0 -/
def netRearm : List QNLbl :=
  [nw [1, 2, 3, 4, 5, 6, 7, 8, 9, 10, 11, 12] 1 0, nd 0, nr, nr, nd 0, nr, nr,
   nd 1, na, nr, nr,
   nd 0, nd 1, na, nr, nd 0, nd 1, na, nr, .api (.readNb [100])]

end QEx

/-- **The capacity hypothesis is necessary**: a queue with 0 < capacity < one full segment
    (42 < 43) tail-drops the segment although it is EMPTY; all repairs in place; the system is
    quiescent with segment 0 waiting for retransmission forever, the 3 bytes a completed write
    reported never reach the reader. -/
theorem C06_queues_capacity_necessary :
    QEx.ncSmall.CapOk (mssOf TcpEx.c TcpEx.n0) = False
    ∧ QEx.nview TcpEx.c QEx.ncSmall TcpEx.n0 QEx.netSmall
      = { quiescent := true, open_ := true, hops := [[]], rev := [], drops := [(0, 0)], resend := [0], parked := false,
            rdPending := false, queued := 0, nextIn := 0, delivered := [],
            written := [1, 2, 3], accepted := [1, 2, 3] } := by
  refine ⟨eq_false (by decide +kernel), by decide +kernel⟩

/-- **Drop re-arming is necessary** (`rearmDrop := false`, capacities fine): the retransmitted
    segment 1 carries no drop callback; hop 0, full with segments 2 and 3, loses it silently
    (second entry of the drop log). Quiescent, nothing waits for retransmission, 12 bytes
    accepted — the reader got 3 and waits for segment 1 forever. -/
theorem C06_queues_rearm_necessary :
    QEx.nc3.CapOk (mssOf TcpEx.c QEx.n0w)
    ∧ QEx.nview QEx.cNoRearm QEx.nc3 QEx.n0w QEx.netRearm
      = { quiescent := true, open_ := true, hops := [[], []], rev := [], drops := [(1, 1), (0, 1)], resend := [], parked := false,
            rdPending := false, queued := 0, nextIn := 1, delivered := [1, 2, 3],
            written := [1, 2, 3, 4, 5, 6, 7, 8, 9, 10, 11, 12], accepted := [1, 2, 3, 4, 5, 6, 7, 8, 9, 10, 11, 12] } := by
  refine ⟨by decide +kernel, by decide +kernel⟩

/-- with re-arming the same history hands segment 1 back a second time (not quiescent:
    it has been retransmitted again and sits in hop 0) -/
example : QEx.nview TcpEx.c QEx.nc3 QEx.n0w QEx.netRearm
    = { quiescent := false, open_ := true, hops := [[1], []], rev := [3], drops := [(1, 1), (0, 1)], resend := [], parked := false,
            rdPending := false, queued := 0, nextIn := 1, delivered := [1, 2, 3],
            written := [1, 2, 3, 4, 5, 6, 7, 8, 9, 10, 11, 12], accepted := [1, 2, 3, 4, 5, 6, 7, 8, 9, 10, 11, 12] } := by
  decide +kernel

end SimVerif
