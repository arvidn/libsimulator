/-
  C03 — Timers fire exactly at expiry, in expiry-then-arming order; cancel aborts.

  The property theorems, the witness on the pinned tree and examples. All statements are about the mechanism model of
  `high_resolution_timer` + `simulation::run()` in SimVerif/Kernel.lean and quantify over
  every label sequence (every program, every schedule). Precondition of the code (an
  `assert` compiled out under NDEBUG): at most one outstanding wait per timer — `WaitPre`;
  only `C03_no_lost_wait` needs it. The at-most-once theorems need only that handler ids
  name distinct `async_wait` calls (`FreshWaits`).
-/
import SimVerif.Lemmas.KernelOrder
import SimVerif.Lemmas.KernelOnce

namespace SimVerif

/-- **A successful wait completes at exactly `max(expiry, time the wait was started)`** (`imax`).
    `t.exp`/`t.st` are the ghosts recorded by `fire` when the completion is posted:
    the timer's expiry and the clock at `async_wait`. `c` is the clock when it ran. -/
theorem C03_fires_exactly (ls : List Lbl) (t : Task) (c : Int)
    (h : (t, c) ∈ (runLbls repaired {} ls).ran) (htm : t.tm = true) (hok : t.ec = .ok) :
    c = imax t.exp t.st :=
  (KInv_run ls {} KInv_init).ranT t c h htm hok

/-- **… never earlier than the expiry** (and never earlier than the wait was started). -/
theorem C03_never_early (ls : List Lbl) (t : Task) (c : Int)
    (h : (t, c) ∈ (runLbls repaired {} ls).ran) (htm : t.tm = true) (hok : t.ec = .ok) :
    t.exp ≤ c ∧ t.st ≤ c := by
  have := C03_fires_exactly ls t c h htm hok
  unfold imax at this; split at this <;> omega

/-- **cancel() / cancel_one() / destructor:** returns 1 exactly when a wait was pending,
    and then posts that wait's handler exactly once, with `operation_aborted`; returns 0
    and posts nothing otherwise. The timer is left expired with an empty handler slot, so
    nothing can complete that wait a second time. -/
theorem C03_cancel (k : K) (i : Nat) (hk : KInv k) :
    (∀ h, (k.timers i).handler = some h →
        (cancel k i).2 = 1
        ∧ (cancel k i).1.ready = k.ready ++
            [{ h := h, ec := .aborted, tm := true, exp := (k.timers i).expiry,
               st := (k.timers i).startedAt }]
        ∧ ((cancel k i).1.timers i).handler = none
        ∧ ((cancel k i).1.timers i).expired = true)
    ∧ ((k.timers i).handler = none → (cancel k i).2 = 0 ∧ (cancel k i).1.ready = k.ready) := by
  constructor
  · intro h hh
    have hne := (hk.pend i h hh).1
    refine ⟨by rw [cancel_ret]; simp [hne, hh], by rw [cancel_fst]; simp [hne, hh, completion], ?_, ?_⟩ <;>
      simp [cancel_fst, hne]
  · intro hn
    exact ⟨by rw [cancel_ret]; split <;> simp [hn], by rw [cancel_fst]; split <;> simp [hn, completion]⟩

/-- **Re-arming (expires_at / expires_after) cancels first**: same return value and same
    abort as `cancel`, then the new expiry is queued. -/
theorem C03_rearm (k : K) (i : Nat) (e : Int) :
    (expiresAt k i e).2 = (cancel k i).2
    ∧ (expiresAt k i e).1.ready = (cancel k i).1.ready
    ∧ ((expiresAt k i e).1.timers i).expiry = e
    ∧ ((expiresAt k i e).1.timers i).expired = false
    ∧ (e, i) ∈ (expiresAt k i e).1.tq := by
  refine ⟨rfl, rfl, ?_, ?_, ?_⟩
  · simp [expiresAt, arm]
  · simp [expiresAt, arm]
  · simp [expiresAt, arm, mem_insertUB]

/-- **A wait started on a timer whose expiry has already passed completes at once, at the
    current time, with success** (posted, never invoked inline). -/
theorem C03_expired_wait_immediate (k : K) (i h : Nat)
    (hexp : (k.timers i).expired = true) (hdue : (k.timers i).expiry ≤ k.now) :
    (asyncWait repaired k i h).ready =
      k.ready ++ [{ h := h, ec := .ok, tm := true, exp := (k.timers i).expiry, st := k.now }]
    ∧ (asyncWait repaired k i h).now = k.now
    ∧ ((asyncWait repaired k i h).timers i).handler = none :=
  asyncWait_due repaired k i h hexp hdue

/-- **A wait on a cancelled timer whose expiry is still in the future does not complete
    now**: the timer is put back into the queue and nothing is posted (repair F3). -/
theorem C03_wait_after_cancel_requeues (k : K) (i h : Nat)
    (hexp : (k.timers i).expired = true) (hfut : k.now < (k.timers i).expiry) :
    (asyncWait repaired k i h).ready = k.ready
    ∧ ((k.timers i).expiry, i) ∈ (asyncWait repaired k i h).tq
    ∧ ((asyncWait repaired k i h).timers i).handler = some h := by
  unfold asyncWait
  simp only [hexp, if_true, repaired, Bool.true_and, decide_eq_true_eq, hfut]
  refine ⟨?_, ?_, ?_⟩
  · simp [setHandler, arm]
  · simp [setHandler, arm, mem_insertUB]
  · simp [setHandler]

/-- **Order.** The loop fires due timers in queue order, and the queue is ordered by
    expiry, and among equal expiries by arming order (`upper_bound` insertion is stable):
    for any two queued entries, the earlier one has the smaller expiry, or the same expiry
    and the smaller arming serial number. Holds in every reachable state. -/
theorem C03_order (ls : List Lbl) :
    OrderedTq (runLbls repaired {} ls) :=
  (KInv_OInv_run ls {} ⟨KInv_init, OInv_init⟩).2.ordered

/-- … and the timer loop of `run()` consumes the queue from the front: what is left is the
    queue minus the first `n` entries, `n` being the number of timers it fired. -/
theorem C03_fire_in_queue_order (l : List (Int × Nat)) (k : K) (h : k.tq = l) :
    (fireDue l k).1.tq = l.drop (fireDue l k).2 := by
  induction l generalizing k with
  | nil => exact h
  | cons a rest ih =>
    unfold fireDue; split
    · exact ih _ (fire_tq ..)
    · exact h

/-- … and it posts the completions in exactly that order: what it appends to `ready` is, in
    queue order, the pending handlers (where there is one) of the `n` entries it popped,
    each bound with success. -/
theorem C03_fire_posts_in_queue_order (l : List (Int × Nat)) (k : K) (hk : KInv k) (h : k.tq = l) :
    (fireDue l k).1.ready = k.ready ++ (l.take (fireDue l k).2).filterMap (fun x =>
      ((k.timers x.2).handler).map (fun h =>
        { h := h, ec := .ok, tm := true, exp := (k.timers x.2).expiry,
          st := (k.timers x.2).startedAt })) :=
  fireDue_ready l k (h ▸ hk.nodup)

/-! #### Every wait completes at most once

A wait is named by the handler id passed to `async_wait`; `FreshWaits [] ls` says the
`wait` labels of `ls` carry pairwise distinct ids (`freshWaits_iff`). -/

/-- **No completion is posted twice, and a wait still pending in its timer has not been
    posted**: the handler ids of all timer completions posted so far (executed or still
    queued) are pairwise distinct, and disjoint from the ids stored in timers. -/
theorem C03_posted_at_most_once (ls : List Lbl) (hf : FreshWaits [] ls) :
    (runLbls repaired {} ls).posted.Nodup
    ∧ ∀ i h, ((runLbls repaired {} ls).timers i).handler = some h →
        h ∉ (runLbls repaired {} ls).posted :=
  have ho := OnceInv_run repaired ls {} hf OnceInv_init
  ⟨ho.nodup, ho.slotExcl⟩

/-- **Every wait completes at most once**: the timer completions that were executed carry
    pairwise distinct handler ids. -/
theorem C03_at_most_once (p : KParams) (ls : List Lbl) (hf : FreshWaits [] ls) :
    (((runLbls p {} ls).ran.filter (fun x => x.1.tm)).map (fun x => x.1.h)).Nodup :=
  (OnceInv_run p ls {} hf OnceInv_init).ran_nodup

/-- An executed timer completion is determined by its handler id; read for the error code this
    is `C03_abort_excludes_success`. -/
theorem C03_completion_unique (p : KParams) (ls : List Lbl) (hf : FreshWaits [] ls)
    (t₁ t₂ : Task) (c₁ c₂ : Int)
    (h₁ : (t₁, c₁) ∈ (runLbls p {} ls).ran) (h₂ : (t₂, c₂) ∈ (runLbls p {} ls).ran)
    (m₁ : t₁.tm = true) (m₂ : t₂.tm = true) (hh : t₁.h = t₂.h) : (t₁, c₁) = (t₂, c₂) :=
  eq_of_nodup_map (fun x : Task × Int => x.1.h) _ (C03_at_most_once p ls hf) (t₁, c₁) (t₂, c₂)
    (List.mem_filter.mpr ⟨h₁, by simpa using m₁⟩) (List.mem_filter.mpr ⟨h₂, by simpa using m₂⟩) hh

/-- **A wait completed with `operation_aborted` never also completes successfully** (nor the
    other way round). -/
theorem C03_abort_excludes_success (p : KParams) (ls : List Lbl) (hf : FreshWaits [] ls)
    (t₁ t₂ : Task) (c₁ c₂ : Int)
    (h₁ : (t₁, c₁) ∈ (runLbls p {} ls).ran) (h₂ : (t₂, c₂) ∈ (runLbls p {} ls).ran)
    (m₁ : t₁.tm = true) (m₂ : t₂.tm = true) (hh : t₁.h = t₂.h) : t₁.ec = t₂.ec := by
  have := C03_completion_unique p ls hf t₁ t₂ c₁ c₂ h₁ h₂ m₁ m₂ hh
  simp only [Prod.mk.injEq] at this
  rw [this.1]

/-- **No wait is lost**, provided the program respects the precondition of `async_wait`
    (`assert(!m_handler)`: no second wait while one is outstanding on the same timer,
    `WaitPre`): every wait ever started is still pending in its timer or its completion
    has been posted. -/
theorem C03_no_lost_wait (p : KParams) (ls : List Lbl) (hp : WaitPre p {} ls) (h : Nat)
    (hs : h ∈ (runLbls p {} ls).started) :
    (∃ i, ((runLbls p {} ls).timers i).handler = some h)
    ∨ h ∈ (runLbls p {} ls).posted :=
  Held_run p ls {} hp Held_init h hs

/-- The pinned tree violated the property: `expires_after(5000); async_wait(h0); cancel();
    async_wait(h1)` — `cancel()` sets `m_expired`, so the second wait completed at once, at
    time 0, with success. -/
def c03Witness : List Lbl :=
  [.expiresAfter 0 5000, .wait 0 0, .cancel 0, .wait 0 1, .exec, .exec]

theorem C03_asis_early :
    ((runLbls asIs {} c03Witness).ran.map (fun x => (x.1.h, x.1.ec, x.2)))
      = [(0, .aborted, 0), (1, .ok, 0)] := by decide +kernel

theorem C03_witness_repaired :
    ((runLbls repaired {} (c03Witness ++ [.advance, .exec])).ran.map (fun x => (x.1.h, x.1.ec, x.2)))
      = [(0, .aborted, 0), (1, .ok, 5000)] := by decide +kernel

/-- Non-vacuity: a reachable state with a pending wait, a cancelled-and-rewaited timer and
    two timers with equal expiries queued in arming order. -/
def c03Example : List Lbl :=
  [.expiresAt 0 50, .wait 0 0, .expiresAt 1 50, .wait 1 1, .expiresAt 2 20, .wait 2 2,
   .cancel 2, .wait 2 3]

example : (runLbls repaired {} c03Example).tq = [(20, 2), (50, 0), (50, 1)]
    ∧ ((runLbls repaired {} c03Example).timers 2).handler = some 3
    ∧ (runLbls repaired {} c03Example).ready.length = 1 := by decide +kernel

/-- The hypotheses of the at-most-once / no-lost-wait theorems hold for that run (it
    contains a wait, a cancel and a second wait on the same timer). -/
example : FreshWaits [] c03Example ∧ WaitPre repaired {} c03Example := by
  constructor
  · simp [FreshWaits, c03Example, Lbl.waitId?]
  · simp [WaitPre, c03Example]; decide

end SimVerif
