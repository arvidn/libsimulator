/-
  C02 — Virtual clock is monotonic and jumps only to the next timer expiry.

  The property theorems (with `step_now`, which the first two rest on), the witness on the pinned
  tree and an example. All statements quantify over *every* label sequence, i.e. every program
  (API calls from top level and from inside handlers) under every schedule of `exec`/`advance`
  the loop can produce. `repaired` / `asIs` (Lemmas/KernelBasic) = the current tree (after the
  `fix:` commits) / the pinned tree bb9bed4.
-/
import SimVerif.Lemmas.KernelInv

namespace SimVerif

/-- The clock of a fresh simulation reads zero (`reset_clock()` in the constructor). -/
theorem C02_starts_at_zero : ({} : K).now = 0 := rfl

/-- The clock is touched by the clock jump of `advance` only. -/
theorem step_now (p : KParams) (k : K) (l : Lbl) :
    (step p k l).now = k.now ∨ (l = .advance ∧ k.ready = [] ∧ ∃ e i rest, k.tq = (e, i) :: rest
      ∧ (step p k l).now = if p.advanceGuard then (if k.now < e then e else k.now) else e) :=
  step_ind p (P := fun k' => k'.now = k.now ∨ (l = .advance ∧ k.ready = [] ∧ ∃ e i rest,
      k.tq = (e, i) :: rest ∧ k'.now = if p.advanceGuard then (if k.now < e then e else k.now) else e))
    k l (.inl rfl)
    (hcancel := fun k' i h => by rwa [cancel_now])
    (harm := fun _ _ _ _ h => h)
    (hset := fun _ _ _ _ _ _ h => h)
    (hnow := fun i h _ _ _ => .inl (fire_now ..))
    (hpost := fun _ _ h => h)
    (hexec := fun _ _ _ _ => .inl rfl)
    (hstop := fun _ _ h => h)
    (htick := fun e i rest hl hr htq => .inr ⟨hl, hr, e, i, rest, htq, rfl⟩)
    (hpop := fun k' e i rest _ _ h => by rwa [fire_now])

/-- **The clock never moves backwards**, along any execution whatsoever. -/
theorem C02_monotone (ls : List Lbl) (k : K) : k.now ≤ (runLbls repaired k ls).now := by
  induction ls generalizing k with
  | nil => exact Int.le_refl _
  | cons l rest ih =>
    refine Int.le_trans ?_ (ih _)
    rcases step_now repaired k l with h | ⟨-, -, e, _, _, -, h⟩ <;> rw [h]
    · exact Int.le_refl _
    · simp only [repaired, if_true]; split <;> omega

/-- **The clock changes only in the loop's clock step, only when no handler is ready, and
    then jumps exactly to the earliest pending expiry, which is strictly in the future.** -/
theorem C02_jump_only_when_idle (k : K) (l : Lbl) (hk : KInv k)
    (hch : (step repaired k l).now ≠ k.now) :
    l matches .advance ∧ k.ready = [] ∧
    ∃ e i rest, k.tq = (e, i) :: rest ∧ k.now < e ∧ (step repaired k l).now = e
      ∧ ∀ e' i', (e', i') ∈ k.tq → e ≤ e' := by
  rcases step_now repaired k l with h | ⟨rfl, hr, e, i, rest, htq, h⟩
  · exact absurd h hch
  · replace h : (step repaired k .advance).now = if k.now < e then e else k.now := h
    have hlt : k.now < e := by
      rw [h] at hch; split at hch
      · assumption
      · exact absurd rfl hch
    refine ⟨rfl, hr, e, i, rest, htq, hlt, h.trans (if_pos hlt), fun e' i' hm => ?_⟩
    rcases List.mem_cons.mp (htq ▸ hm) with hm | hm
    · cases hm; exact Int.le_refl _
    · exact (List.pairwise_cons.mp (htq ▸ hk.sorted : SortedTq _)).1 _ hm

/-- **Staying put when the earliest expiry is not in the future.** -/
theorem C02_stays_when_due (k : K) (e : Int) (i : Nat) (rest : List (Int × Nat))
    (htq : k.tq = (e, i) :: rest) (hdue : e ≤ k.now) : (advance repaired k).1.now = k.now := by
  unfold advance; simp only [htq, repaired, if_true]; rw [fireDue_now]
  dsimp only; split <;> omega

/-- **FIFO.** Every transition only appends to the sequence "ran ++ ready": handlers are
    executed in exactly the order in which they were posted (and `exec` always takes the
    oldest one). -/
theorem C02_fifo_step (p : KParams) (k : K) (l : Lbl) : k.enqueued <+: (step p k l).enqueued := by
  by_cases hl : l = .exec
  · subst hl
    show _ <+: (exec k).1.enqueued
    unfold exec; split
    · exact List.prefix_rfl
    · rename_i t rest hr
      exact ⟨[], by simp [K.enqueued, hr]⟩
  · obtain ⟨hr, t, ht⟩ := step_appends p k l hl
    exact ⟨t, by unfold K.enqueued; rw [hr, ht, List.append_assoc]⟩

theorem C02_fifo (p : KParams) (ls : List Lbl) (k : K) :
    ∃ s, (runLbls p k ls).enqueued = k.enqueued ++ s := by
  obtain ⟨s, hs⟩ := List.foldlRecOn ls (step p) (motive := fun k' => k.enqueued <+: k'.enqueued)
    (List.prefix_rfl) fun k' h l _ => h.trans (C02_fifo_step p k' l)
  exact ⟨s, hs.symm⟩

/-- **A posted handler runs at the virtual time at which it was posted** (for a timer
    completion see `C03_fires_exactly`). -/
theorem C02_runs_when_posted (ls : List Lbl) (t : Task) (c : Int)
    (h : (t, c) ∈ (runLbls repaired {} ls).ran) (hp : t.tm = false) : c = t.st :=
  (KInv_run ls {} KInv_init).ranP t c h hp

theorem pollFuel_zero (p : KParams) (react : React) (fuel : Nat) (k : K) (k' : K)
    (h : pollFuel p react fuel k 0 = some (k', 0)) : k' = k := by
  cases fuel with
  | zero => simp [pollFuel] at h
  | succ f =>
    unfold pollFuel at h
    split at h
    · cases h; rfl
    · exact absurd (pollFuel_ready _ _ _ _ _ _ _ h).2 (by omega)

/-- **`run()` returns only when the simulation is quiescent or was stopped.** -/
theorem C02_run_returns (react : React) (fuel : Nat) (k : K) (ret : Nat) (k' : K) (r : Nat)
    (h : runFuel repaired react fuel k ret = some (k', r)) :
    k'.stopped = true ∨ k'.quiescent :=
  runFuel_returns repaired react fuel k ret k' r h

/-- **A second `run()` after a quiescent return executes nothing and leaves the state
    (clock included) unchanged.** -/
theorem C02_second_run_noop (p : KParams) (react : React) (fuel : Nat) (k : K) (hq : k.quiescent) :
    runFuel p react (fuel + 1) k 0 = some (k, 0) := by
  obtain ⟨hr, htq⟩ := hq
  simp [runFuel, roundFuel, pollFuel, hr, advance, htq]

/-- **stop()/restart() only toggle a flag that no transition reads**: the same label
    sequence with every `stop`/`restart` removed reaches the same state (flag aside), so no
    event is lost, duplicated or reordered by stopping and restarting. (The loop of `run()`
    reads the flag only between rounds, to decide whether to return.) -/
theorem C02_stop_restart_transparent (p : KParams) (ls : List Lbl) (k : K) :
    (runLbls p k ls).withStop false =
      (runLbls p k (ls.filter (fun l => !(l matches .stop | .restart)))).withStop false :=
  run_withStop_filter p ls k k.stopped

/-- The pinned tree violated the property: `t0.expires_at(100); t1.expires_at(40)` armed from
    inside t0's handler at clock 100; the unconditional `fast_forward(expiry - now)` moves the
    clock from 100 back to 40. -/
def c02Witness : List Lbl :=
  [.expiresAt 0 100, .wait 0 0, .advance, .exec, .expiresAt 1 40, .wait 1 1, .advance]

theorem C02_asis_backwards :
    (runLbls asIs {} (c02Witness.take 4)).now = 100 ∧ (runLbls asIs {} c02Witness).now = 40 := by
  decide +kernel

/-- The same history on the repaired mechanism keeps the clock at 100. -/
theorem C02_witness_repaired : (runLbls repaired {} c02Witness).now = 100 := by decide +kernel

/-- Non-vacuity: a reachable state satisfying the invariant with three timers queued, a
    handler ready and a stop requested. -/
def c02Example : List Lbl :=
  [.expiresAt 0 30, .wait 0 0, .expiresAt 1 10, .wait 1 1, .expiresAfter 2 10, .post 7, .stop]

example : KInv (runLbls repaired {} c02Example)
    ∧ (runLbls repaired {} c02Example).tq.length = 3
    ∧ (runLbls repaired {} c02Example).ready.length = 1
    ∧ (runLbls repaired {} c02Example).stopped = true :=
  ⟨KInv_run _ _ KInv_init, by decide +kernel⟩

end SimVerif
