/-
  C20 — path MTU.

  "No TCP segment, in either direction of a connection, carries more payload than the path MTU
   the configuration reports for the two endpoints when the connection is made, and segments
   are never merged, split or altered in transit. A UDP datagram larger than the path MTU is
   silently discarded when the sending socket's don't-fragment option is set (send_to still
   reports it as sent) and is delivered whole otherwise; datagrams within the MTU are
   unaffected by the option."

  Property theorems only, over the mechanism functions of SimVerif/Tcp.lean and
  SimVerif/Net.lean (all states, all arguments). Helper lemmas: SimVerif/Lemmas/TcpEq.lean, TcpMtu.lean.
  The concrete states of the examples (`c20Listen`, `c20Pending`, `c20Udp`, …) are defined at
  the end of Lemmas/TcpMtu.lean. `s5_forwards effs` is the list of packets of the `.forward` effects of `effs`, in order
  (`mem_s5_forwards : p ∈ s5_forwards l ↔ NEff.forward p ∈ l`); `Chan.static` is a channel record
  with its two byte counters zeroed.
-/
import SimVerif.Lemmas.TcpMtu
import SimVerif.Lemmas.TcpGhost
import SimVerif.TcpEx

namespace SimVerif

/-- **One buffer is cut into maximal pieces**: the pieces concatenate to the buffer, none is
    empty, none exceeds the MSS, and only the last may be shorter than the MSS.
    (`mss = 0`: the model cuts 1-byte pieces, see the `example` below; the C++ loop
    `while (buf_size > 0) { packet_size = min(buf_size, m_mss) = 0; … }` would never terminate,
    producing empty packets forever. `get_path_mtu` returning 0 is a configuration error.) -/
theorem C20_cutBuf (mss : Nat) (h : 0 < mss) (b : List UInt8) :
    (cutBuf mss (b.length + 1) b).flatten = b
    ∧ (∀ x ∈ cutBuf mss (b.length + 1) b, x ≠ [] ∧ x.length ≤ mss)
    ∧ (∀ x ∈ (cutBuf mss (b.length + 1) b).dropLast, x.length = mss) := by
  have hs := cutBuf_spec mss (b.length + 1) b
  rw [if_neg (by omega)] at hs
  exact ⟨hs.1 (Nat.lt_succ_self _), hs.2⟩

example : cutBuf 0 3 [1, 2] = [[1], [2]] := by decide
example : cutBuf 3 9 [1, 2, 3, 4, 5, 6, 7, 8] = [[1, 2, 3], [4, 5, 6], [7, 8]] := by decide

/-- **The segments of a write are exactly the per-buffer cuts, in order** (a segment never
    spans two buffers), and the route is the channel's route to the peer. -/
theorem C20_tcp_segments_per_buffer (n : NetSt) (name : String) (bufs : List (List UInt8))
    (s : TcpSock) (hops : List String) (segs : List (List UInt8))
    (hs : n.tcp? name = some s) (h : n.tcpWritePrep name bufs = .ok (hops, segs)) :
    segs = (bufs.map (fun b => cutBuf s.mss (b.length + 1) b)).flatten := by
  obtain ⟨s', _, hs', _, _, _, _, _, _, rfl⟩ := tcpWritePrep_ok n name bufs hops segs h
  rw [hs] at hs'; cases hs'
  rfl

/-- **No segment of a write carries more than the socket's MSS; none is empty; together they
    are the bytes of the buffers, in order.** -/
theorem C20_tcp_segment_bound (n : NetSt) (name : String) (bufs : List (List UInt8))
    (s : TcpSock) (hops : List String) (segs : List (List UInt8))
    (hs : n.tcp? name = some s) (hm : 0 < s.mss)
    (h : n.tcpWritePrep name bufs = .ok (hops, segs)) :
    segs.flatten = bufs.flatten ∧ ∀ seg ∈ segs, seg ≠ [] ∧ seg.length ≤ s.mss := by
  obtain ⟨s', hs', _, hf, hb⟩ := tcpWritePrep_spec n name bufs hops segs h
  rw [hs] at hs'; cases hs'
  exact ⟨hf, hb hm⟩

/-- **One iteration of the segmentation loop puts the segment, whole and unaltered, into at
    most one packet** carrying the socket's next sequence number along the channel's route;
    exactly one when the socket has a channel. -/
theorem C20_tcp_sendSeg_packet (n : NetSt) (now : Int) (name : String) (hops : List String)
    (seg : List UInt8) :
    (∀ p, NEff.forward p ∈ (n.tcpSendSeg now name hops seg).2 →
        p.payload = seg ∧ p.len = seg.length ∧ p.ty = .payload ∧ p.hops = hops
        ∧ ∀ s, n.tcp? name = some s → p.id = s.nextOut)
    ∧ (s5_forwards (n.tcpSendSeg now name hops seg).2).length ≤ 1
    ∧ (∀ s, n.tcp? name = some s → (s.chan.bind n.chan?).isSome →
        (s5_forwards (n.tcpSendSeg now name hops seg).2).length = 1) := by
  cases hs : n.tcp? name with
  | none => rw [tcpSendSeg_none _ _ _ _ _ hs]; exact ⟨fun _ hp => (nomatch hp), Nat.zero_le _, fun _ h => nomatch h⟩
  | some s =>
    rw [tcpSendSeg_some n now name hops seg s hs]
    obtain ⟨h1, h2, h3⟩ := tcpSendPacket_one_unaltered (n.setTcp name { s with nextOut := s.nextOut + 1 }) now name
      (s.newSeg hops seg)
    exact ⟨fun p hp => by rw [h1 p hp]; exact ⟨rfl, rfl, rfl, rfl, fun _ hs' => by cases hs'; rfl⟩, h2,
      fun _ hs' hc => by cases hs'; exact h3 _ (tcp?_setTcp_same _ _ _) hc⟩

/-- **Sending never changes any socket's MSS**: it is fixed when the connection is made. -/
theorem C20_sendSeg_keeps_mss (n : NetSt) (now : Int) (name : String) (hops : List String)
    (seg : List UInt8) (p : Pkt) (k : String) :
    ((n.tcpSendSeg now name hops seg).1.tcp? k).map (·.mss) = (n.tcp? k).map (·.mss)
    ∧ ((n.tcpSendPacket now name p).1.tcp? k).map (·.mss) = (n.tcp? k).map (·.mss) :=
  ⟨(tcpSendSeg_step n now name hops seg).map_eq _ (fun _ _ h => by rw [h])
      (fun h => by rw [tcpSendSeg_none _ _ _ _ _ h]; exact h) k,
   (tcpSendPacket_step n now name p).map_eq _ (fun _ _ h => by rw [h])
      (fun h => by rw [tcpSendPacket_none _ _ _ _ h]; exact h) k⟩

/-- **Every way `async_connect` can end** (no side conditions beyond the socket existing): the
    configuration is untouched, the socket still exists, and either
    * the connect failed before `internal_connect` (implicit bind or address family) with a
      posted error, or
    * `internal_connect` ran and the socket's MSS is the configured path MTU from its own bound
      address (after the implicit bind) to the target, its window two segments; then either the
      connection is pending on a channel whose side 0 is the socket's bound endpoint, or it was
      refused (no channel; the 50 ms refusal timer is the last effect). -/
theorem C20_connect_cases (n : NetSt) (now : Int) (name : String) (target : Ep) (h : Nat)
    (s0 : TcpSock) (hs : n.tcp? name = some s0) :
    (n.tcpConnect now name target h).1.cfg = n.cfg
    ∧ ∃ s', (n.tcpConnect now name target h).1.tcp? name = some s'
      ∧ ((∃ ec, ec ≠ Ec.ok ∧ (n.tcpConnect now name target h).2.getLast? = some (.post { h := h, ec := ec })
            ∧ (s0.connectH = none → s'.connectH = none))
         ∨ (s'.mss = n.cfg.pathMtu s'.bound.addr target.addr ∧ s'.cwnd = s'.mss * 2
            ∧ ((∃ c, s'.chan = some c ∧ s'.connectH = some h
                  ∧ ((n.tcpConnect now name target h).1.chan? c).map Chan.ep0 = some s'.bound)
               ∨ (s'.chan = none ∧ (s0.connectH = none → s'.connectH = none)
                  ∧ (n.tcpConnect now name target h).2.getLast?
                      = some (.armAfter name 0 50000000 (.tcpConnectRefused name h)))))) := by
  rw [tcpConnect_eq n now name target h s0 hs]
  obtain ⟨a1, s1, a2, a3⟩ := tcpConnectOpen_spec n now name target s0 hs
  rw [a2]; dsimp only
  obtain ⟨b1, s2, b2, b3⟩ := tcpConnectBind_spec _ name target s1 a2
  split
  · rename_i hec
    refine ⟨by rw [b1, a1], s2, b2, .inl ⟨_, by simpa using hec, by simp, fun h0 => ?_⟩⟩
    rw [b3]; exact a3 h0
  · rcases tcpConnectFinish_rows _ name target h (n.tcpConnectOpen now name target s0).2 s2 b2
      with ⟨-, e⟩ | ⟨-, e⟩ | ⟨_, r, -, -, -, e⟩ <;> rw [e]
    · exact ⟨by rw [b1, a1], s2, b2, .inl ⟨Ec.afNoSupport, by decide, by simp, fun h0 => by rw [b3]; exact a3 h0⟩⟩
    · exact ⟨by rw [cfg_setTcp, b1, a1], _, tcp?_setTcp_same _ _ _,
        .inr ⟨by rw [← a1, ← b1], rfl, .inr ⟨rfl, fun h0 => by rw [b3]; exact a3 h0, by simp⟩⟩⟩
    · refine ⟨by rw [cfg_setTcp]; exact b1.trans a1, _, tcp?_setTcp_same _ _ _,
        .inr ⟨by rw [← a1, ← b1], rfl, .inl ⟨_, rfl, rfl, ?_⟩⟩⟩
      rw [chan?_setTcp, chan?_withChans, List.getElem?_concat_length]; rfl

/-- **A connect that went through to a pending connection set the MSS to the path MTU the
    configuration reports from the socket's own (implicitly) bound address to the target.**

    Hypothesis: no connect was outstanding before the call (`s0.connectH = none`). Without it
    "the socket now waits with handler `h`" does not identify the successful branch: a socket
    that is already connecting with the same handler id and whose second `async_connect` fails in the implicit bind keeps `connectH = some h` with its
    old MSS (see the counterexample below). `C20_connect_cases` is the unconditional form. -/
theorem C20_connect_sets_mss (n : NetSt) (now : Int) (name : String) (target : Ep) (h : Nat)
    (s0 : TcpSock) (n' : NetSt) (effs : List NEff) (s' : TcpSock)
    (h0 : n.tcp? name = some s0) (hfresh : s0.connectH = none)
    (hr : n.tcpConnect now name target h = (n', effs))
    (hs' : n'.tcp? name = some s') (hc : s'.connectH = some h) :
    s'.mss = n'.cfg.pathMtu s'.bound.addr target.addr ∧ n'.cfg = n.cfg ∧ s'.cwnd = s'.mss * 2
    ∧ ∃ c, s'.chan = some c ∧ (n'.chan? c).map Chan.ep0 = some s'.bound := by
  obtain ⟨a1, s1, a2, a3⟩ := C20_connect_cases n now name target h s0 h0
  rw [hr] at a1 a2 a3
  dsimp only at a1 a2 a3
  rw [hs'] at a2; cases a2
  rcases a3 with ⟨_, _, _, b⟩ | ⟨b1, b2, b3⟩
  · rw [b hfresh] at hc; cases hc
  · rcases b3 with ⟨c, c1, _, c3⟩ | ⟨_, c2, _⟩
    · exact ⟨by rw [a1]; exact b1, a1, b2, c, c1, c3⟩
    · rw [c2 hfresh] at hc; cases hc

/-- **The accepting side**: attaching an incoming connection to the peer socket sets its MSS to
    the configured path MTU from the acceptor's bound address to the connector's real endpoint
    (`ch.ep0`), binds it to the acceptor's endpoint and gives it the channel. (`tcpOpen` /
    `tcpClose` of the peer may update a channel's byte counters — the end-of-stream packet of a
    previous connection — but never its endpoints, so `ch` may be read before the call.) -/
theorem C20_attach_sets_mss (n : NetSt) (now : Int) (peer : String) (bindEp : Ep) (cid : Nat)
    (p0 : TcpSock) (ch : Chan) (hp : n.tcp? peer = some p0) (hc : n.chan? cid = some ch) :
    (n.tcpAttach now peer bindEp cid).1.cfg = n.cfg
    ∧ (∀ c, ((n.tcpAttach now peer bindEp cid).1.chan? c).map Chan.ep0 = (n.chan? c).map Chan.ep0)
    ∧ ∃ s', (n.tcpAttach now peer bindEp cid).1.tcp? peer = some s'
        ∧ s'.mss = n.cfg.pathMtu bindEp.addr ch.ep0.addr ∧ s'.cwnd = s'.mss * 2
        ∧ s'.bound = bindEp ∧ s'.chan = some cid ∧ s'.connectH = none := by
  obtain ⟨cs, hb, e⟩ := tcpAttach_exact n now peer bindEp cid p0 hp
  -- `open()` may have moved a byte counter of the channel, not its endpoints
  have hep := hb.map Chan.ep0 fun _ => rfl
  obtain ⟨ch1, hch1, e0⟩ : ∃ ch1, cs[cid]? = some ch1 ∧ ch1.ep0 = ch.ep0 := by
    have := hep cid; rw [hc] at this; exact Option.map_eq_some_iff.mp this
  rw [e, hch1]
  refine ⟨rfl, fun c => (?_ : _ = _).trans (hep c), _, tcp?_setTcp_same _ _ _, by rw [← e0]; rfl, rfl, rfl, rfl, rfl⟩
  rw [chan?_setTcp]
  by_cases hcc : c = cid
  · subst hcc; rw [chan?_setChan_same _ _ _ (by rw [show NetSt.chan? _ c = cs[c]? from rfl, hch1]; rfl), hch1]; rfl
  · rw [chan?_setChan_other _ _ _ _ hcc]; rfl

/-- **The configuration (and with it the MTU table) is never changed** by the functions of
    this property. -/
theorem C20_cfg_unchanged (n : NetSt) (now : Int) (name : String) :
    (∀ p, (n.tcpSendPacket now name p).1.cfg = n.cfg)
    ∧ (∀ hops seg, (n.tcpSendSeg now name hops seg).1.cfg = n.cfg)
    ∧ (n.tcpClose now name).1.cfg = n.cfg
    ∧ (∀ v4, (n.tcpOpen now name v4).1.cfg = n.cfg)
    ∧ (∀ target h, (n.tcpConnect now name target h).1.cfg = n.cfg)
    ∧ (∀ bindEp cid, (n.tcpAttach now name bindEp cid).1.cfg = n.cfg)
    ∧ (∀ tp p, (n.tcpPacketDropped tp name p).cfg = n.cfg)
    ∧ (∀ n' effs, n.tcpResendOne now name = some (n', effs) → n'.cfg = n.cfg)
    ∧ (∀ target, (n.internalConnect name target).1.cfg = n.cfg) :=
  ⟨fun p => (tcpSendPacket_step n now name p).cfg,
   fun hops seg => (tcpSendSeg_step n now name hops seg).cfg,
   (tcpClose_step n now name).cfg,
   fun v4 => (tcpOpen_step n now name v4).cfg,
   fun target h => by
     cases hs : n.tcp? name with
     | none => rw [tcpConnect_none n now name target h hs]
     | some s0 => exact (C20_connect_cases n now name target h s0 hs).1,
   fun bindEp cid => by
     cases hp : n.tcp? name with
     | none => rw [tcpAttach_none n now name bindEp cid hp]
     | some p0 => obtain ⟨cs, -, e⟩ := tcpAttach_exact n now name bindEp cid p0 hp; rw [e]; cases cs[cid]? <;> rfl,
   fun tp p => (tcpPacketDropped_step n name tp p).cfg,
   fun _ _ h => (tcpResendOne_step n now name _ h).cfg,
   internalConnect_cfg n name⟩

/-- **A dropped segment is queued for retransmission as it was sent**: same sequence number,
    payload, length, type and overhead (only the route and the drop callback are renewed);
    it is appended as one entry of its own, and the socket's MSS and next sequence number do
    not change. Without a channel nothing happens at all. -/
theorem C20_no_merge_split_dropped (tp : TParams) (n : NetSt) (name : String) (p : Pkt)
    (s : TcpSock) (hs : n.tcp? name = some s) :
    (s.chan.bind n.chan? = none ∧ n.tcpPacketDropped tp name p = n)
    ∨ ∃ s' p', (n.tcpPacketDropped tp name p).tcp? name = some s'
        ∧ s'.resend = s.resend ++ [p']
        ∧ p' = { p with hops := p'.hops, hasDrop := p'.hasDrop, dropFwd := p'.dropFwd }
        ∧ p'.id = p.id ∧ p'.payload = p.payload ∧ p'.len = p.len ∧ p'.ty = p.ty ∧ p'.ovh = p.ovh
        ∧ s'.mss = s.mss ∧ s'.nextOut = s.nextOut := by
  rcases tcpPacketDropped_cases n name tp p s hs with h | ⟨ch, s', _, h2, h3⟩
  · exact .inl h
  · exact .inr ⟨s', handedBack tp s (ch.hops (ch.remoteIdx s.bound)) p,
      by rw [h2]; exact tcp?_setTcp_same _ _ _, by rw [h3], rfl, rfl, rfl, rfl, rfl, rfl, by rw [h3], by rw [h3]⟩

/-- **Retransmission sends the head of the retransmission list, one stored segment per packet,
    unaltered** (only the capture's byte counter is stamped): the head is removed from the
    list, every forwarded packet is that head, there is at most one, and exactly one when the
    socket has a channel. MSS and next sequence number do not change. -/
theorem C20_no_merge_split_resend (n : NetSt) (now : Int) (name : String) (s : TcpSock)
    (n' : NetSt) (effs : List NEff) (hs : n.tcp? name = some s)
    (h : n.tcpResendOne now name = some (n', effs)) :
    ∃ p rest, s.resend = p :: rest
      ∧ (n'.tcp? name).map (·.resend) = some rest
      ∧ (n'.tcp? name).map (·.mss) = some s.mss
      ∧ (n'.tcp? name).map (·.nextOut) = some s.nextOut
      ∧ (∀ q, NEff.forward q ∈ effs → q = { p with bc := q.bc })
      ∧ (s5_forwards effs).length ≤ 1
      ∧ ((s.chan.bind n.chan?).isSome → (s5_forwards effs).length = 1) := by
  obtain ⟨s0, p, rest, hs0, hr, _, _, he⟩ := tcpResendOne_some n now name _ h
  rw [hs] at hs0; cases hs0
  obtain ⟨s', h1, h2⟩ := (tcpSendPacket_step (n.setTcp name { s with resend := rest }) now name p).self _
    (tcp?_setTcp_same _ _ _)
  obtain ⟨f1, f2, f3⟩ := tcpSendPacket_one_unaltered (n.setTcp name { s with resend := rest }) now name p
  rw [← he] at h1 f1 f2 f3
  exact ⟨p, rest, hr, by rw [h1, h2]; rfl, by rw [h1, h2]; rfl, by rw [h1, h2]; rfl, f1, f2,
    f3 { s with resend := rest } (tcp?_setTcp_same _ _ _)⟩

/-- **(a) Don't-fragment set, datagram above the path MTU: silently discarded.** `send_to`
    reports success and the full byte count, nothing is forwarded (nor captured): the only
    effects are those of `abort_send_handlers()`. -/
theorem C20_udp_df (n : NetSt) (now : Int) (name : String) (dst : Ep) (payload : List UInt8)
    (u : UdpSock) (hs : n.udp? name = some u) (hb : u.bound.isDefault = false)
    (hdf : u.df = true) (hbig : payload.length > n.cfg.pathMtu u.bound.addr dst.addr)
    (hmax : payload.length ≤ 65535) :
    (n.udpSendTo now name dst payload).2.2 = (.ok, payload.length)
    ∧ (n.udpSendTo now name dst payload).2.1 = (u.abortSend name).2
    ∧ (∀ p, NEff.forward p ∉ (n.udpSendTo now name dst payload).2.1) := by
  rw [udpSendTo_bound n now name dst payload u hs hb,
    udpSendTail_dfDrop _ _ now name dst payload { u with waitSendH := none } (udp?_setUdp_same _ _ _) (by omega)
      hmax hdf hbig]
  refine ⟨rfl, rfl, fun p hp => ?_⟩
  rw [← mem_s5_forwards, s5_forwards_eq, fwdsOf_abortSend] at hp
  cases hp

/-- **(b) Within the path MTU the option makes no difference**: the same call on the same state
    with the flag set and with the flag cleared returns the same effects, error code and byte
    count, and leaves the same socket up to the flag itself. (Hypothesis exactly as weak as
    the model allows: `¬ payload.length > mtu`.) -/
theorem C20_udp_df_irrelevant (n : NetSt) (now : Int) (name : String) (dst : Ep) (payload : List UInt8)
    (u : UdpSock) (hs : n.udp? name = some u) (hb : u.bound.isDefault = false)
    (hsmall : ¬ payload.length > n.cfg.pathMtu u.bound.addr dst.addr) :
    ((n.setUdp name { u with df := true }).udpSendTo now name dst payload).2
      = ((n.setUdp name { u with df := false }).udpSendTo now name dst payload).2
    ∧ (((n.setUdp name { u with df := true }).udpSendTo now name dst payload).1.udp? name).map
          (fun u => { u with df := false })
      = (((n.setUdp name { u with df := false }).udpSendTo now name dst payload).1.udp? name).map
          (fun u => { u with df := false }) := by
  have hr : ∀ b, ((n.setUdp name { u with df := b }).setUdp name { u with df := b, waitSendH := none }).udpRoute
      u.bound dst = n.udpRoute u.bound dst := fun b =>
    (udpRoute_setUdp (n.setUdp name { u with df := b }) name { u with df := b }
      { u with df := b, waitSendH := none } (udp?_setUdp_same _ _ _) rfl rfl _ _).trans
      (udpRoute_setUdp n name u { u with df := b } hs rfl rfl _ _)
  obtain ⟨h1, h2⟩ := udpSendTail_df _ ((n.setUdp name { u with df := true }).setUdp name
      { u with df := true, waitSendH := none }) (u.abortSend name).2 now name dst payload
    { u with df := false, waitSendH := none } true
    (udp?_setUdp_same (n.setUdp name { u with df := false }) name _) (udp?_setUdp_same _ _ _) rfl
    ((hr true).trans (hr false).symm) hsmall
  rw [udpSendTo_bound _ now name dst payload { u with df := true } (udp?_setUdp_same _ _ _) hb,
    udpSendTo_bound _ now name dst payload { u with df := false } (udp?_setUdp_same _ _ _) hb]
  refine ⟨h1, (congrArg (Option.map fun w : UdpSock => { w with df := false }) h2).trans ?_⟩
  rw [Option.map_map]; rfl

/-- **(c) A datagram is delivered whole or not at all**: every forwarded packet carries exactly
    the caller's bytes (never fragmented or truncated, also above the MTU) and `send_to` then
    reports the full count; at most one packet is forwarded; and when the option is clear (or
    the datagram fits the MTU), the datagram is non-empty and at most 65535 bytes, the send
    queue is not full and the destination is a bound UDP socket, exactly one packet IS
    forwarded, along the route `udpRoute` computes. -/
theorem C20_udp_whole (n : NetSt) (now : Int) (name : String) (dst : Ep) (payload : List UInt8)
    (u : UdpSock) (hs : n.udp? name = some u) (hb : u.bound.isDefault = false) :
    (∀ p, NEff.forward p ∈ (n.udpSendTo now name dst payload).2.1 →
        p.payload = payload ∧ p.len = payload.length ∧ p.ty = .payload ∧ p.src = u.bound.toString
        ∧ (n.udpSendTo now name dst payload).2.2 = (.ok, payload.length))
    ∧ (s5_forwards (n.udpSendTo now name dst payload).2.1).length ≤ 1
    ∧ (∀ hops, (u.df = false ∨ payload.length ≤ n.cfg.pathMtu u.bound.addr dst.addr) →
        0 < payload.length → payload.length ≤ 65535 → ¬ (u.nextSend - now > u.sendQueueTime) →
        n.udpRoute u.bound dst = some hops →
        s5_forwards (n.udpSendTo now name dst payload).2.1
            = [{ id := 0, ty := .payload, len := payload.length, ovh := 28, hops := hops,
                 src := u.bound.toString, payload := payload }]
        ∧ (n.udpSendTo now name dst payload).2.2 = (.ok, payload.length)) := by
  have habort : s5_forwards (u.abortSend name).2 = [] := by rw [s5_forwards_eq, fwdsOf_abortSend]
  have hr : (n.setUdp name { u with waitSendH := none }).udpRoute u.bound dst = n.udpRoute u.bound dst :=
    udpRoute_setUdp n name u { u with waitSendH := none } hs rfl rfl _ _
  have hf : ∀ hops, s5_forwards ((u.abortSend name).2 ++ (if (n.setUdp name { u with waitSendH := none }).cfg.pcap
      then [NEff.pcapUdp now u.bound dst payload] else []) ++ [.forward (sendPkt u.bound hops payload)])
      = [sendPkt u.bound hops payload] := fun hops => by
    rw [s5_forwards_append, s5_forwards_append, habort, s5_forwards_eq (ite _ _ _), fwdsOf_pcap]; rfl
  rw [udpSendTo_bound n now name dst payload u hs hb]
  -- the rows of `send_to_impl` either keep the effects or forward one datagram
  have ht := udpSendTail_total (n.setUdp name { u with waitSendH := none }) (u.abortSend name).2 .ok now name dst
    payload
  refine and_assoc.mp ⟨?_, fun hops hdf h0 h1 h3 h4 => ?_⟩
  · rcases ht with ⟨he, -⟩ | ⟨u', hops, hu', -, -, -, -, e⟩
    · rw [he, habort]
      exact ⟨fun p hp => (by rw [← mem_s5_forwards, habort] at hp; cases hp), Nat.zero_le _⟩
    · rw [udp?_setUdp_same] at hu'; cases hu'
      rw [e, hf]
      refine ⟨fun p hp => ?_, Nat.le_refl 1⟩
      rw [← mem_s5_forwards, hf] at hp
      cases List.mem_singleton.mp hp
      exact ⟨rfl, rfl, rfl, rfl, rfl⟩
  · rw [udpSendTail_sent _ _ now name dst payload { u with waitSendH := none } (udp?_setUdp_same _ _ _) (by omega) h1
      (fun ⟨hd, hbig⟩ => hdf.elim (fun h => by rw [h] at hd; cases hd) fun h => Nat.not_lt.mpr h hbig) h3 hops
      (hr.trans h4)]
    exact ⟨hf hops, rfl⟩

/-- connecting `c` (A) to the acceptor on B: implicit bind to 10.0.0.1:2000, MSS = the A→B path
    MTU 100, window 200, pending on channel 0 -/
example :
    c20Listen.tcp? "c" = some { node := "A" }
    ∧ ((c20Listen.tcpConnect 0 "c" { addr := "10.0.0.2", port := 8080 } 7).1.tcp? "c").map
        (fun s => (s.mss, s.cwnd, s.bound, s.connectH, s.chan))
      = some (100, 200, { addr := "10.0.0.1", port := 2000 }, some 7, some 0) := by
  exact ⟨rfl, by decide +kernel⟩

/-- the accepting side of the same connection gets the B→A path MTU, 3000 -/
example : ∃ s', (c20Pending.tcpAttach 0 "p" { addr := "10.0.0.2", port := 8080 } 0).1.tcp? "p" = some s'
    ∧ s'.mss = 3000 ∧ s'.chan = some 0 := by
  obtain ⟨_, _, s', h1, h2, _, _, h3, _⟩ :=
    C20_attach_sets_mss c20Pending 0 "p" { addr := "10.0.0.2", port := 8080 } 0 _ _ rfl rfl
  exact ⟨s', h1, by rw [h2]; decide, h3⟩

/-- a 250-byte buffer written on the connector (MSS 100) is cut into 100 + 100 + 50 -/
example : (c20Pending.tcpWritePrep "c" [c20Buf250]).toOption
    = some (["q"], [List.replicate 100 7, List.replicate 100 7, List.replicate 50 7]) := by
  decide +kernel

/-- with an MSS of 3: 8 bytes in two buffers; segments do not span buffers -/
example : (c20Mss3.tcpWritePrep "c" [[1, 2, 3, 4, 5], [6, 7, 8]]).toOption
    = some (["q"], [[1, 2, 3], [4, 5], [6, 7, 8]]) := by decide

/-- the segment leaves as one packet, sequence number 0, the 100 bytes unaltered -/
example : (s5_forwards (c20Pending.tcpSendSeg 0 "c" ["q"] (List.replicate 100 7)).2).map
      (fun p => (p.id, p.ty, p.len, p.hops, p.payload))
    = [(0, .payload, 100, ["q"], List.replicate 100 7)] := by
  decide +kernel

/-- a dropped segment comes back as one retransmission entry with its bytes … -/
example :
    ((c20Pending.tcpPacketDropped {} "c" { id := 4, len := 3, ovh := 40, payload := [1, 2, 3] }).tcp? "c").map
        (fun s => s.resend.map (fun p => (p.id, p.len, p.payload, p.hops)))
      = some [((4 : Nat), (3 : Nat), ([1, 2, 3] : List UInt8), ["q"])] := by
  decide +kernel

/-- … and retransmission forwards exactly that entry -/
example :
    ((c20Pending.tcpPacketDropped {} "c" { id := 4, len := 3, ovh := 40, payload := [1, 2, 3] }).tcpResendOne 0 "c").map
        (fun r => (s5_forwards r.2).map (fun p => (p.id, p.len, p.payload, p.hops)))
      = some [((4 : Nat), (3 : Nat), ([1, 2, 3] : List UInt8), ["q"])] := by
  decide +kernel

/-- (a) don't-fragment set, 150 bytes over a 100-byte path: reported sent, nothing forwarded -/
example :
    ((c20Udp true).udpSendTo 0 "u" { addr := "10.0.0.2", port := 4000 } (List.replicate 150 1)).2.2 = (.ok, 150)
    ∧ ∀ p, NEff.forward p ∉ ((c20Udp true).udpSendTo 0 "u" { addr := "10.0.0.2", port := 4000 } (List.replicate 150 1)).2.1 := by
  have h := C20_udp_df (c20Udp true) 0 "u" { addr := "10.0.0.2", port := 4000 } (List.replicate 150 1) _ rfl
    (by decide) rfl (by rw [List.length_replicate]; decide +kernel) (by rw [List.length_replicate]; decide)
  exact ⟨h.1.trans (by rw [List.length_replicate]), h.2.2⟩

/-- (c) option clear: the same 150 bytes are forwarded whole, in one packet -/
example :
    (s5_forwards ((c20Udp false).udpSendTo 0 "u" { addr := "10.0.0.2", port := 4000 } (List.replicate 150 1)).2.1).map
        (fun p => (p.len, p.payload, p.hops))
      = [(150, List.replicate 150 1, ["q"])] := by
  have h := (C20_udp_whole (c20Udp false) 0 "u" { addr := "10.0.0.2", port := 4000 } (List.replicate 150 1) _ rfl
    (by decide)).2.2 ["q"] (.inl rfl) (by rw [List.length_replicate]; decide) (by rw [List.length_replicate]; decide)
    (by decide) (by decide)
  rw [h.1, List.length_replicate]; rfl

/-- why `C20_connect_sets_mss` asks for "no connect outstanding": a socket already connecting
    with handler 7 on a node without addresses fails the implicit bind and keeps handler 7 and
    its old MSS 1475, while the table says 100 -/
example :
    ((c20NoAddr.tcpConnect 0 "c" { addr := "10.0.0.2", port := 8080 } 7).1.tcp? "c").map
        (fun s => (s.connectH, s.mss,
          (c20NoAddr.tcpConnect 0 "c" { addr := "10.0.0.2", port := 8080 } 7).1.cfg.pathMtu s.bound.addr "10.0.0.2"))
      = some (some 7, 1475, 100) := by
  decide +kernel

/-- **Along every history of a connection** — any writes, deliveries in any order, drops,
    retransmissions, reads, close — every segment ever created, every payload packet in flight,
    every packet waiting for retransmission and every packet in the reader's reorder buffer
    carries at most the writer's MSS as it was when the connection was made (`mss0`; by
    `C20_connect_sets_mss` / `C20_attach_sets_mss` the configured path MTU of the two
    endpoints), and none is empty; the writer's MSS itself never changes while the connection
    is open. -/
theorem C20_sys_segment_bound (c : TcpCfg) (n : NetSt) (h : TcpStart c n) (ls : List TLbl)
    (sa0 : TcpSock) (hsa0 : n.tcp? c.a = some sa0) (hm : 0 < sa0.mss) :
    let s := TS.run c (TS.init c n) ls
    (∀ x ∈ s.segs, x ≠ [] ∧ x.length ≤ sa0.mss)
    ∧ (∀ p ∈ s.bag, p.ty = .payload → p.payload ≠ [] ∧ p.payload.length ≤ sa0.mss)
    ∧ (∃ sa, s.net.tcp? c.a = some sa ∧ (s.closed = false → sa.mss = sa0.mss)
        ∧ ∀ p ∈ sa.resend, p.payload ≠ [] ∧ p.payload.length ≤ sa0.mss)
    ∧ (∃ sb, s.net.tcp? c.b = some sb
        ∧ ∀ e ∈ sb.reorder, e.2.ty = .payload → e.2.payload ≠ [] ∧ e.2.payload.length ≤ sa0.mss) := by
  intro s
  have hI := (TInv.reach h ls).core
  have hm0 : s.mss0 = sa0.mss := by
    show (TS.run c (TS.init c n) ls).mss0 = _
    rw [TS.run_mss0]; simp [TS.init, hsa0]
  rw [hm0] at hI
  have hb := hI.segsB hm
  have hget : ∀ {k : Nat} {pl : List UInt8}, s.segs[k]? = some pl → pl ≠ [] ∧ pl.length ≤ sa0.mss :=
    fun hk => hb _ (List.mem_of_getElem? hk)
  obtain ⟨g1, ⟨sa, hsa, g2⟩, sb, hsb, g3, _⟩ := hI.genuine
  obtain ⟨sa', hsa', hao⟩ := hI.exA
  rw [hsa] at hsa'; cases hsa'
  exact ⟨hb, fun p hp hty => hget (g1 p hp hty), ⟨sa, hsa, fun hc => (hao.live hc).2, fun p hp => hget (g2 p hp).2⟩,
    sb, hsb, fun e he hty => hget (g3 e he hty)⟩

/-- **Segments are never merged, split or altered anywhere on the way**: along every history,
    a payload packet with sequence number `k` — in flight, dropped and waiting for
    retransmission, retransmitted, or parked in the reorder buffer — carries exactly the bytes
    `segs[k]` that `write_some_impl` cut for that number, and what the reader gets is their
    concatenation in order (`C05_prefix`). -/
theorem C20_sys_unaltered (c : TcpCfg) (n : NetSt) (h : TcpStart c n) (ls : List TLbl) :
    let s := TS.run c (TS.init c n) ls
    (∀ p ∈ s.bag, p.ty = .payload → s.segs[p.id]? = some p.payload)
    ∧ (∃ sa, s.net.tcp? c.a = some sa ∧ ∀ p ∈ sa.resend, p.ty = .payload ∧ s.segs[p.id]? = some p.payload)
    ∧ (∃ sb, s.net.tcp? c.b = some sb
        ∧ ∀ e ∈ sb.reorder, e.2.ty = .payload → s.segs[e.1]? = some e.2.payload) := by
  intro s
  obtain ⟨g1, g2, sb, hsb, g3, _⟩ := (TInv.reach h ls).core.genuine
  exact ⟨g1, g2, sb, hsb, g3⟩

/-- non-vacuity: the history of SimVerif/TcpEx.lean (MSS 3: segments [1,2,3] and [4]) -/
example := C20_sys_segment_bound TcpEx.c TcpEx.n0 (established_start _ _ _ _ _ _ (by decide)).1 TcpEx.hist
  _ rfl (by decide)

end SimVerif
