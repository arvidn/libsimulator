/-
  C04 — Completion handlers: never inline, at most once, aborted on cancel / close.

  Property theorems, the as-is `abort_send_handlers()` (`udpAbortSendAsIs`) and the example
  histories `C04Ex`. Mechanism models: timers `SimVerif/Kernel.lean`, UDP sockets
  `SimVerif/Net.lean`, TCP sockets and acceptors `SimVerif/Tcp.lean`, resolver
  `SimVerif/Resolver.lean`. In these models a completion is an *effect*: `NEff.post c` (the
  C++ `post(ioc, bind(handler, …))`; the kernel model appends it to `ready`, C02 runs it later)
  or `NEff.invoke c` (the handler is called on the spot — only internal timer callbacks do
  that). A handler slot is an `Option` field of the socket. Open systems with ghost logs
  (`started`, `log`, `parked`): `SimVerif/HandlerSys.lean`.

  Vocabulary: `noInvoke effs` — no `.invoke` in the list; `h4_postsOf effs` — the posted
  completions in order; `effIds effs` — handler ids of all completions (posted or invoked);
  `udpAbortRecvEffs u`, `udpAbortSendEffs u`, `tcpAbortRecvEffs s`, `tcpAbortSendEffs s`,
  `tcpAbortConnEffs s`, `tcpAbortAcceptEffs s`, `tcpCancelEffs s` — the `operation_aborted`
  posts of the occupied slots, as explicit expressions of the slots;
  `UdpSock.slotIds` / `TcpSock.slotIds` — the handler ids a socket holds, in abort order.
-/
import SimVerif.Props.C03
import SimVerif.Props.C14
import SimVerif.TcpEx
import SimVerif.Lemmas.HandlersTcpSys
import SimVerif.Lemmas.HandlersUdpSys
import SimVerif.Lemmas.HandlersWire

namespace SimVerif

open HL

/-- **Timers.** `async_wait`, `cancel`, `expires_at`, `expires_after` run no handler (`ran`, the log
    of executed completions, is untouched): whatever they complete is appended to the ready
    queue, behind everything already there. -/
theorem C04_never_inline_timer (p : KParams) (k : K) (i h : Nat) (e : Int) :
    ((asyncWait p k i h).ran = k.ran ∧ ∃ l, (asyncWait p k i h).ready = k.ready ++ l)
    ∧ ((cancel k i).1.ran = k.ran ∧ ∃ l, (cancel k i).1.ready = k.ready ++ l)
    ∧ ((expiresAt k i e).1.ran = k.ran ∧ ∃ l, (expiresAt k i e).1.ready = k.ready ++ l)
    ∧ ((expiresAfter k i e).1.ran = k.ran ∧ ∃ l, (expiresAfter k i e).1.ready = k.ready ++ l) :=
  ⟨step_appends p k (.wait i h) nofun, step_appends p k (.cancel i) nofun,
   step_appends p k (.expiresAt i e) nofun, step_appends p k (.expiresAfter i e) nofun⟩

/-- In the open systems of SimVerif/HandlerSys.lean every label other than the two
    internal timer callbacks (the UDP deferred wait-for-write's timer, the refused connect's
    timer) yields an effect list without `.invoke`: API calls, packet arrivals, drop
    notifications, the write / retransmission loops only post. (`on_lookup` of the resolver is
    the third internal callback: C14.) -/
theorem C04_never_inline (tp : TParams) (n : NetSt) (name : String) :
    (∀ l : ULbl, (∀ ab, l ≠ .sendTimer ab) → noInvoke (l.eff name n).2)
    ∧ (∀ l : h4_HLbl, (∀ h, l ≠ .refusedFired h) → noInvoke (l.eff tp n).2) := by
  constructor
  · intro l hl
    cases l with
    | recv op => exact ni_udpAsyncRecv _ _ _
    | waitRead h => exact ni_udpWaitRead _ _ _
    | waitWrite now h => exact ni_udpWaitWrite _ _ _ _
    | recvNb caps => exact ni_udpRecvNb _ _ _
    | sendTo now dst pl => exact ni_udpSendTo _ _ _ _ _
    | cancel => exact ni_udpCancel _ _
    | close => exact ni_udpClose _ _
    | reopen v4 => exact ni_udpOpen _ _ _
    | bind ep => simp [ULbl.eff]
    | incoming p =>
      simp only [ULbl.eff]
      split
      · simp
      · exact ni_udp_incoming _ _
    | sendTimer ab => exact absurd rfl (hl ab)
  · exact fun l => (label_step tp { n := n } l).1

/-- **UDP sockets.** Every entry point the program can call (and the packet-arrival path) returns
    an effect list without `.invoke`. -/
theorem C04_never_inline_udp (n : NetSt) (name : String) (u : UdpSock) (now : Int) (op : RecvOp) (h : Nat)
    (caps : List Nat) (dst : Ep) (pl : List UInt8) (v4 : Bool) (p : Pkt) :
    noInvoke (n.udpAsyncRecv name op).2
    ∧ noInvoke (n.udpWaitRead name h).2
    ∧ noInvoke (n.udpWaitWrite now name h).2
    ∧ noInvoke (n.udpRecvNb name caps).2.1
    ∧ noInvoke (n.udpSendTo now name dst pl).2.1
    ∧ noInvoke (n.udpCancel name).2
    ∧ noInvoke (n.udpClose name).2
    ∧ noInvoke (n.udpOpen name v4).2
    ∧ noInvoke (u.cancel name).2 ∧ noInvoke u.abortRecv.2 ∧ noInvoke (u.abortSend name).2
    ∧ noInvoke (u.asyncReceive op).2 ∧ noInvoke (u.asyncWaitReceive h).2
    ∧ noInvoke u.maybeWakeup.2 ∧ noInvoke (u.incoming p).2 :=
  have L := (C04_never_inline {} n name).1
  ⟨L (.recv op) nofun, L (.waitRead h) nofun, L (.waitWrite now h) nofun, L (.recvNb caps) nofun,
   L (.sendTo now dst pl) nofun, L .cancel nofun, L .close nofun, L (.reopen v4) nofun, ni_udp_cancel _ _,
   ni_udp_abortRecv _, ni_udp_abortSend _ _, ni_udp_asyncReceive _ _, ni_udp_asyncWaitReceive _ _,
   ni_udp_maybeWakeup _, ni_udp_incoming _ _⟩

/-- **TCP sockets**: the API entry points, the functions behind the control-flow effects
    `.tcpWrite` / `.tcpWake` (`tcpSendSeg`, `tcpSendPacket`, `tcpWriteFinish`), `.tcpResend`
    (`tcpResendOne`) — `tcpWritePrep`, `tcpAckPost`, `tcpPacketDropped`, `tcpBind`, `tcpReadNb`
    return no effects at all — and the packet-arrival path. -/
theorem C04_never_inline_tcp (tp : TParams) (n : NetSt) (name : String) (s : TcpSock) (now : Int) (target : Ep)
    (h : Nat) (rop : ReadOp) (wop : WriteOp) (v4 : Bool) (p : Pkt) (hops : List String) (seg : List UInt8)
    (r : Except Ec Nat) :
    noInvoke (n.tcpConnect now name target h).2
    ∧ noInvoke (n.tcpAsyncRead name rop).2
    ∧ noInvoke (n.tcpWaitRead name h).2
    ∧ noInvoke (n.tcpAsyncWrite name wop).2
    ∧ noInvoke (n.tcpCancel name).2
    ∧ noInvoke (n.tcpClose now name).2
    ∧ noInvoke (n.tcpOpen now name v4).2
    ∧ noInvoke (n.tcpWriteFinish name wop r).2
    ∧ noInvoke (n.tcpSendSeg now name hops seg).2
    ∧ noInvoke (n.tcpSendPacket now name p).2
    ∧ (∀ x, n.tcpResendOne now name = some x → noInvoke x.2)
    ∧ noInvoke (n.tcpIncoming tp now name p).2
    ∧ noInvoke s.cancel.2 ∧ noInvoke s.abortRecv.2 ∧ noInvoke s.abortSend.2
    ∧ noInvoke (s.asyncReadImpl rop).2 ∧ noInvoke (s.asyncWaitReadImpl h).2
    ∧ noInvoke (s.maybeWakeupReader tp).2 :=
  have L := (C04_never_inline tp n name).2
  ⟨L (.connect now name target h) nofun, L (.read name rop) nofun, L (.waitRead name h) nofun,
   L (.write name wop) nofun, L (.cancel name) nofun, L (.close now name) nofun, L (.reopen now name v4) nofun,
   (own_tcpWriteFinish n name wop r).noInvoke, (viaSend_sendSeg _ _ _ _ _).act.noInvoke,
   silent_noInvoke (tcpSendPacket_parts n now name p).2.1, fun x hx => (viaSend_resendOne _ _ _ x hx).act.noInvoke,
   (own_tcpIncoming tp n now name p).noInvoke,
   (sstep_cancel _).posts.noInvoke, (sstep_abortRecv _).posts.noInvoke, (sstep_abortSend _).posts.noInvoke,
   (posts_asyncReadImpl _ _).noInvoke, (posts_asyncWaitReadImpl _ _).noInvoke,
   (sstep_maybeWakeupReader _ _).posts.noInvoke⟩

/-- **Acceptors**: the three `async_accept` overloads, `cancel`, `close`, and the SYN-arrival path
    (`check_accept_queue`, attaching the connection to the peer socket). -/
theorem C04_never_inline_acceptor (n : NetSt) (name peer : String) (s : TcpSock) (now : Int) (op : AcceptOp)
    (p : Pkt) (ep : Ep) (cid : Nat) :
    noInvoke (n.accAsyncAccept now name op).2
    ∧ noInvoke (n.accCancel name).2
    ∧ noInvoke (n.accClose now name).2
    ∧ noInvoke (n.accCheckQueue now name).2
    ∧ noInvoke (n.accIncoming now name p).2
    ∧ noInvoke (n.tcpAttach now peer ep cid).2
    ∧ noInvoke s.abortAccept.2 :=
  have L := (C04_never_inline {} n name).2
  ⟨L (.accept now name op) nofun, L (.accCancel name) nofun, L (.accClose now name) nofun,
   (act_accCheckQueue _ _ _).noInvoke, (act_accIncoming _ _ _ _).noInvoke, (act_tcpAttach _ _ _ _ _).noInvoke,
   (sstep_abortAccept _).posts.noInvoke⟩

/-- **Resolver**: `async_resolve` (literal or host name) and `cancel` produce no `REff.invoke`. -/
theorem C04_never_inline_resolver (p : RParams) (r : R) (now : Int) (addr : String) (err : Ec)
    (ips : List String) (lat : Int) (port h : Nat) :
    noInvokeR (r.resolveLiteral now addr port h).2
    ∧ noInvokeR (r.resolveName p now err ips lat port h).2
    ∧ noInvokeR r.cancel.2 :=
  ⟨niR_resolveLiteral _ _ _ _ _, niR_resolveName _ _ _ _ _ _ _ _, niR_cancel _⟩

/-- The inline invocations that do exist come from internal timer callbacks. The one that takes a
    handler out of a slot, the UDP deferred wait-for-write, empties the slot in the same step (the
    refused connect's handler is bound into its timer, not held in a slot). -/
theorem C04_inline_only_from_callbacks (n : NetSt) (name : String) (u : UdpSock) (hu : n.udp? name = some u) :
    (∀ h, u.waitSendH = some h →
        (n.udpSendWaitFired name false).2 = [.invoke { h := h, ec := .ok }]
        ∧ ∃ u', (n.udpSendWaitFired name false).1.udp? name = some u' ∧ u'.waitSendH = none)
    ∧ (u.waitSendH = none → n.udpSendWaitFired name false = (n, []))
    ∧ n.udpSendWaitFired name true = (n, []) := by
  unfold NetSt.udpSendWaitFired
  rw [hu]; dsimp only
  refine ⟨fun h hh => ?_, fun hh => ?_, by simp⟩
  · rw [hh]; exact ⟨by simp, _, udp?_setUdp_same _ _ _, rfl⟩
  · rw [hh]; simp

/-- **Timer**: `cancel()` / destructor (reused from C03): a pending wait is posted exactly once with
    `operation_aborted`, the slot is empty afterwards, nothing else is posted. -/
theorem C04_abort_exactly_once_timer (k : K) (i : Nat) (hk : KInv k) :
    (∀ h, (k.timers i).handler = some h →
        (cancel k i).1.ready = k.ready ++
            [{ h := h, ec := .aborted, tm := true, exp := (k.timers i).expiry, st := (k.timers i).startedAt }]
        ∧ ((cancel k i).1.timers i).handler = none)
    ∧ ((k.timers i).handler = none → (cancel k i).1.ready = k.ready) :=
  ⟨fun h hh => ⟨((C03_cancel k i hk).1 h hh).2.1, ((C03_cancel k i hk).1 h hh).2.2.1⟩,
   fun hn => ((C03_cancel k i hk).2 hn).2⟩

/-- **UDP `cancel()`**: the effect list is exactly — in this order — the abort of the receive slot,
    of the wait-for-read slot, of the wait-for-write slot (then the send timer's cancels); all
    three slots are empty afterwards. -/
theorem C04_abort_exactly_once_udp_cancel (name : String) (u : UdpSock) :
    (u.cancel name).2
      = udpAbortRecvEffs u ++ (udpAbortSendEffs u ++ [.cancelTimer name 0]) ++ [.cancelTimer name 0]
    ∧ (u.cancel name).1 = { u with recvH := none, waitRecvH := none, waitSendH := none }
    ∧ (h4_postsOf (u.cancel name).2).map (·.h) = u.slotIds
    ∧ (∀ c ∈ h4_postsOf (u.cancel name).2, c.ec = .aborted)
    ∧ invokesOf (u.cancel name).2 = [] := by
  rw [UdpSock.cancel_eq]
  refine ⟨rfl, rfl, ?_, ?_, ?_⟩
  · simp only [postsOf_append, List.map_append, (postsOf_udpAbortRecvEffs u).1, (postsOf_udpAbortSendEffs u).1,
      h4_postsOf, List.append_nil]
    rfl
  · intro c hc
    simp only [postsOf_append, h4_postsOf, List.append_nil, List.mem_append] at hc
    rcases hc with hc | hc
    · exact (postsOf_udpAbortRecvEffs u).2.1 c hc
    · exact (postsOf_udpAbortSendEffs u).2.1 c hc
  · exact invokesOf_noInvoke (by rw [← UdpSock.cancel_eq]; exact ni_udp_cancel _ _)

/-- **UDP `close()` / destructor**: the same aborts, computed from the slots the socket had; the
    socket is left closed, unbound, detached, queue dropped, slots empty. `udpCancel` likewise. -/
theorem C04_abort_exactly_once_udp_close (n : NetSt) (name : String) (u : UdpSock) (h : n.udp? name = some u) :
    (n.udpClose name).2 = (u.cancel name).2
    ∧ (n.udpCancel name).2 = (u.cancel name).2
    ∧ (n.udpClose name).1.udp? name = some { u with bound := {}, isOpen := false, fwd := none, queue := [],
                                                    queueSize := 0, recvH := none, waitRecvH := none,
                                                    waitSendH := none }
    ∧ (n.udpCancel name).1.udp? name = some { u with recvH := none, waitRecvH := none, waitSendH := none } := by
  rw [udpClose_exact n name u h, udpCancel_exact n name u h]
  exact ⟨rfl, rfl, udp?_setUdp_same .., udp?_setUdp_same ..⟩

/-- **TCP `cancel()`**: aborts, in this order, of the read slot, the wait-for-read slot, the write
    slot, the connect slot; all four are empty afterwards. -/
theorem C04_abort_exactly_once_tcp_cancel (s : TcpSock) :
    s.cancel.2 = tcpAbortRecvEffs s ++ tcpAbortSendEffs s ++ tcpAbortConnEffs s
    ∧ s.cancel.1 = { s with recvH := none, waitRecvH := none, recvNull := false, sendH := none, connectH := none }
    ∧ (h4_postsOf s.cancel.2).map (·.h)
        = (s.recvH.map (·.h)).toList ++ s.waitRecvH.toList ++ (s.sendH.map (·.h)).toList ++ s.connectH.toList
    ∧ (∀ c ∈ h4_postsOf s.cancel.2, c.ec = .aborted)
    ∧ invokesOf s.cancel.2 = [] := by
  rw [TcpSock.cancel_eq, tcpCancelEffs]
  refine ⟨rfl, rfl, ?_, ?_, ?_⟩
  · simp only [postsOf_append, List.map_append, posts_tcpAbortRecvEffs s, posts_tcpAbortSendEffs s,
      posts_tcpAbortConnEffs s]
  · exact (aborts_tcpCancelEffs s).postsOf_aborted
  · exact invokesOf_noInvoke (aborts_tcpCancelEffs s).posts.noInvoke

/-- **TCP `close()` / destructor**: the (completion-free) EOF announcement `tcpCloseEof`, then the
    aborts of the four slots the socket had, in slot order; the socket is left closed, unbound,
    detached, unconnected, with all four slots empty. -/
theorem C04_abort_exactly_once_tcp_close (n : NetSt) (now : Int) (name : String) (s : TcpSock)
    (h : n.tcp? name = some s) :
    (n.tcpClose now name).2 = (tcpCloseEof n now name s).2 ++ tcpCancelEffs s
    ∧ silent (tcpCloseEof n now name s).2
    ∧ h4_postsOf (n.tcpClose now name).2 = h4_postsOf s.cancel.2
    ∧ ∃ s', (n.tcpClose now name).1.tcp? name = some s'
        ∧ s'.recvH = none ∧ s'.waitRecvH = none ∧ s'.sendH = none ∧ s'.connectH = none
        ∧ s'.isOpen = false ∧ s'.fwd = none ∧ s'.chan = none := by
  obtain ⟨he, hs'⟩ := tcpClose_some n now name s h
  refine ⟨he, (effs_tcpCloseEof n now name s).1, ?_, _, hs', rfl, rfl, rfl, rfl, rfl, rfl, rfl⟩
  rw [he, postsOf_append, postsOf_silent (effs_tcpCloseEof n now name s).1, TcpSock.cancel_eq]
  rfl

/-- **Acceptor `cancel()`** (and the abort every `async_accept` / a closed `check_accept_queue`
    starts with): exactly the abort of the outstanding accept, carrying its handler; the accept
    slot is empty afterwards, the other slots untouched. -/
theorem C04_abort_exactly_once_acceptor_cancel (n : NetSt) (name : String) (s : TcpSock) (h : n.tcp? name = some s) :
    s.abortAccept.2 = tcpAbortAcceptEffs s
    ∧ (n.accCancel name).2 = tcpAbortAcceptEffs s
    ∧ (h4_postsOf (tcpAbortAcceptEffs s)).map (·.h) = (s.acceptOp.map AcceptOp.h).toList
    ∧ (∀ c ∈ h4_postsOf (tcpAbortAcceptEffs s), c.ec = .aborted)
    ∧ ∃ s', (n.accCancel name).1.tcp? name = some s' ∧ s'.acceptOp = none ∧ s'.recvH = s.recvH
        ∧ s'.waitRecvH = s.waitRecvH ∧ s'.sendH = s.sendH ∧ s'.connectH = s.connectH := by
  rw [accCancel_eq n name s h]
  obtain ⟨g0, g1, g2, g3, g4⟩ := tcp_abortAccept_slots s
  exact ⟨TcpSock.abortAccept_effs s, TcpSock.abortAccept_effs s, posts_tcpAbortAcceptEffs s, (aborts_tcpAbortAcceptEffs s).postsOf_aborted,
    _, tcp?_setTcp_same _ _ _, g0, g1, g2, g3, g4⟩

/-- **Acceptor `close()` / destructor**: the completions posted are exactly the abort of the
    outstanding accept followed by the aborts of the acceptor's (normally empty) socket slots —
    the resets sent to queued connections and the EOF logic carry no completion; afterwards every
    slot is empty, the acceptor is closed and detached, its connection queue is empty. -/
theorem C04_abort_exactly_once_acceptor_close (n : NetSt) (now : Int) (name : String) (s : TcpSock) (a : AccState)
    (hs : n.tcp? name = some s) (ha : s.acc = some a) :
    h4_postsOf (n.accClose now name).2 = h4_postsOf (tcpAbortAcceptEffs s) ++ h4_postsOf (tcpCancelEffs s)
    ∧ invokesOf (n.accClose now name).2 = []
    ∧ ∃ s', (n.accClose now name).1.tcp? name = some s'
        ∧ s'.acceptOp = none ∧ s'.recvH = none ∧ s'.waitRecvH = none ∧ s'.sendH = none ∧ s'.connectH = none
        ∧ s'.isOpen = false ∧ s'.fwd = none ∧ s'.acc.map (·.conns) = some [] :=
  have ⟨h1, heq⟩ := accClose_posts n now name s a hs ha
  ⟨h1, invokesOf_noInvoke (act_accClose n now name).noInvoke, _, heq,
    rfl, rfl, rfl, rfl, rfl, rfl, rfl, rfl⟩

/-- **Resolver `cancel()`**: one `operation_aborted` post per queued lookup, in queue order, carrying
    that lookup's handler; the queue is empty afterwards (`C14_cancel` adds: never completed again). -/
theorem C04_abort_exactly_once_resolver (r : R) :
    r.cancel.2 = r.queue.map (fun e => REff.post e.h .aborted e.res) ∧ r.cancel.1.queue = [] := ⟨rfl, rfl⟩

/-- **UDP receive**: `abort_recv_handlers()` first (both the receive and the wait-for-read slot are
    aborted), then the new operation is parked — or completed at once with one post. -/
theorem C04_supersede_udp_recv (n : NetSt) (name : String) (op : RecvOp) (u : UdpSock) (h : n.udp? name = some u) :
    ∃ e2 u', (n.udpAsyncRecv name op).2 = udpAbortRecvEffs u ++ e2
      ∧ (n.udpAsyncRecv name op).1.udp? name = some u' ∧ u'.waitRecvH = none ∧ u'.waitSendH = u.waitSendH
      ∧ ((u'.recvH = some op ∧ e2 = []) ∨ (u'.recvH = none ∧ ∃ c, e2 = [.post c] ∧ c.h = op.h)) := by
  unfold NetSt.udpAsyncRecv
  rw [h]; dsimp only
  rw [UdpSock.abortRecv_eq]; dsimp only
  obtain ⟨⟨o1, o2⟩, hc⟩ := udp_asyncReceive_rows { u with recvH := none, waitRecvH := none } op
  exact ⟨_, _, rfl, udp?_setUdp_same _ _ _, by rw [o1], by rw [o2], hc⟩

/-- **UDP wait-for-read**: same abort, then parked in the wait slot or posted at once. -/
theorem C04_supersede_udp_wait_read (n : NetSt) (name : String) (hd : Nat) (u : UdpSock) (h : n.udp? name = some u) :
    ∃ e2 u', (n.udpWaitRead name hd).2 = udpAbortRecvEffs u ++ e2
      ∧ (n.udpWaitRead name hd).1.udp? name = some u' ∧ u'.recvH = none ∧ u'.waitSendH = u.waitSendH
      ∧ ((u'.waitRecvH = some hd ∧ e2 = []) ∨ (u'.waitRecvH = none ∧ ∃ c, e2 = [.post c] ∧ c.h = hd)) := by
  unfold NetSt.udpWaitRead
  rw [h]; dsimp only
  rw [UdpSock.abortRecv_eq]; dsimp only
  refine ⟨_, _, rfl, udp?_setUdp_same _ _ _, ?_, ?_, ?_⟩
  · rw [(udp_asyncWaitReceive_other _ hd).1]
  · rw [(udp_asyncWaitReceive_other _ hd).2]
  · rcases udp_asyncWaitReceive_cases { u with recvH := none, waitRecvH := none } hd with ⟨a, b⟩ | ⟨a, b⟩
    · exact Or.inl ⟨a, b⟩
    · exact Or.inr ⟨by rw [a], b⟩

/-- **UDP wait-for-write** (also `send_to`): `abort_send_handlers()` first, then the new wait is
    deferred (slot occupied, timer armed) or posted at once. -/
theorem C04_supersede_udp_wait_write (n : NetSt) (now : Int) (name : String) (hd : Nat) (u : UdpSock)
    (h : n.udp? name = some u) :
    ∃ e2 u', (n.udpWaitWrite now name hd).2 = udpAbortSendEffs u ++ [.cancelTimer name 0] ++ e2
      ∧ (n.udpWaitWrite now name hd).1.udp? name = some u' ∧ u'.recvH = u.recvH ∧ u'.waitRecvH = u.waitRecvH
      ∧ ((u'.waitSendH = some hd ∧ h4_postsOf e2 = []) ∨ (u'.waitSendH = none ∧ e2 = [.post { h := hd, ec := .ok }])) := by
  unfold NetSt.udpWaitWrite
  rw [h]; dsimp only
  rw [UdpSock.abortSend_eq]; dsimp only
  split
  · exact ⟨_, _, rfl, udp?_setUdp_same _ _ _, rfl, rfl, Or.inl ⟨rfl, rfl⟩⟩
  · exact ⟨_, _, rfl, udp?_setUdp_same _ _ _, rfl, rfl, Or.inr ⟨rfl, rfl⟩⟩

/-- **TCP read**: `abort_recv_handlers()` (read and wait-for-read slots), then parked or posted. -/
theorem C04_supersede_tcp_read (n : NetSt) (name : String) (op : ReadOp) (s : TcpSock) (h : n.tcp? name = some s) :
    ∃ e2 s', (n.tcpAsyncRead name op).2 = tcpAbortRecvEffs s ++ e2
      ∧ (n.tcpAsyncRead name op).1.tcp? name = some s' ∧ s'.waitRecvH = none
      ∧ s'.sendH = s.sendH ∧ s'.connectH = s.connectH
      ∧ ((s'.recvH = some op ∧ e2 = []) ∨ (s'.recvH = none ∧ ∃ c, e2 = [.post c] ∧ c.h = op.h)) := by
  rw [tcpAsyncRead_eq h, TcpSock.abortRecv_eq]; dsimp only
  obtain ⟨o1, o2, o3, _⟩ := tcp_asyncReadImpl_other { s with recvH := none, waitRecvH := none, recvNull := false } op
  exact ⟨_, _, rfl, tcp?_setTcp_same _ _ _, by rw [o1], by rw [o2], by rw [o3], tcp_asyncReadImpl_cases _ op⟩

/-- **TCP wait-for-read**: same abort, then parked in the wait slot or posted. -/
theorem C04_supersede_tcp_wait_read (n : NetSt) (name : String) (hd : Nat) (s : TcpSock) (h : n.tcp? name = some s) :
    ∃ e2 s', (n.tcpWaitRead name hd).2 = tcpAbortRecvEffs s ++ e2
      ∧ (n.tcpWaitRead name hd).1.tcp? name = some s' ∧ s'.recvH = none
      ∧ s'.sendH = s.sendH ∧ s'.connectH = s.connectH
      ∧ ((s'.waitRecvH = some hd ∧ e2 = []) ∨ (s'.waitRecvH = none ∧ ∃ c, e2 = [.post c] ∧ c.h = hd)) := by
  rw [tcpWaitRead_eq h, TcpSock.abortRecv_eq]; dsimp only
  obtain ⟨o2, o3, _⟩ := tcp_asyncWaitReadImpl_other { s with recvH := none, waitRecvH := none, recvNull := false } hd
  rcases tcp_asyncWaitReadImpl_cases { s with recvH := none, waitRecvH := none, recvNull := false } hd with
    ⟨a, b, c⟩ | ⟨a, b, c⟩
  · exact ⟨_, _, rfl, tcp?_setTcp_same _ _ _, by rw [b], by rw [o2], by rw [o3], Or.inl ⟨a, c⟩⟩
  · exact ⟨_, _, rfl, tcp?_setTcp_same _ _ _, b, by rw [o2], by rw [o3], Or.inr ⟨by rw [a], c⟩⟩

/-- **TCP write**: `abort_send_handlers()`, then the new write occupies the slot and the
    segmentation loop is scheduled (`.tcpWrite`), which takes it out again and ends in
    `tcpWriteFinish` (`C04_completed_once_tcp_write`). -/
theorem C04_supersede_tcp_write (n : NetSt) (name : String) (op : WriteOp) (s : TcpSock) (h : n.tcp? name = some s) :
    (n.tcpAsyncWrite name op).2 = tcpAbortSendEffs s ++ [.tcpWrite name op.h]
    ∧ (n.tcpAsyncWrite name op).1.tcp? name = some { s with sendH := some op } := by
  rw [tcpAsyncWrite_exact h]; exact ⟨rfl, tcp?_setTcp_same _ _ _⟩

/-- **Accept**: after the preparation of the peer / returned socket (`accAcceptPrep`, which leaves
    the acceptor `s'` with its accept state), the outstanding accept is aborted, the new one
    occupies the slot, and `check_accept_queue()` runs on that state. -/
theorem C04_supersede_accept (n : NetSt) (now : Int) (name : String) (op : AcceptOp) (s' : TcpSock) (a : AccState)
    (hs' : (accAcceptPrep n now name op).1.tcp? name = some s') (ha : s'.abortAccept.1.acc = some a) :
    n.accAsyncAccept now name op =
      ((((accAcceptPrep n now name op).1.setTcp name
            { s'.abortAccept.1 with acc := some { a with acceptOp := some op } }).accCheckQueue now name).1,
        (accAcceptPrep n now name op).2 ++ tcpAbortAcceptEffs s' ++
        (((accAcceptPrep n now name op).1.setTcp name
            { s'.abortAccept.1 with acc := some { a with acceptOp := some op } }).accCheckQueue now name).2) := by
  rw [accAsyncAccept_eq, hs']; dsimp only
  rw [ha, TcpSock.abortAccept_effs]

/-- UDP: `async_receive_from_impl` either parks the operation (nothing posted) or posts exactly
    one completion for it and leaves the slot empty; `async_wait_receive_impl` likewise. -/
theorem C04_completed_once_udp (u : UdpSock) (op : RecvOp) (h : Nat) :
    (((u.asyncReceive op).1.recvH = some op ∧ (u.asyncReceive op).2 = [])
      ∨ ((u.asyncReceive op).1.recvH = none ∧ ∃ c, (u.asyncReceive op).2 = [.post c] ∧ c.h = op.h))
    ∧ (((u.asyncWaitReceive h).1.waitRecvH = some h ∧ (u.asyncWaitReceive h).2 = [])
      ∨ ((u.asyncWaitReceive h).1 = u ∧ ∃ c, (u.asyncWaitReceive h).2 = [.post c] ∧ c.h = h)) :=
  ⟨(udp_asyncReceive_rows u op).2, udp_asyncWaitReceive_cases u h⟩

/-- UDP `maybe_wakeup_reader()` (packet arrival): it first takes the handler OUT of its slot and
    then calls the function above on the socket with that slot empty. -/
theorem C04_completed_once_udp_wakeup (u : UdpSock) :
    u.maybeWakeup = (u, [])
    ∨ (∃ h, u.waitRecvH = some h ∧ u.maybeWakeup = ({ u with waitRecvH := none }).asyncWaitReceive h)
    ∨ (∃ op, u.recvH = some op ∧ u.maybeWakeup = ({ u with recvH := none }).asyncReceive op) :=
  u.maybeWakeup_cases

/-- TCP reads: `async_read_some_impl` parks or posts once and empties the slot;
    `async_wait_read_impl` parks or posts once; `maybe_wakeup_reader()` takes the handler out
    of its slot before calling them. -/
theorem C04_completed_once_tcp_read (tp : TParams) (s : TcpSock) (op : ReadOp) (h : Nat) :
    (((s.asyncReadImpl op).1.recvH = some op ∧ (s.asyncReadImpl op).2 = [])
      ∨ ((s.asyncReadImpl op).1.recvH = none ∧ ∃ c, (s.asyncReadImpl op).2 = [.post c] ∧ c.h = op.h))
    ∧ (((s.asyncWaitReadImpl h).1.waitRecvH = some h ∧ (s.asyncWaitReadImpl h).1.recvH = s.recvH
          ∧ (s.asyncWaitReadImpl h).2 = [])
      ∨ ((s.asyncWaitReadImpl h).1.waitRecvH = s.waitRecvH ∧ (s.asyncWaitReadImpl h).1.recvH = none
          ∧ ∃ c, (s.asyncWaitReadImpl h).2 = [.post c] ∧ c.h = h))
    ∧ (s.maybeWakeupReader tp = (s, [])
      ∨ (∃ h, s.waitRecvH = some h ∧ s.maybeWakeupReader tp = ({ s with waitRecvH := none }).asyncWaitReadImpl h)
      ∨ (∃ op, s.recvH = some op ∧ s.maybeWakeupReader tp = ({ s with recvH := none }).asyncReadImpl op)) := by
  exact ⟨tcp_asyncReadImpl_cases s op, tcp_asyncWaitReadImpl_cases s h,
    (wake_cases tp s).imp (·.1) (.imp (fun ⟨h, hw, e, _⟩ => ⟨h, hw, e⟩) fun ⟨op, hr, e, _⟩ => ⟨op, hr, e⟩)⟩

/-- TCP write: `tcpWriteFinish` parks the operation again (`would_block`, nothing posted) or posts
    exactly one completion for it and leaves the slot empty. -/
theorem C04_completed_once_tcp_write (n : NetSt) (name : String) (op : WriteOp) (r : Except Ec Nat) (s : TcpSock)
    (hs : n.tcp? name = some s) :
    (∃ s', (n.tcpWriteFinish name op r).1.tcp? name = some s' ∧ s'.sendH = some op
        ∧ (n.tcpWriteFinish name op r).2 = [])
    ∨ (∃ s' c, (n.tcpWriteFinish name op r).1.tcp? name = some s' ∧ s'.sendH = none
        ∧ (n.tcpWriteFinish name op r).2 = [.post c] ∧ c.h = op.h) :=
  (tcpWriteFinish_eq n name op r s hs).imp (fun ⟨_, e⟩ => ⟨_, by rw [e]; exact tcp?_setTcp_same _ _ _, rfl, by rw [e]⟩)
    (fun ⟨c, e, hc⟩ => ⟨_, c, by rw [e]; exact tcp?_setTcp_same _ _ _, rfl, by rw [e], hc⟩)

/-- TCP connect: the SYN-ACK posts the connect handler and empties the connect slot in the same
    step; a SYN-ACK that arrives with no connect outstanding (cancelled meanwhile) does nothing. -/
theorem C04_completed_once_tcp_connect (tp : TParams) (n : NetSt) (now : Int) (name : String) (p : Pkt) (s : TcpSock)
    (hs : n.tcp? name = some s) (hp : p.ty = .synack) :
    (∀ h, s.connectH = some h →
        (n.tcpIncoming tp now name p).2 = [.post { h := h, ec := .ok }, .tcpWake name]
        ∧ ∃ s', (n.tcpIncoming tp now name p).1.tcp? name = some s' ∧ s'.connectH = none)
    ∧ (s.connectH = none → n.tcpIncoming tp now name p = (n, [])) := by
  rw [tcpIncoming_synack hs tp now p hp]
  exact ⟨fun h hc => by rw [hc]; exact ⟨rfl, _, tcp?_setTcp_same _ _ _, rfl⟩, fun hc => by rw [hc]⟩

/-- Accept: `check_accept_queue()` hands over a connection only by first taking the accept out of
    its slot (`acceptOp := none`); with no accept outstanding or no connection queued it does
    nothing. -/
theorem C04_completed_once_accept (n : NetSt) (now : Int) (name : String) (s : TcpSock) (a : AccState)
    (hs : n.tcp? name = some s) (ha : s.acc = some a) :
    ((a.acceptOp = none ∨ a.conns = []) → accTryAccept n now name = (n, []))
    ∧ (∀ op c rest, a.acceptOp = some op → a.conns = c :: rest →
        ∃ peer, accTryAccept n now name =
          (let x := (n.setTcp name { s with acc := some { a with conns := rest, acceptOp := none } }).tcpAttach
                      now peer s.bound c
           match x.1.chan? c with
           | none => x
           | some ch => (x.1, x.2 ++ [.forward { id := 0, ty := .synack, len := 0, ovh := 28, hops := ch.hops0,
                                                   src := s.bound.toString, chan := some c },
                (match op with
                  | .into h _ withEp => NEff.post { h := h, ec := .ok, extra := if withEp then "ep=" ++
                      ((((n.setTcp name { s with acc := some { a with conns := rest, acceptOp := none } }).chan? c).map
                        (fun (ch : Chan) => ch.vis0)).getD {}).toString else "" }
                  | .fresh h _ => NEff.post { h := h, ec := .ok })]))) := by
  refine ⟨accTryAccept_idle hs ha now, fun op c rest hop hc => ⟨op.peer, ?_⟩⟩
  rw [accTryAccept_pop hs ha now hop hc]; unfold accHandOver
  cases op <;> rfl

/-- **One UDP socket, none discarded.** In every state reachable by API calls with arbitrary
    arguments, datagram arrivals and send-timer callbacks, in any order, the ids in the socket's
    three slots together with the ids of all completions produced so far (posted or invoked) are
    exactly — as multisets — the ids given to initiating calls: no handler is dropped, none is
    completed that was not started. No precondition beyond the socket's existence. -/
theorem C04_none_discarded_udp (name : String) (n0 : NetSt) (hex : (n0.udp? name).isSome) (ls : List ULbl) :
    let s := US.run name { n := n0, started := udpIds n0 name } ls
    (udpIds s.n name ++ s.ids).Perm s.started :=
  (UInv.run name ls _ ⟨hex, by simp [HdS.ids]⟩).perm

/-- **One UDP socket, at most once.** With pairwise distinct handler ids (those in the slots at
    the start, those of the initiating calls) no id is completed twice, and an id still in a slot
    has not been completed. -/
theorem C04_at_most_once_udp (name : String) (n0 : NetSt) (hex : (n0.udp? name).isSome) (ls : List ULbl)
    (hf : (udpIds n0 name ++ ls.filterMap ULbl.newId?).Nodup) :
    let s := US.run name { n := n0, started := udpIds n0 name } ls
    (udpIds s.n name ++ s.ids).Nodup := by
  intro s
  have hp := C04_none_discarded_udp name n0 hex ls
  have hs : s.started = udpIds n0 name ++ ls.filterMap ULbl.newId? := US.run_started name ls _
  exact (List.Perm.nodup_iff hp).mpr (by rw [hs]; exact hf)

/-- **All TCP sockets and acceptors, none discarded.** From any well-formed table (unique names, no
    socket with both a read and a wait-for-read outstanding, accept queues holding valid channel
    ids — `ConnsOk n0`, trivially true of a table without queued connections), after any sequence
    of labels satisfying the preconditions `HTS.ok` (see SimVerif/HandlerSys.lean): the ids in all
    slots of all sockets and acceptors, the ids bound into connect timers (refused connects) and
    the ids of all completions produced are exactly the ids given to initiating calls. Includes
    accepts into a peer socket that still has operations outstanding (they are aborted),
    supersession, close, cancel, destruction, packets for closed sockets, the write and
    retransmission loops.

    That accept queues hold valid channel ids is NOT a side condition on the labels: it is an
    invariant (third conjunct), preserved by every label (`HL.cok_label`) — a channel id enters a
    queue only from the `chan` field of a SYN the environment hands in, `internal_connect`
    allocates ids as `chans.length` before growing the table, and the table never shrinks. The
    only thing `HTS.ok` asks about channels is that the packet handed to `.incoming` carries no
    channel or a valid one. -/
theorem C04_none_discarded_tcp (tp : TParams) (n0 : NetSt) (hw : TWf n0) (hc : ConnsOk n0) (ls : List h4_HLbl)
    (hok : HTS.okRun tp { n := n0, started := allTcpIds n0 } ls) :
    let s := HTS.run tp { n := n0, started := allTcpIds n0 } ls
    (allTcpIds s.n ++ s.parked ++ s.ids).Perm s.started ∧ TWf s.n ∧ ConnsOk s.n :=
  have h := h4_TInv.run tp ls _ ⟨hw, by simp [HdS.ids], hc⟩ hok
  ⟨h.perm, h.wf, h.conns⟩

/-- **Accept queues hold valid channel ids** in every reachable state: for every acceptor, every
    queued connection is an index into the channel table (so `check_accept_queue()` never finds
    a dangling connection and never drops the accept handler it took out of its slot). -/
theorem C04_accept_queues_valid (tp : TParams) (n0 : NetSt) (hw : TWf n0) (hc : ConnsOk n0) (ls : List h4_HLbl)
    (hok : HTS.okRun tp { n := n0, started := allTcpIds n0 } ls) (name : String) (s : TcpSock) (a : AccState)
    (hs : (HTS.run tp { n := n0, started := allTcpIds n0 } ls).n.tcp? name = some s) (ha : s.acc = some a) :
    ∀ c ∈ a.conns, c < (HTS.run tp { n := n0, started := allTcpIds n0 } ls).n.chans.length :=
  (C04_none_discarded_tcp tp n0 hw hc ls hok).2.2.ok name s a hs ha

/-- **All TCP sockets and acceptors, at most once.** With pairwise distinct handler ids nothing is
    completed twice; an id in a slot or bound into a connect timer has not been completed. -/
theorem C04_at_most_once_tcp (tp : TParams) (n0 : NetSt) (hw : TWf n0) (hc : ConnsOk n0) (ls : List h4_HLbl)
    (hok : HTS.okRun tp { n := n0, started := allTcpIds n0 } ls)
    (hf : (allTcpIds n0 ++ ls.filterMap h4_HLbl.newId?).Nodup) :
    let s := HTS.run tp { n := n0, started := allTcpIds n0 } ls
    (allTcpIds s.n ++ s.parked ++ s.ids).Nodup := by
  intro s
  have hp := (C04_none_discarded_tcp tp n0 hw hc ls hok).1
  have hs : s.started = allTcpIds n0 ++ ls.filterMap h4_HLbl.newId? := HTS.run_started tp ls _
  exact (List.Perm.nodup_iff hp).mpr (by rw [hs]; exact hf)

/-- **Acceptors** are objects of the same table: an accept handler sitting in an acceptor's slot has
    not been completed, and is never completed twice (instance of the theorem above). -/
theorem C04_at_most_once_acceptor (tp : TParams) (n0 : NetSt) (hw : TWf n0) (hc : ConnsOk n0) (ls : List h4_HLbl)
    (hok : HTS.okRun tp { n := n0, started := allTcpIds n0 } ls)
    (hf : (allTcpIds n0 ++ ls.filterMap h4_HLbl.newId?).Nodup) (name : String) (s : TcpSock) (op : AcceptOp)
    (hs : (HTS.run tp { n := n0, started := allTcpIds n0 } ls).n.tcp? name = some s)
    (hop : s.acceptOp = some op) :
    op.h ∉ (HTS.run tp { n := n0, started := allTcpIds n0 } ls).ids
    ∧ (HTS.run tp { n := n0, started := allTcpIds n0 } ls).ids.Nodup := by
  have hn := C04_at_most_once_tcp tp n0 hw hc ls hok hf
  dsimp only at hn
  rw [List.nodup_append] at hn
  refine ⟨fun hmem => ?_, hn.2.1⟩
  have hin : op.h ∈ allTcpIds (HTS.run tp { n := n0, started := allTcpIds n0 } ls).n := by
    unfold allTcpIds
    rw [List.mem_flatten]
    refine ⟨s.slotIds, List.mem_map.mpr ⟨(name, s), mem_of_lookup hs, rfl⟩, ?_⟩
    unfold TcpSock.slotIds; rw [hop]; simp
  exact hn.2.2 op.h (List.mem_append_left _ hin) op.h hmem rfl

/-- **The packet clause derived from a promise of the environment.** `HTS.ok` has one clause
    about channels: the packet handed to `.incoming` carries no channel id or a valid one. It
    follows from a promise that does not mention the channel table at all (`HTS.okRunSent`): the
    network hands in — delivers, or reports as dropped (label `.dropped`, tail-drops inside a
    write) — only packets whose channel id was carried by some packet forwarded before (ghost
    list `w`, starting from the ids `w0` in flight initially). Invariant (`WireInv`): accept
    queues, retransmission queues and the wire hold valid ids only — `internal_connect` puts the
    id it has just allocated into the SYN, `check_accept_queue` puts an id it has just looked up
    into the SYN-ACK, every other packet the sockets build carries none, and a retransmitted
    packet is one the environment reported as dropped. -/
theorem C04_packet_clause_derived (tp : TParams) (n0 : NetSt) (w0 : List Nat) (hc : ConnsOk n0) (hr : ResendOk n0)
    (hw0 : ∀ c ∈ w0, c < n0.chans.length) (ls : List h4_HLbl)
    (h : HTS.okRunSent tp { n := n0, started := allTcpIds n0 } w0 ls) :
    HTS.okRun tp { n := n0, started := allTcpIds n0 } ls :=
  okRun_of_okRunSent tp ls _ w0 ⟨hc, hr, hw0⟩ h

/-- none discarded / at most once under the environment's promise instead of the packet clause -/
theorem C04_none_discarded_tcp_sent (tp : TParams) (n0 : NetSt) (w0 : List Nat) (hw : TWf n0) (hc : ConnsOk n0)
    (hr : ResendOk n0) (hw0 : ∀ c ∈ w0, c < n0.chans.length) (ls : List h4_HLbl)
    (hok : HTS.okRunSent tp { n := n0, started := allTcpIds n0 } w0 ls) :
    let s := HTS.run tp { n := n0, started := allTcpIds n0 } ls
    (allTcpIds s.n ++ s.parked ++ s.ids).Perm s.started ∧ TWf s.n ∧ ConnsOk s.n :=
  C04_none_discarded_tcp tp n0 hw hc ls (C04_packet_clause_derived tp n0 w0 hc hr hw0 ls hok)

theorem C04_at_most_once_tcp_sent (tp : TParams) (n0 : NetSt) (w0 : List Nat) (hw : TWf n0) (hc : ConnsOk n0)
    (hr : ResendOk n0) (hw0 : ∀ c ∈ w0, c < n0.chans.length) (ls : List h4_HLbl)
    (hok : HTS.okRunSent tp { n := n0, started := allTcpIds n0 } w0 ls)
    (hf : (allTcpIds n0 ++ ls.filterMap h4_HLbl.newId?).Nodup) :
    let s := HTS.run tp { n := n0, started := allTcpIds n0 } ls
    (allTcpIds s.n ++ s.parked ++ s.ids).Nodup :=
  C04_at_most_once_tcp tp n0 hw hc ls (C04_packet_clause_derived tp n0 w0 hc hr hw0 ls hok) hf

/-- **Timers**: every wait completes at most once (C03). -/
theorem C04_at_most_once_timer (ls : List Lbl) (hf : FreshWaits [] ls) :
    (((runLbls repaired {} ls).ran.filter (fun x => x.1.tm)).map (fun x => x.1.h)).Nodup :=
  C03_at_most_once repaired ls hf

/-- **Timers**: a wait completed with `operation_aborted` never also completes successfully (C03). -/
theorem C04_timer_abort_excludes_success (ls : List Lbl) (hf : FreshWaits [] ls)
    (t₁ t₂ : Task) (c₁ c₂ : Int)
    (h₁ : (t₁, c₁) ∈ (runLbls repaired {} ls).ran) (h₂ : (t₂, c₂) ∈ (runLbls repaired {} ls).ran)
    (m₁ : t₁.tm = true) (m₂ : t₂.tm = true) (hh : t₁.h = t₂.h) : t₁.ec = t₂.ec :=
  C03_abort_excludes_success repaired ls hf t₁ t₂ c₁ c₂ h₁ h₂ m₁ m₂ hh

/-- **Timers**: no wait is lost (C03, under `assert(!m_handler)`). -/
theorem C04_none_discarded_timer (ls : List Lbl) (hp : WaitPre repaired {} ls) (h : Nat)
    (hs : h ∈ (runLbls repaired {} ls).started) :
    (∃ i, ((runLbls repaired {} ls).timers i).handler = some h) ∨ h ∈ (runLbls repaired {} ls).posted :=
  C03_no_lost_wait repaired ls hp h hs

/-- **Resolver**: completed ++ still queued is a permutation of requested; with fresh ids no
    duplicates (C14). -/
theorem C04_exactly_once_resolver (ls : List RLbl) (h : RS.okRun .fixed {} ls) :
    ((RS.run .fixed {} ls).compLog.map RComp.h ++ (RS.run .fixed {} ls).r.queue.map REntry.h).Perm
        ((RS.run .fixed {} ls).reqLog.map RReq.h)
    ∧ ((RS.run .fixed {} ls).fresh →
        ((RS.run .fixed {} ls).compLog.map RComp.h ++ (RS.run .fixed {} ls).r.queue.map REntry.h).Nodup) :=
  ⟨(C14_exactly_once ls h).1, (C14_exactly_once ls h).2.1⟩

/-! ## The pinned tree violated the property (regression witness)

`abort_send_handlers()` of the pinned tree posted a completion holding a *reference* to the
wait-for-write slot and then cleared the slot: when the completion ran it found the slot empty
and called a null `aux::function` (UBSan abort, function.hpp:162). Modelled as: what the posted
completion finds in the slot when it runs. Repaired: the handler is *moved* into the completion. -/

/-- pinned tree: the slot content the posted abort sees when it runs (the slot after the call) -/
def udpAbortSendAsIs (name : String) (u : UdpSock) : List (Option Nat) :=
  match u.waitSendH with
  | some _ => [(u.abortSend name).1.waitSendH]
  | none => []

/-- repaired tree: the handler travels inside the completion -/
def udpAbortSendFixed (name : String) (u : UdpSock) : List (Option Nat) :=
  (h4_postsOf (u.abortSend name).2).map (fun c => some c.h)

theorem C04_asis_udp_abort_calls_empty_handler (name : String) (u : UdpSock) (h : Nat) (hh : u.waitSendH = some h) :
    udpAbortSendAsIs name u = [none] ∧ udpAbortSendFixed name u = [some h] := by
  unfold udpAbortSendAsIs udpAbortSendFixed
  rw [UdpSock.abortSend_eq, hh]
  simp [h4_postsOf, udpAbortSendEffs, hh]

namespace C04Ex

/-- a bound, open UDP socket whose send queue is 0.5 s deep (so a wait-for-write is deferred) -/
def udp0 : NetSt :=
  ({ fwds := [some "u1"], reg := { udp := [({ addr := "10.0.0.1", port := 4000 }, "u1")] } } : NetSt).setUdp "u1"
    { node := "n0", isOpen := true, bound := { addr := "10.0.0.1", port := 4000 }, fwd := some 0, nextSend := 500000000 }

def dgram : Pkt := { id := 1, ty := .payload, len := 3, ovh := 28, src := "10.0.0.2:7", payload := [1, 2, 3] }

/-- receive superseded by a wait, a datagram completing the wait, a receive completing at once, a
    wait aborted by cancel together with a deferred wait-for-write, a deferred wait-for-write
    completed inline by its timer, a receive aborted by close -/
def udpHist : List ULbl :=
  [.recv { h := 1, caps := [10], withEp := true }, .waitRead 2, .incoming dgram,
   .recv { h := 3, caps := [2], withEp := false }, .waitRead 4, .waitWrite 0 5, .cancel,
   .waitWrite 0 6, .sendTimer false, .recv { h := 7, caps := [2], withEp := false }, .close]

example : (US.run "u1" { n := udp0, started := udpIds udp0 "u1" } udpHist).log.map (fun x => (x.1, x.2.h, x.2.ec))
    = [(false, 1, .aborted), (false, 2, .ok), (false, 3, .ok), (false, 4, .aborted), (false, 5, .aborted),
       (true, 6, .ok), (false, 7, .aborted)] := by decide +kernel

theorem udp0_fresh : (udpIds udp0 "u1" ++ udpHist.filterMap ULbl.newId?).Nodup := by decide +kernel

example : (udpIds udp0 "u1" ++ udpHist.filterMap ULbl.newId?).Nodup := udp0_fresh
example := C04_at_most_once_udp "u1" udp0 (by decide +kernel) udpHist udp0_fresh
example := C04_none_discarded_udp "u1" udp0 (by decide +kernel) udpHist

def syn : Pkt := { id := 0, ty := .syn, len := 0, ovh := 28, src := "10.0.0.1:2000", chan := some 0 }
def synack : Pkt := { id := 0, ty := .synack, len := 0, ovh := 28, src := "10.0.0.2:80", chan := some 0 }
def wr (h : Nat) : WriteOp := { h := h, bufs := [[1, 2, 3]], stream := 0, off := 0 }

/-- accept into an open peer with a read outstanding (aborted), a superseding accept, the SYN
    completing it, the SYN-ACK completing the connect, a socket-returning accept, a write that
    blocks, is superseded and aborted, a write that completes after one segment, reads aborted by
    cancel, a stale SYN-ACK after cancel, the acceptor closed with its accept outstanding -/
def tcpHist : List h4_HLbl :=
  [.accept 0 "a0" (.into 7 "s3" false), .accept 0 "a0" (.into 8 "s3" true), .incoming 5 "a0" syn,
   .incoming 9 "s1" synack, .accept 9 "a0" (.fresh 10 "s4"),
   .write "s1" (wr 11), .runWrite "s1" (some 11) [] (.error .wouldBlock), .write "s1" (wr 12),
   .runWrite "s1" (some 12) [.seg 9 ["q1", "@1"] [1, 2, 3]] (.ok 3),
   .read "s1" { h := 13, caps := [8] }, .waitRead "s1" 14, .cancel "s1", .incoming 9 "s1" synack,
   .accClose 20 "a0"]

example : (HTS.run {} { n := tcp0, started := allTcpIds tcp0 } tcpHist).log.map (fun x => (x.1, x.2.h, x.2.ec))
    = [(false, 2, .aborted), (false, 7, .aborted), (false, 8, .ok), (false, 1, .ok), (false, 11, .aborted),
       (false, 12, .ok), (false, 13, .aborted), (false, 14, .aborted), (false, 10, .aborted)] := by decide +kernel

theorem tcp0_wf : TWfb tcp0 = true := by decide +kernel
theorem tcp0_conns : ConnsOkb tcp0 = true := by decide +kernel
theorem tcp0_resend : ResendOkb tcp0 = true := by decide +kernel
theorem tcp0_fresh : (allTcpIds tcp0 ++ tcpHist.filterMap h4_HLbl.newId?).Nodup := by decide +kernel
theorem tcpHist_ok : HTS.okRunb {} { n := tcp0, started := allTcpIds tcp0 } tcpHist = true := by decide +kernel
theorem tcpHist_sent : HTS.okRunSentb {} { n := tcp0, started := allTcpIds tcp0 } [0] tcpHist = true := by
  decide +kernel

example : TWfb tcp0 = true := tcp0_wf
example : ConnsOkb tcp0 = true := tcp0_conns
example : HTS.okRunb {} { n := tcp0, started := allTcpIds tcp0 } tcpHist = true := tcpHist_ok
example := C04_at_most_once_tcp {} tcp0 (TWfb_sound tcp0_wf) (ConnsOkb_sound tcp0_conns) tcpHist
  (HTS.okRunb_sound _ _ _ tcpHist_ok) tcp0_fresh
example := C04_none_discarded_tcp {} tcp0 (TWfb_sound tcp0_wf) (ConnsOkb_sound tcp0_conns) tcpHist
  (HTS.okRunb_sound _ _ _ tcpHist_ok)

/-- the same history under the environment's promise: initially the SYN of `s1`'s connect
    (channel 0) is in flight, `w0 = [0]`; the SYN-ACK the acceptor sends carries channel 0 again -/
example : HTS.okRunSentb {} { n := tcp0, started := allTcpIds tcp0 } [0] tcpHist = true := tcpHist_sent
example : ResendOkb tcp0 = true := tcp0_resend
example := C04_at_most_once_tcp_sent {} tcp0 [0] (TWfb_sound tcp0_wf) (ConnsOkb_sound tcp0_conns)
  (ResendOkb_sound tcp0_resend) (by decide +kernel) tcpHist (HTS.okRunSentb_sound _ _ _ _ tcpHist_sent) tcp0_fresh
def seg0 : Pkt := { id := 0, ty := .payload, len := 3, ovh := 40, payload := [1, 2, 3], hasDrop := true, dropFwd := some 0 }
/-- a history with a first-hop tail-drop inside the write loop, a retransmission, a drop
    notification through the forwarder and a second retransmission: the dropped segment `seg0`
    carries no channel id, so the environment's promise holds for the drop labels too -/
def tcpHist3 : List h4_HLbl :=
  [.accept 0 "a0" (.into 8 "s3" true), .incoming 5 "a0" syn, .incoming 9 "s1" synack,
   .write "s1" (wr 12), .runWrite "s1" (some 12) [.seg 9 ["q1", "@1"] [1, 2, 3], .drop seg0] (.ok 3),
   .resendOne 10 "s1", .dropped "s1" seg0, .resendOne 11 "s1"]

theorem tcpHist3_sent : HTS.okRunSentb {} { n := tcp0, started := allTcpIds tcp0 } [0] tcpHist3 = true := by
  decide +kernel

example : HTS.okRunSentb {} { n := tcp0, started := allTcpIds tcp0 } [0] tcpHist3 = true := tcpHist3_sent
example : ((HTS.run {} { n := tcp0, started := allTcpIds tcp0 } (tcpHist3.take 7)).n.tcp? "s1").map (·.resend.length)
    = some 1 := by decide +kernel
example := C04_none_discarded_tcp_sent {} tcp0 [0] (TWfb_sound tcp0_wf) (ConnsOkb_sound tcp0_conns)
  (ResendOkb_sound tcp0_resend) (by decide +kernel) tcpHist3 (HTS.okRunSentb_sound _ _ _ _ tcpHist3_sent)

/-- a SYN whose channel id was never on the wire is NOT something the environment may hand in -/
example : HTS.okRunSentb {} { n := tcp0, started := allTcpIds tcp0 } [] [.incoming 5 "a0" syn] = false := by
  decide +kernel

/-- the invariant is not vacuous: two SYNs with no accept outstanding both stay queued (channel 0
    twice), and the queue is valid without any assumption on it -/
def tcpHist2 : List h4_HLbl := [.incoming 5 "a0" syn, .incoming 6 "a0" syn]

theorem tcpHist2_ok : HTS.okRunb {} { n := tcp0, started := allTcpIds tcp0 } tcpHist2 = true := by decide +kernel

example : ((HTS.run {} { n := tcp0, started := allTcpIds tcp0 } tcpHist2).n.tcp? "a0").bind (·.acc.map (·.conns))
    = some [0, 0] := by decide +kernel
example : HTS.okRunb {} { n := tcp0, started := allTcpIds tcp0 } tcpHist2 = true := tcpHist2_ok
example := C04_accept_queues_valid {} tcp0 (TWfb_sound tcp0_wf) (ConnsOkb_sound tcp0_conns) tcpHist2
  (HTS.okRunb_sound _ _ _ tcpHist2_ok) "a0"

end C04Ex

end SimVerif
