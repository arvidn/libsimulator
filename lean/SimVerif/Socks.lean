/-
  SimVerif.Socks — mechanism model of the SOCKS4/5 test proxy `sim::socks_server` /
  `sim::socks_connection` (src/socks_server.cpp, include/simulator/socks_server.hpp),
  transcribed member function by member function over *checked memory*.

  Memory model
  ------------
  * The three raw arrays of a connection (`char m_out_buffer[65536]`, `char m_in_buffer[65536]`,
    `std::array<char,1500> m_udp_buffer`) are `Buf`s: a capacity and the bytes stored so far
    (never-written bytes read as 0). EVERY access the C++ makes is a checked access: reading a
    byte or a range (`Buf.get`, `Buf.readN`), writing (`Buf.write`), and *describing a region
    to the I/O layer* (`asio::buffer(&arr[off], n)` → `Buf.inb off n`: the I/O layer may fill or
    read all of it). An access outside the array is the value `Fault.oob`; lengths are `Int`s,
    a negative `int` converted to `size_t` is out of bounds for every array.
  * `m_cmd_counts` (3 × int) is a `List Int` with checked indexing (`bump`).
  * `char` is signed on the target: `sx` is `char → int`, `ux` is `uint8_t(char) → int`.

  Asynchronous operations
  -----------------------
  A member function returns the new connection state, the new counters and the list of
  *actions* it performed, in program order (`Act`): asynchronous operations it started — each
  carries the pending-operation record (`POp`) that says which member function its completion
  calls — and synchronous socket calls (closes, UDP sends). `complete` is the dispatcher: the
  completion of a pending operation with a result (`Res`) chosen by the environment (the
  network, the resolver, the peer) calls the corresponding member function.
  `boost::asio::async_read` (composed, exact size) is part of the model: `POp.exact` is one
  `async_read_some` of the composed operation, `onExactChunk` its intermediate completion
  handler (boost/asio/impl/read.hpp: continue until the buffer is full, an error, or a
  zero-byte read; at most 65536 bytes are asked for at a time).
  Three synchronous calls whose results the code uses (`m_bind_socket.open/bind/local_endpoint`,
  `m_udp_associate.open/bind/local_bound_to` + the client's remote address,
  `m_server_connection.remote_endpoint`) are modelled as operations completing at once.

  The repaired defects are parameters (`Params`), so that the pinned tree stays expressible
  (`Props/C17.lean`: the `…_asis_…` theorems):
    * `cmdGuard`   (F21) `++m_cmd_counts[command-1]` only for `1 ≤ command ≤ 3`;
    * `domShort`   (F22) a host name of at most 3 characters is already complete (no read of
                   `len - 3` bytes), and the port is found at `7 + len - 2`;
    * `udpLenCheck`(F23) UDP ASSOCIATE headers are checked against the datagram length and the
                   name length is unsigned;
    * `udpRearm`   (F36) the relay keeps receiving after a datagram to a known host name;
    * `nmUnsigned` (F21b) NMETHODS is read as an unsigned byte.
-/
import SimVerif.Basic

namespace SimVerif.Socks

abbrev Bytes := List UInt8

inductive Fault where
  | oob          -- an access outside one of the arrays (undefined behaviour in the C++)
  deriving DecidableEq, Repr, Inhabited

structure Params where
  cmdGuard    : Bool := true
  domShort    : Bool := true
  udpLenCheck : Bool := true
  udpRearm    : Bool := true
  nmUnsigned  : Bool := true
  deriving DecidableEq, Repr

/-- the tree as pinned (bb9bed4) -/
def Params.asIs : Params :=
  { cmdGuard := false, domShort := false, udpLenCheck := false, udpRearm := false, nmUnsigned := false }

/-! ### checked memory -/

structure Buf where
  cap  : Nat
  data : Bytes := []
  deriving Repr, DecidableEq

/-- is the region `[off, off+n)` inside the array? (`n` is a `size_t` given as the `int` it was
    converted from: negative = astronomically large) -/
def Buf.inb (b : Buf) (off n : Int) : Bool := decide (0 ≤ off) && decide (0 ≤ n) && decide (off + n ≤ b.cap)

def Buf.byte (b : Buf) (i : Nat) : UInt8 := b.data.getD i 0

/-- `arr[i]` (read) -/
def Buf.get (b : Buf) (i : Int) : Except Fault UInt8 :=
  if b.inb i 1 then .ok (b.byte i.toNat) else .error .oob

/-- read the region `[off, off+n)` (`std::string(p, n)`, `std::count`, `asio::buffer(p, n)` of a
    write) -/
def Buf.readN (b : Buf) (off n : Int) : Except Fault Bytes :=
  if b.inb off n then .ok ((List.range n.toNat).map (fun j => b.byte (off.toNat + j))) else .error .oob

/-- store `bytes` at offset `off` (no check: callers check) -/
def Buf.store (b : Buf) (off : Nat) (bytes : Bytes) : Buf :=
  let d := b.data ++ List.replicate (off + bytes.length - b.data.length) 0
  { b with data := d.take off ++ bytes ++ d.drop (off + bytes.length) }

/-- write `bytes` at `off` (assignments `arr[i++] = …`, `memcpy`, and the I/O layer filling a
    region it was given) -/
def Buf.write (b : Buf) (off : Int) (bytes : Bytes) : Except Fault Buf :=
  if b.inb off bytes.length then .ok (b.store off.toNat bytes) else .error .oob

/-- `++arr[i]` on the counter array -/
def bump (cnt : List Int) (i : Int) : Except Fault (List Int) :=
  if 0 ≤ i ∧ i < cnt.length then .ok (cnt.set i.toNat (cnt.getD i.toNat 0 + 1)) else .error .oob

/-- `char → int` -/
def sx (b : UInt8) : Int := if b.toNat < 128 then (b.toNat : Int) else (b.toNat : Int) - 256
/-- `std::uint8_t(char) → int`, `c & 0xff` -/
def ux (b : UInt8) : Int := (b.toNat : Int)

def be16 (hi lo : UInt8) : Nat := hi.toNat * 256 + lo.toNat
def be32 (a b c d : UInt8) : Nat := ((a.toNat * 256 + b.toNat) * 256 + c.toNat) * 256 + d.toNat
def u8 (n : Nat) : UInt8 := UInt8.ofNat (n % 256)
def port2 (port : Nat) : Bytes := [u8 (port / 256), u8 port]
def addr4 (a : Nat) : Bytes := [u8 (a / 16777216), u8 (a / 65536), u8 (a / 256), u8 a]

/-! ### operations, actions, results -/

inductive Sock where
  | client | server
  deriving DecidableEq, Repr

/-- which member function (or lambda) a completion calls -/
inductive Kind where
  | hs1 | hs2 | req1 | dom                 -- composed reads: on_handshake1/2, on_request1, on_request_domain_name
  | hs3                                    -- write: on_handshake3
  | closeAfter                             -- write: `[=](ec, n){ self->close_connection(); }`
  | startAccept                            -- write: start_accept
  | waitEof                                -- write / read: wait_for_eof
  | relayStart                             -- write: the lambda at the end of on_connected
  | cliRecv | cliFwd | srvRecv | srvFwd    -- the relay loops
  deriving DecidableEq, Repr

/-- a pending asynchronous operation of one connection -/
inductive POp where
  | exact (off need got : Nat) (k : Kind)  -- one async_read_some of asio::async_read(client, buffer(&out[off], need))
  | readSome (s : Sock) (k : Kind)         -- s.async_read_some(buffer(whole array))
  | write (s : Sock) (len : Nat) (k : Kind)   -- asio::async_write(s, buffer(arr, len))
  | resolve                                -- m_resolver.async_resolve → on_request_domain_lookup
  | connect                                -- m_server_connection.async_connect → on_connected
  | accept                                 -- m_bind_socket.async_accept(m_server_connection) → on_connected
  | bound                                  -- (at once) results of m_bind_socket.open/bind/local_endpoint
  | udpBound (addr port : Nat)             -- (at once) results of m_udp_associate.open/bind/local_bound_to
  | udpRecv                                -- m_udp_associate.async_receive_from → on_read_udp
  | udpResolve (payload host : Bytes)      -- m_udp_resolver.async_resolve → the lambda in on_read_udp
  deriving DecidableEq, Repr

inductive Act where
  | read (s : Sock) (cap : Nat) (op : POp)            -- async_read_some of `cap` bytes
  | write (s : Sock) (bytes : Bytes) (op : POp)       -- asio::async_write
  | resolve (host : Bytes) (port : Nat) (op : POp)
  | connect (addr port : Nat) (op : POp)              -- m_server_connection.open(v4); async_connect(addr:port)
  | bindSock (addr port : Nat) (op : POp)             -- m_bind_socket.open(v4); bind(addr:port); local_endpoint()
  | acceptBind (op : POp)                             -- m_bind_socket.listen(); async_accept(m_server_connection)
  | udpOpen (op : POp)                                -- m_udp_associate.open(v4); bind(0.0.0.0:m_bind_port++); local_bound_to()
  | udpRecv (op : POp)                                -- async_receive_from(buffer(m_udp_buffer), m_udp_from)
  | udpSend (payload : Bytes) (addr port : Nat)       -- m_udp_associate.send_to (error ignored)
  | udpResolve (host : Bytes) (port : Nat) (op : POp)      -- m_udp_resolver.async_resolve(host.c_str(), …): the name ends at its first NUL
  | closeClient | closeServer | closeBind | closeUdp
  deriving DecidableEq, Repr

/-- what the environment hands to a completion -/
inductive Res where
  | rd (ec : Ec) (data : Bytes)                        -- read: `data` is what the I/O layer stored in the region
  | wr (ec : Ec) (n : Nat)                             -- write: bytes written
  | ips (ec : Ec) (l : List (Nat × Nat))               -- resolver: IPv4 endpoints
  | conn (ec : Ec) (remote : Option (Nat × Nat))       -- connect/accept, and `remote_endpoint(err)`
  | bnd (ec : Ec) (loc : Nat × Nat) (cli : Nat)        -- open/bind result, local endpoint, client's remote address
  | dgram (ec : Ec) (data : Bytes) (src : Nat × Nat)   -- datagram and `m_udp_from`
  deriving DecidableEq, Repr

structure Conn where
  ver     : Int                         -- m_version
  flags   : Nat := 0                    -- m_flags
  command : Int := 0                    -- m_command
  outBuf  : Buf := { cap := 65536 }     -- m_out_buffer
  inBuf   : Buf := { cap := 65536 }     -- m_in_buffer
  udpBuf  : Buf := { cap := 1500 }      -- m_udp_buffer
  assoc   : Nat × Nat := (0, 0)         -- m_udp_associate_ep
  nameMap : List (Nat × Bytes) := []    -- m_name_mapping (bimap: both sides unique)
  deriving Repr, DecidableEq

abbrev Out := Except Fault (Conn × List Int × List Act)

/-- `close_connection()` -/
def closeActs : List Act := [.closeClient, .closeServer, .closeBind]

def closeConnection (c : Conn) (cnt : List Int) : Out := .ok (c, cnt, closeActs)

/-- `asio::async_read(m_client_connection, asio::buffer(&m_out_buffer[off], n), k)`: the region is
    handed to the I/O layer; the first async_read_some asks for at most 65536 bytes of it -/
def exactRead (c : Conn) (cnt : List Int) (off : Nat) (n : Int) (k : Kind) : Out :=
  if c.outBuf.inb off n then
    .ok (c, cnt, [.read .client (min n.toNat 65536) (.exact off n.toNat 0 k)])
  else .error .oob

/-- `asio::async_write(s, asio::buffer(&arr[0], len), k)` where `arr` is `m_in_buffer` for the
    client and `m_out_buffer` for the server side -/
def writeFrom (c : Conn) (cnt : List Int) (s : Sock) (len : Int) (k : Kind) : Out :=
  match (match s with | .client => c.inBuf | .server => c.outBuf).readN 0 len with
  | .error e => .error e
  | .ok bytes => .ok (c, cnt, [.write s bytes (.write s bytes.length k)])

/-- `async_read_some(buffer(whole array), k)` -/
def readSomeAct (s : Sock) (k : Kind) : Act := .read s 65536 (.readSome s k)

/-! ### handshake and request -/

/-- `start()` -/
def start (c : Conn) (cnt : List Int) : Out :=
  if c.ver = 4 then exactRead c cnt 0 9 .req1 else exactRead c cnt 0 2 .hs1

/-- `on_handshake1(ec, bytes_transferred)` -/
def onHandshake1 (p : Params) (c : Conn) (cnt : List Int) (ec : Ec) (n : Nat) : Out :=
  if ec ≠ .ok ∨ n ≠ 2 then closeConnection c cnt else
  match c.outBuf.get 0 with
  | .error e => .error e
  | .ok v =>
    if v ≠ 4 ∧ v ≠ 5 then closeConnection c cnt else
    match c.outBuf.get 1 with
    | .error e => .error e
    | .ok m =>
      -- `int num_methods = unsigned(m_out_buffer[1])`: sign-extended, then back to int
      let num : Int := if p.nmUnsigned then ux m else sx m
      exactRead c cnt 0 num .hs2

/-- `on_handshake2(ec, bytes_transferred)` -/
def onHandshake2 (c : Conn) (cnt : List Int) (ec : Ec) (n : Nat) : Out :=
  if ec ≠ .ok then closeConnection c cnt else
  match c.outBuf.readN 0 n with          -- std::count(m_out_buffer, m_out_buffer + n, 0)
  | .error e => .error e
  | .ok ms =>
    if ms.count 0 = 0 then closeConnection c cnt else
    match c.inBuf.write 0 [5, 0] with
    | .error e => .error e
    | .ok ib => writeFrom { c with inBuf := ib } cnt .client 2 .hs3

/-- `on_handshake3(ec, bytes_transferred)` -/
def onHandshake3 (c : Conn) (cnt : List Int) (ec : Ec) (n : Nat) : Out :=
  if ec ≠ .ok ∨ n ≠ 2 then closeConnection c cnt else exactRead c cnt 0 10 .req1

/-- `format_response(addr, port, response)` for an IPv4 address: writes `m_in_buffer`, returns the
    length -/
def formatResponse (c : Conn) (addr port : Nat) (response : Nat) : Except Fault (Conn × Nat) :=
  let bytes : Bytes :=
    if c.ver = 5 then [u8 c.ver.toNat, u8 response, 0, 1] ++ addr4 addr ++ port2 port
    else [0, u8 response] ++ port2 port ++ addr4 addr
  match c.inBuf.write 0 bytes with
  | .error e => .error e
  | .ok ib => .ok ({ c with inBuf := ib }, bytes.length)

/-- `open_forward_connection(target)` -/
def openForwardConnection (c : Conn) (cnt : List Int) (addr port : Nat) : Out :=
  .ok (c, cnt, [.connect addr port .connect])

/-- `bind_connection(target)` up to the socket calls; continues in `bindConnection2` -/
def bindConnection (c : Conn) (cnt : List Int) (addr port : Nat) : Out :=
  .ok (c, cnt, [.bindSock addr port .bound])

/-- `udp_associate(target)` up to the socket calls; continues in `udpAssociate2` -/
def udpAssociate (c : Conn) (cnt : List Int) (addr port : Nat) : Out :=
  .ok (c, cnt, [.udpOpen (.udpBound addr port)])

/-- `on_request_domain_name(ec, bytes_transferred)` -/
def onRequestDomainName (p : Params) (c : Conn) (cnt : List Int) (ec : Ec) (n : Nat) : Out :=
  if ec ≠ .ok then closeConnection c cnt else
  match c.outBuf.get 4 with
  | .error e => .error e
  | .ok lb =>
    let bufferSize : Int := if p.domShort then 7 + ux lb else 10 + (n : Int)
    match c.outBuf.get (bufferSize - 2), c.outBuf.get (bufferSize - 1) with
    | .ok hi, .ok lo =>
      match c.outBuf.readN 5 (ux lb) with        -- std::string hostname(&m_out_buffer[5], uint8(m_out_buffer[4]))
      | .error e => .error e
      | .ok host => .ok (c, cnt, [.resolve host (be16 hi lo) .resolve])
    | _, _ => .error .oob

/-- `on_request1(ec, bytes_transferred)` -/
def onRequest1 (p : Params) (c : Conn) (cnt : List Int) (ec : Ec) (n : Nat) : Out :=
  let expected : Nat := if c.ver = 4 then 9 else 10
  if ec ≠ .ok ∨ n ≠ expected then closeConnection c cnt else
  match c.outBuf.readN 0 expected with
  | .error e => .error e
  | .ok h =>
    let b := fun (i : Nat) => h.getD i 0
    let version := sx (b 0)
    let command := sx (b 1)
    let c := { c with command := command }
    match (if p.cmdGuard then (if 1 ≤ command ∧ command ≤ 3 then bump cnt (command - 1) else .ok cnt)
           else bump cnt (command - 1)) with
    | .error e => .error e
    | .ok cnt =>
      if version ≠ c.ver then closeConnection c cnt else
      if c.ver = 4 then
        if command ≠ 1 ∧ command ≠ 2 then closeConnection c cnt else
        let port := be16 (b 2) (b 3)
        let addr := be32 (b 4) (b 5) (b 6) (b 7)
        if b 8 ≠ 0 then closeConnection c cnt
        else if command = 1 then openForwardConnection c cnt addr port
        else bindConnection c cnt addr port
      else
        if command ≠ 1 ∧ command ≠ 2 ∧ command ≠ 3 then closeConnection c cnt else
        if b 2 ≠ 0 then closeConnection c cnt else
        let atyp := b 3
        if atyp ≠ 1 ∧ atyp ≠ 3 ∧ atyp ≠ 4 then closeConnection c cnt else
        if atyp = 1 then
          let addr := be32 (b 4) (b 5) (b 6) (b 7)
          let port := be16 (b 8) (b 9)
          if command = 1 then openForwardConnection c cnt addr port
          else if command = 2 then bindConnection c cnt addr port
          else udpAssociate c cnt addr port
        else if atyp = 3 then
          if command = 2 then closeConnection c cnt else
          let len := ux (b 4)
          let additional := len - 3
          if p.domShort ∧ additional ≤ 0 then onRequestDomainName p c cnt .ok 0
          else exactRead c cnt 10 additional .dom
        else closeConnection c cnt       -- IPv6: unsupported

/-- `on_request_domain_lookup(ec, ips)` -/
def onRequestDomainLookup (c : Conn) (cnt : List Int) (ec : Ec) (ips : List (Nat × Nat)) : Out :=
  match ec, ips with
  | .ok, (a, pt) :: _ => openForwardConnection c cnt a pt
  | _, _ =>
    match c.inBuf.write 0 [u8 c.ver.toNat, 4, 0, 1, 0, 0, 0, 0, 0, 0] with
    | .error e => .error e
    | .ok ib => writeFrom { c with inBuf := ib } cnt .client 10 .closeAfter

/-- rest of `bind_connection` once open/bind returned `ec` and `local_endpoint()` `loc` -/
def bindConnection2 (c : Conn) (cnt : List Int) (ec : Ec) (loc : Nat × Nat) : Out :=
  let response : Nat := if ec ≠ .ok then (if c.ver = 4 then 91 else 1) else (if c.ver = 4 then 90 else 0)
  match formatResponse c loc.1 loc.2 response with
  | .error e => .error e
  | .ok (c, len) => writeFrom c cnt .client len (if ec ≠ .ok then .closeAfter else .startAccept)

/-- `format_hostname_response("foobar", port, response)` (version 5 only; otherwise the
    connection is closed and the length is 0) -/
def formatHostnameResponse (c : Conn) (port response : Nat) : Except Fault (Conn × Nat × List Act) :=
  if c.ver ≠ 5 then .ok (c, 0, closeActs) else
  let bytes : Bytes := [u8 c.ver.toNat, u8 response, 0, 3, 6, 102, 111, 111, 98, 97, 114] ++ port2 port
  match c.inBuf.write 0 bytes with
  | .error e => .error e
  | .ok ib => .ok ({ c with inBuf := ib }, bytes.length, [])

/-- rest of `udp_associate` -/
def udpAssociate2 (c : Conn) (cnt : List Int) (addr port : Nat) (ec : Ec) (loc : Nat × Nat) (cli : Nat) : Out :=
  -- `if (target.address() == address()) target.address(client's remote address)` (in on_request1)
  let c := { c with assoc := (if addr = 0 then cli else addr, port) }
  let rcv : List Act := if ec = .ok then [.udpRecv .udpRecv] else []
  let response : Nat := if ec ≠ .ok then 1 else 0
  match (if c.flags / 2 % 2 = 1 then formatHostnameResponse c loc.2 response
         else (match formatResponse c loc.1 loc.2 response with
               | .error e => .error e
               | .ok (c, len) => .ok (c, len, []))) with
  | .error e => .error e
  | .ok (c, len, a1) =>
    match writeFrom c cnt .client len (if ec ≠ .ok then .closeAfter else .waitEof) with
    | .error e => .error e
    | .ok (c, cnt, a2) => .ok (c, cnt, rcv ++ a1 ++ a2)

/-- `wait_for_eof(ec, n)` -/
def waitForEof (c : Conn) (cnt : List Int) (ec : Ec) : Out :=
  if ec ≠ .ok then .ok ({ c with assoc := (0, 0) }, cnt, [.closeUdp, .closeClient])
  else if c.flags % 2 = 1 then .ok (c, cnt, [.closeClient])
  else .ok (c, cnt, [readSomeAct .client .waitEof])

/-- `start_accept(ec)` -/
def startAccept (c : Conn) (cnt : List Int) (ec : Ec) : Out :=
  if ec ≠ .ok then closeConnection c cnt
  else .ok (c, cnt, [.acceptBind .accept, readSomeAct .client .cliRecv])

/-- `on_connected(ec)`; `remote` is `m_server_connection.remote_endpoint(err)` -/
def onConnected (c : Conn) (cnt : List Int) (ec : Ec) (remote : Option (Nat × Nat)) : Out :=
  if ec = .aborted ∨ ec = .badDesc then .ok (c, cnt, []) else
  let ep := remote.getD (0, 0)
  let response : Nat := if ec ≠ .ok then (if c.ver = 4 then 91 else 5) else (if c.ver = 4 then 90 else 0)
  match formatResponse c ep.1 ep.2 response with
  | .error e => .error e
  | .ok (c, len) => writeFrom c cnt .client len (if ec ≠ .ok then .closeAfter else .relayStart)

/-- the lambda bound to the success reply of `on_connected` -/
def relayStart (c : Conn) (cnt : List Int) (ec : Ec) : Out :=
  if ec ≠ .ok then .ok (c, cnt, [])
  else .ok (c, cnt, [readSomeAct .server .srvRecv, readSomeAct .client .cliRecv])

/-- `on_client_receive(ec, n)` -/
def onClientReceive (c : Conn) (cnt : List Int) (ec : Ec) (n : Nat) : Out :=
  if ec = .aborted ∨ ec = .badDesc then .ok (c, cnt, [])
  else if ec ≠ .ok then closeConnection c cnt
  else writeFrom c cnt .server n .cliFwd

/-- `on_client_forward(ec, n)` -/
def onClientForward (c : Conn) (cnt : List Int) (ec : Ec) : Out :=
  if ec ≠ .ok then closeConnection c cnt else .ok (c, cnt, [readSomeAct .client .cliRecv])

/-- `on_server_receive(ec, n)` -/
def onServerReceive (c : Conn) (cnt : List Int) (ec : Ec) (n : Nat) : Out :=
  if ec ≠ .ok then closeConnection c cnt else writeFrom c cnt .client n .srvFwd

/-- `on_server_forward(ec, n)` -/
def onServerForward (c : Conn) (cnt : List Int) (ec : Ec) : Out :=
  if ec ≠ .ok then closeConnection c cnt else .ok (c, cnt, [readSomeAct .server .srvRecv])

/-! ### UDP ASSOCIATE -/

/-- header naming the source of a reply: RSV RSV FRAG ATYP ADDR PORT -/
def wrapHeader (src : Nat × Nat) (name : Option Bytes) : Bytes :=
  match name with
  | some host => [0, 0, 0, 3, u8 host.length] ++ host ++ port2 src.2
  | none => [0, 0, 0, 1] ++ addr4 src.1 ++ port2 src.2

/-- `m_name_mapping.insert({addr, host})`: a bimap keeps both sides unique -/
def mapInsert (m : List (Nat × Bytes)) (a : Nat) (host : Bytes) : List (Nat × Bytes) :=
  if m.any (fun e => e.1 == a || e.2 == host) then m else m ++ [(a, host)]

/-- `on_read_udp(ec, bytes_transferred)`; the datagram (truncated to the array) was stored at
    offset 0 of `m_udp_buffer`, `src` is `m_udp_from` -/
def onReadUdp (p : Params) (c : Conn) (cnt : List Int) (ec : Ec) (n : Nat) (src : Nat × Nat) : Out :=
  if ec ≠ .ok then .ok (c, cnt, []) else
  let c := if c.assoc.2 = 0 ∧ src.1 = c.assoc.1 then { c with assoc := (c.assoc.1, src.2) } else c
  let rearm : List Act := [.udpRecv .udpRecv]
  if src = c.assoc then
    -- from the client: parse the header, forward the rest
    match c.udpBuf.get 3, c.udpBuf.get 4 with
    | .ok t, .ok l =>
      let atyp : Int := if p.udpLenCheck then (if n ≥ 4 then sx t else -1) else sx t
      let len : Int := if p.udpLenCheck then ux l else sx l
      if p.udpLenCheck ∧ atyp = 3 ∧ (n < 5 ∨ (n : Int) < 7 + len) then .ok (c, cnt, rearm)
      else if p.udpLenCheck ∧ atyp = 1 ∧ n < 10 then .ok (c, cnt, rearm)
      else if atyp = 3 then
        match c.udpBuf.readN 5 len, c.udpBuf.get (5 + len), c.udpBuf.get (6 + len),
              c.udpBuf.readN (7 + len) ((n : Int) - 7 - len) with
        | .ok host, .ok hi, .ok lo, .ok payload =>
          let port := be16 hi lo
          match c.nameMap.find? (fun e => e.2 == host) with
          | some (a, _) => .ok (c, cnt, [.udpSend payload a port] ++ (if p.udpRearm then rearm else []))
          | none => .ok (c, cnt, [.udpResolve host port (.udpResolve payload host)] ++ rearm)
        | _, _, _, _ => .error .oob
      else if atyp = 1 then
        match c.udpBuf.readN 4 6, c.udpBuf.readN 10 ((n : Int) - 10) with
        | .ok h, .ok payload =>
          let b := fun (i : Nat) => h.getD i 0
          .ok (c, cnt, [.udpSend payload (be32 (b 0) (b 1) (b 2) (b 3)) (be16 (b 4) (b 5))] ++ rearm)
        | _, _ => .error .oob
      else .ok (c, cnt, rearm)
    | _, _ => .error .oob
  else
    -- from a target: prepend a header naming the source, send to the client
    match c.udpBuf.readN 0 n with
    | .error e => .error e
    | .ok data =>
      let name := (c.nameMap.find? (fun e => e.1 == src.1)).map Prod.snd
      .ok (c, cnt, [.udpSend (wrapHeader src name ++ data) c.assoc.1 c.assoc.2] ++ rearm)

/-- the lambda given to `m_udp_resolver.async_resolve`: send to the first address that accepts
    the datagram (`send_to` fails exactly for an empty payload), remember name ↔ address -/
def udpResolved (c : Conn) (cnt : List Int) (payload host : Bytes) (ec : Ec) (ips : List (Nat × Nat)) : Out :=
  if ec ≠ .ok then .ok (c, cnt, []) else
  if payload.isEmpty then .ok (c, cnt, ips.map (fun t => .udpSend payload t.1 t.2))
  else match ips with
    | [] => .ok (c, cnt, [])
    | (a, pt) :: _ => .ok ({ c with nameMap := mapInsert c.nameMap a host }, cnt, [.udpSend payload a pt])

/-! ### dispatch -/

/-- the completion handler of a composed `asio::async_read`, called once it is over -/
def exactDone (p : Params) (c : Conn) (cnt : List Int) (k : Kind) (ec : Ec) (total : Nat) : Out :=
  match k with
  | .hs1 => onHandshake1 p c cnt ec total
  | .hs2 => onHandshake2 c cnt ec total
  | .req1 => onRequest1 p c cnt ec total
  | .dom => onRequestDomainName p c cnt ec total
  | _ => .ok (c, cnt, [])

/-- the I/O part of an intermediate completion of a composed read: `data` was stored at
    `off + got`; is the composed operation over (region full, error, or zero-byte read)? -/
def exactStep (c : Conn) (off need got : Nat) (ec : Ec) (data : Bytes) : Except Fault (Conn × Nat × Bool) :=
  match c.outBuf.write (off + got : Nat) data with
  | .error e => .error e
  | .ok ob =>
    let total := got + data.length
    .ok ({ c with outBuf := ob }, total, decide (ec ≠ .ok ∨ data.length = 0 ∨ total ≥ need))

/-- intermediate completion of a composed read: go on until it is over, then call the handler -/
def onExactChunk (p : Params) (c : Conn) (cnt : List Int) (off need got : Nat) (k : Kind) (ec : Ec) (data : Bytes) : Out :=
  match exactStep c off need got ec data with
  | .error e => .error e
  | .ok (c, total, done) =>
    if done then exactDone p c cnt k ec total
    else .ok (c, cnt, [.read .client (min (need - total) 65536) (.exact off need total k)])

/-- does the result fit the operation? (what the I/O layer guarantees: never more bytes than
    the region it was given, the right kind of result) -/
def valid (op : POp) (r : Res) : Bool :=
  match op, r with
  | .exact _ need got _, .rd _ data => decide (data.length ≤ min (need - got) 65536)
  | .readSome _ _, .rd _ data => decide (data.length ≤ 65536)
  | .write _ len _, .wr _ n => decide (n ≤ len)
  | .resolve, .ips _ _ => true
  | .connect, .conn _ _ => true
  | .accept, .conn _ _ => true
  | .bound, .bnd _ _ _ => true
  | .udpBound _ _, .bnd _ _ _ => true
  | .udpRecv, .dgram _ data _ => decide (data.length ≤ 1500)
  | .udpResolve _ _, .ips _ _ => true
  | _, _ => false

/-- completion of the pending operation `op` with result `r` (precondition: `valid op r`) -/
def complete (p : Params) (c : Conn) (cnt : List Int) (op : POp) (r : Res) : Out :=
  match op, r with
  | .exact off need got k, .rd ec data => onExactChunk p c cnt off need got k ec data
  | .readSome s k, .rd ec data =>
    -- the I/O layer stored `data` at the start of the array it was given
    match s with
    | .client =>
      (match c.outBuf.write 0 data with
       | .error e => .error e
       | .ok ob =>
         let c := { c with outBuf := ob }
         match k with
         | .cliRecv => onClientReceive c cnt ec data.length
         | .waitEof => waitForEof c cnt ec
         | _ => .ok (c, cnt, []))
    | .server =>
      (match c.inBuf.write 0 data with
       | .error e => .error e
       | .ok ib =>
         let c := { c with inBuf := ib }
         match k with
         | .srvRecv => onServerReceive c cnt ec data.length
         | _ => .ok (c, cnt, []))
  | .write _ _ k, .wr ec n =>
    (match k with
     | .hs3 => onHandshake3 c cnt ec n
     | .closeAfter => closeConnection c cnt
     | .startAccept => startAccept c cnt ec
     | .waitEof => waitForEof c cnt ec
     | .relayStart => relayStart c cnt ec
     | .cliFwd => onClientForward c cnt ec
     | .srvFwd => onServerForward c cnt ec
     | _ => .ok (c, cnt, []))
  | .resolve, .ips ec l => onRequestDomainLookup c cnt ec l
  | .connect, .conn ec rem => onConnected c cnt ec rem
  | .accept, .conn ec rem => onConnected c cnt ec rem
  | .bound, .bnd ec loc _ => bindConnection2 c cnt ec loc
  | .udpBound a pt, .bnd ec loc cli => udpAssociate2 c cnt a pt ec loc cli
  | .udpRecv, .dgram ec data src =>
    (match c.udpBuf.write 0 data with
     | .error e => .error e
     | .ok ub => onReadUdp p { c with udpBuf := ub } cnt ec data.length src)
  | .udpResolve payload host, .ips ec l => udpResolved c cnt payload host ec l
  | _, _ => .ok (c, cnt, [])

/-- the operation an action starts, if any -/
def Act.op? : Act → Option POp
  | .read _ _ op | .write _ _ op | .resolve _ _ op | .connect _ _ op | .bindSock _ _ op
  | .acceptBind op | .udpOpen op | .udpRecv op | .udpResolve _ _ op => some op
  | _ => none

end SimVerif.Socks
