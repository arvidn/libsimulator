/-
  SimVerif.Lemmas.ResolverInv — projection lemmas for the resolver mechanism
  (SimVerif/Resolver.lean), the open system `RS` (SimVerif/ResolverSys.lean), and the
  invariant `RInv` that holds after every well-timed history (`RS.okRun`) of the repaired
  tree (`RParams.fixed`).

  Structure of the invariant:
    * `RCore`   — everything about queue and logs; it also holds in the middle of `on_lookup`
                  (between the pop and the re-arm);
    * `FrontOK` — the front entry is not overdue, unless the current instant is the deadline
                  of some address literal;
    * `Armed`   — a non-empty queue has the timer armed for the front entry's completion (not
                  later than that, unless at a literal's deadline), or `on_lookup` is posted.
-/
import SimVerif.ResolverSys

namespace SimVerif

theorem map_h_ofEntry (t : Int) (il : Bool) (ec : Ec) (l : List REntry) :
    (l.map (RComp.ofEntry t il ec)).map RComp.h = l.map REntry.h := by
  rw [List.map_map]; rfl

/-- the queue is "literals, then host names with non-decreasing completion" -/
def REntry.InOrder (x y : REntry) : Prop :=
  x.literal = false → y.literal = false ∧ x.completion ≤ y.completion

theorem rs_pair_last {l : List REntry} {b : REntry} (hp : l.Pairwise REntry.InOrder)
    (hb : l.getLast? = some b) :
    ∀ x ∈ l, x.literal = false → x.completion ≤ b.completion := by
  obtain ⟨ys, rfl⟩ := List.getLast?_eq_some_iff.mp hb
  intro x hx hl
  rw [List.pairwise_append] at hp
  rcases List.mem_append.mp hx with hx | hx
  · exact (hp.2.2 x hx b (by simp) hl).2
  · simp at hx; subst hx; exact Int.le_refl _

theorem LitDl_mono {l l' : List RReq} {a : Int} (h : LitDl l a) : LitDl (l ++ l') a := by
  obtain ⟨q, hq, h1, h2⟩ := h
  exact ⟨q, List.mem_append_left _ hq, h1, h2⟩

/-- how far a host-name entry's `completion_time` may exceed its nominal completion: one
    microsecond once an address literal has been requested, nothing before -/
def litSlack (reqLog : List RReq) : Int := if reqLog.any (fun q => q.literal) then 1000 else 0

theorem litSlack_nonneg (l : List RReq) : 0 ≤ litSlack l := by unfold litSlack; split <;> omega
theorem litSlack_le (l : List RReq) : litSlack l ≤ 1000 := by unfold litSlack; split <;> omega

theorem litSlack_of_lit {l : List RReq} {q : RReq} (hq : q ∈ l) (hl : q.literal = true) :
    litSlack l = 1000 :=
  if_pos (List.any_eq_true.mpr ⟨q, hq, hl⟩)

theorem litSlack_nolit {l : List RReq} (h : ∀ q ∈ l, q.literal = false) : litSlack l = 0 :=
  if_neg (by simpa using h)

theorem litSlack_mono (l l' : List RReq) : litSlack l ≤ litSlack (l ++ l') := by
  unfold litSlack; rw [List.any_append]
  cases l.any (·.literal) <;> cases l'.any (·.literal) <;> decide

theorem rs_applyEff_armFront (s : RS) (r : R) (z : REntry) (h : r.queue.head? = some z) :
    s.applyEff r.armFront = { s with timer := some (z.completion, s.now) } := by
  unfold R.armFront
  cases hq : r.queue with
  | nil => simp [hq] at h
  | cons f rest =>
    simp [hq] at h; subst h
    rfl

theorem rs_applyEff_posts (s : RS) (l : List REntry) :
    s.applyEff (l.map (fun e => REff.post e.h .aborted e.res)) = s := by
  induction l with
  | nil => rfl
  | cons a l ih => simpa [RS.applyEff] using ih

/-- an optional instant, clamped from below by the clock: the start of the next host-name lookup,
    both in the mechanism (`o` = completion of the back entry) and in C14's recurrence (`o` =
    nominal completion of the previous host-name request) -/
def clamp (now : Int) (o : Option Int) : Int := max now (o.getD now)

theorem clamp_none (now : Int) : clamp now none = now := Int.max_self now

theorem le_clamp (now : Int) (o : Option Int) : now ≤ clamp now o := Int.le_max_left ..

theorem clamp_tick {a t : Int} (o : Option Int) (h : a ≤ t) : clamp t o = max t (clamp a o) := by
  cases o with
  | none => simp only [clamp, Option.getD_none, Int.max_self, Int.max_eq_left h]
  | some n => simp only [clamp, Option.getD_some, ← Int.max_assoc, Int.max_eq_left h]

/-- with both clamped from below by `now`: `y` is `x`, or up to `k` later. In `RCore.chain`, `x` is the
    nominal completion of the previous host-name request (C14's recurrence), `y` the completion of
    the back entry (what `R.startTime` chains from), `k` the literal slack. -/
def Chain (now : Int) (x y : Option Int) (k : Int) : Prop :=
  clamp now x ≤ clamp now y ∧ clamp now y ≤ clamp now x + k

theorem Chain.tick {a t k : Int} {x y : Option Int} (h : Chain a x y k) (hat : a ≤ t) :
    Chain t x y k := by
  unfold Chain at h ⊢; rw [clamp_tick x hat, clamp_tick y hat]; omega

theorem Chain.mono {now k k' : Int} {x y : Option Int} (h : Chain now x y k) (hk : k ≤ k') :
    Chain now x y k' := ⟨h.1, Int.le_trans h.2 (Int.add_le_add_left hk _)⟩

theorem Chain.refl (now : Int) (o : Option Int) {k : Int} (hk : 0 ≤ k) : Chain now o o k :=
  ⟨Int.le_refl _, Int.le_add_of_nonneg_right hk⟩

/-- a host-name lookup starts at the clamped instants and takes `lat` on both sides -/
theorem Chain.push {now k : Int} {x y : Option Int} (h : Chain now x y k) (lat : Int) :
    Chain now (some (clamp now x + lat)) (some (clamp now y + lat)) k := by
  unfold Chain at h
  show max now (clamp now x + lat) ≤ max now (clamp now y + lat)
    ∧ max now (clamp now y + lat) ≤ max now (clamp now x + lat) + k
  omega

/-- a literal into the empty queue: due in 1 µs -/
theorem Chain.lit {now k : Int} {x : Option Int} (h : Chain now x none k) :
    Chain now x (some (now + 1000)) 1000 := by
  have := le_clamp now x
  unfold Chain at h; rw [clamp_none] at h
  show _ ≤ max now (now + 1000) ∧ max now (now + 1000) ≤ _
  omega

/-- the only entry is popped, not before it is due -/
theorem Chain.drain {now k c : Int} {x : Option Int} (h : Chain now x (some c) k) (hc : c ≤ now) :
    Chain now x none k := by
  unfold Chain at h ⊢; rw [clamp_none]
  replace h : _ ≤ max now c ∧ max now c ≤ _ := h
  omega

def RS.back (s : RS) : Option Int := s.r.queue.getLast?.map REntry.completion

theorem startTime_fixed (now : Int) (r : R) :
    r.startTime .fixed now = clamp now (r.queue.getLast?.map REntry.completion) := by
  unfold R.startTime
  cases hq : r.queue with
  | nil => exact (clamp_none now).symm
  | cons f rest => rw [List.getLast?_cons]; rfl

/-- the entry `async_resolve` of a host name appends -/
def RS.nameEntry (p : RParams) (s : RS) (err : Ec) (ips : List String) (lat : Int) (port h : Nat) :
    REntry :=
  { completion := s.r.startTime p s.now + lat, err := err, ips := ips, port := port, h := h
    literal := false }

/-- the entry `async_resolve` of a literal inserts -/
def RS.litEntry (s : RS) (addr : String) (port h : Nat) : REntry :=
  { completion := s.now + 1000, err := .ok, ips := [addr], port := port, h := h, literal := true }

theorem doLit_eq (s : RS) (addr : String) (port h : Nat) :
    s.doLit addr port h =
      { s with r := { queue := s.litEntry addr port h :: s.r.queue }
               reqLog := s.reqLog ++ [RReq.ofLit s.now addr port h]
               timer := some (s.now + 1000, s.now) } := rfl

theorem doName_eq (p : RParams) (s : RS) (err : Ec) (ips : List String) (lat : Int) (port h : Nat) :
    s.doName p err ips lat port h =
      { s with r := { queue := s.r.queue ++ [s.nameEntry p err ips lat port h] }
               reqLog := s.reqLog ++ [RReq.ofName s.now err ips lat port h (s.nominal lat)]
               lastNom := some (s.nominal lat)
               timer := some ((s.r.queue.head?.getD (s.nameEntry p err ips lat port h)).completion,
                 s.now) } := by
  unfold RS.doName R.resolveName R.armFront
  cases s.r.queue <;> rfl

theorem doCancel_eq (s : RS) :
    s.doCancel =
      { s with r := { queue := [] }
               compLog := s.compLog ++ s.r.queue.map (RComp.ofEntry s.now false .aborted)
               lastNom := none } := by
  unfold RS.doCancel R.cancel
  dsimp only
  rw [rs_applyEff_posts]

/-- a queue entry carries what its request says -/
def REntry.Matches (k : Int) (e : REntry) (q : RReq) : Prop :=
  q.h = e.h ∧ q.literal = e.literal ∧ (e.err, e.res) = q.expected
  ∧ (e.literal = true → e.completion = q.t + 1000)
  ∧ (e.literal = false → q.nominal ≤ e.completion ∧ e.completion ≤ q.nominal + k)

theorem REntry.Matches.mono {k k' : Int} {e : REntry} {q : RReq} (h : REntry.Matches k e q) (hk : k ≤ k') :
    REntry.Matches k' e q := by
  obtain ⟨h1, h2, h3, h4, h5⟩ := h
  exact ⟨h1, h2, h3, h4, fun hl => ⟨(h5 hl).1, by have := (h5 hl).2; omega⟩⟩

/-- a completion made by `on_lookup`, against its request: the oracle's answer, the schedule the
    entry carried, never before it, and on it unless at a literal's deadline -/
structure Timed (reqLog : List RReq) (c : RComp) (q : RReq) : Prop where
  answer : (c.ec, c.res) = q.expected
  lit    : c.literal = true → c.sched = q.t + 1000
  name   : c.literal = false → q.nominal ≤ c.sched ∧ c.sched ≤ q.nominal + litSlack reqLog
  late   : c.sched ≤ c.t
  exact  : c.t = c.sched ∨ LitDl reqLog c.t

structure CompFor (reqLog : List RReq) (c : RComp) (q : RReq) : Prop where
  h       : q.h = c.h
  literal : q.literal = c.literal
  aborted : c.inline = false → c.ec = .aborted
  timed   : c.inline = true → Timed reqLog c q

def CompOk (reqLog : List RReq) (c : RComp) : Prop := ∃ q ∈ reqLog, CompFor reqLog c q

theorem CompOk_mono {l l' : List RReq} {c : RComp} (h : CompOk l c) : CompOk (l ++ l') c := by
  obtain ⟨q, hq, m⟩ := h
  refine ⟨q, List.mem_append_left _ hq, m.h, m.literal, m.aborted, fun hi => ?_⟩
  have t := m.timed hi
  exact ⟨t.answer, t.lit, fun hl => ⟨(t.name hl).1,
    Int.le_trans (t.name hl).2 (Int.add_le_add_left (litSlack_mono l l') _)⟩, t.late,
    t.exact.imp id LitDl_mono⟩

/-- `cnt`, `fifo`: requested = completed ++ queued, as multiset of handlers and in order for the
    host names. `pair`: the queue is literals, then host names in completion order. `match_q`,
    `match_c`: a queue entry / a logged completion carries what its request says; the entry's part
    is what turns into the completion's when `on_lookup` pops it. `reqwf`: a literal's request is
    its own answer. -/
structure RCore (s : RS) : Prop where
  ub      : s.ub = false
  cnt     : ∀ h, (s.reqLog.map RReq.h).count h
              = (s.compLog.map RComp.h).count h + (s.r.queue.map REntry.h).count h
  pair    : s.r.queue.Pairwise REntry.InOrder
  match_q : ∀ e ∈ s.r.queue, ∃ q ∈ s.reqLog, REntry.Matches (litSlack s.reqLog) e q
  match_c : ∀ c ∈ s.compLog, CompOk s.reqLog c
  fifo    : (s.reqLog.filter (fun q => !q.literal)).map RReq.h
              = (s.compLog.filter (fun c => !c.literal)).map RComp.h
                ++ (s.r.queue.filter (fun e => !e.literal)).map REntry.h
  /-- the next host-name lookup would start (`R.startTime`) where C14's recurrence says
      (`RS.nominal`), or up to the slack later -/
  chain   : Chain s.now s.lastNom s.back (litSlack s.reqLog)
  reqwf   : ∀ q ∈ s.reqLog, q.literal = true → q.err = .ok ∧ ∃ addr, q.ips = [addr]

def FrontOK (s : RS) : Prop :=
  ∀ z, s.r.queue.head? = some z → s.now ≤ z.completion ∨ LitDl s.reqLog s.now

/-- the wait for the front entry is pending, started at an instant that was not past the
    entry's completion unless it was a literal's deadline; or `on_lookup` is posted -/
def Armed (s : RS) : Prop :=
  ∀ z, s.r.queue.head? = some z →
    (∃ a, s.timer = some (z.completion, a) ∧ a ≤ s.now ∧ (a ≤ z.completion ∨ LitDl s.reqLog a))
    ∨ s.posted = true

structure RInv (s : RS) : Prop where
  core  : RCore s
  front : FrontOK s
  armed : Armed s

theorem RInv.init : RInv {} := by
  refine ⟨⟨rfl, ?_, ?_, ?_, ?_, rfl, Chain.refl _ _ (litSlack_nonneg _), ?_⟩, ?_, ?_⟩ <;>
    simp [FrontOK, Armed]

/-- `RCore` reads neither the pending wait nor `posted`. -/
theorem RCore.setTimer {s : RS} (hc : RCore s) (t : Option (Int × Int)) (b : Bool) :
    RCore { s with timer := t, posted := b } :=
  ⟨hc.ub, hc.cnt, hc.pair, hc.match_q, hc.match_c, hc.fifo, hc.chain, hc.reqwf⟩

theorem RCore.armFront {s : RS} (hc : RCore s) (hf : FrontOK s) {z : REntry}
    (hz : s.r.queue.head? = some z) (b : Bool) :
    RInv { s with timer := some (z.completion, s.now), posted := b } :=
  ⟨hc.setTimer _ b, hf, fun z' hz' => by
    cases hz.symm.trans hz'; exact Or.inl ⟨s.now, rfl, Int.le_refl _, hf z hz⟩⟩

theorem RInv.tick {s : RS} (hI : RInv s) {t : Int} (h1 : s.now ≤ t) (h2 : s.notAfterDue t) :
    RInv { s with now := t } := by
  obtain ⟨hc, hf, ha⟩ := hI
  refine ⟨⟨hc.ub, hc.cnt, hc.pair, hc.match_q, hc.match_c, hc.fifo, ?_, hc.reqwf⟩, ?_, ?_⟩
  · exact hc.chain.tick h1
  · intro z hz
    show t ≤ z.completion ∨ LitDl s.reqLog t
    rcases ha z hz with ⟨a, hta, _, hae⟩ | hp
    · have h2' := h2.1
      rw [hta] at h2'
      dsimp only at h2'
      by_cases hle : t ≤ z.completion
      · exact Or.inl hle
      · have hta' : t = a := by omega
        rcases hae with h | h
        · omega
        · exact Or.inr (hta' ▸ h)
    · rw [h2.2 hp]; exact hf z hz
  · exact fun z hz => (ha z hz).imp (fun ⟨a, h, hat, hae⟩ => ⟨a, h, Int.le_trans hat h1, hae⟩) id

theorem RCore.doLit {s : RS} (hc : RCore s) (addr : String) (port h : Nat) :
    RInv (s.doLit addr port h) := by
  rw [doLit_eq]
  have hsl := litSlack_mono s.reqLog [RReq.ofLit s.now addr port h]
  refine RCore.armFront (z := s.litEntry addr port h) (s := { s with r := { queue := s.litEntry addr port h :: s.r.queue }, reqLog := s.reqLog ++ [RReq.ofLit s.now addr port h] })
    { ub := hc.ub, cnt := ?cnt, pair := ?pair, match_q := ?match_q, match_c := ?match_c,
      fifo := ?fifo, chain := ?chain, reqwf := ?reqwf } ?hf rfl s.posted
  case cnt =>
    intro h'
    have := hc.cnt h'
    simp only [List.map_append, List.map_cons, List.map_nil, List.count_append, List.count_cons,
      List.count_nil, RS.litEntry, RReq.ofLit] at this ⊢
    omega
  case pair => exact List.pairwise_cons.mpr ⟨fun y _ hl => by simp [RS.litEntry] at hl, hc.pair⟩
  case match_q =>
    intro e he
    rcases List.mem_cons.mp he with rfl | he
    · exact ⟨RReq.ofLit s.now addr port h, by simp, rfl, rfl, rfl, fun _ => rfl,
        fun hl => by simp [RS.litEntry] at hl⟩
    · obtain ⟨q, hq, hm⟩ := hc.match_q e he
      exact ⟨q, List.mem_append_left _ hq, hm.mono hsl⟩
  case match_c => exact fun c hc' => CompOk_mono (hc.match_c c hc')
  case fifo =>
    have := hc.fifo
    simp only [List.filter_append, List.filter_cons, List.filter_nil, RReq.ofLit, RS.litEntry,
      Bool.not_true] at this ⊢
    simpa using this
  case chain =>
    -- the back entry stays, unless the queue was empty: then it is the literal, due in 1 µs
    have := hc.chain
    unfold RS.back at this ⊢
    dsimp only
    rw [List.getLast?_cons]
    cases hb : s.r.queue.getLast? with
    | some b => rw [hb] at this; exact this.mono hsl
    | none =>
      rw [hb] at this
      rw [litSlack_of_lit (q := RReq.ofLit s.now addr port h) (by simp) rfl]
      exact this.lit
  case reqwf =>
    intro q hq hl
    rcases List.mem_append.mp hq with hq | hq
    · exact hc.reqwf q hq hl
    · simp at hq; subst hq; exact ⟨rfl, addr, rfl⟩
  case hf =>
    intro z hz
    cases hz
    exact Or.inl (show s.now ≤ s.now + 1000 by omega)

theorem nameEntry_facts {s : RS} (hc : RCore s) {err : Ec} {ips : List String} {lat : Int}
    {port h : Nat} (hlat : 0 ≤ lat) {E : REntry} (hE : s.nameEntry .fixed err ips lat port h = E) :
    E.literal = false
    ∧ E.completion = clamp s.now s.back + lat ∧ s.now ≤ E.completion
    ∧ s.nominal lat ≤ E.completion ∧ E.completion ≤ s.nominal lat + litSlack s.reqLog
    ∧ ∀ x ∈ s.r.queue, x.literal = false → x.completion ≤ E.completion := by
  subst hE
  have hE : (s.nameEntry .fixed err ips lat port h).completion = clamp s.now s.back + lat :=
    congrArg (· + lat) (startTime_fixed s.now s.r)
  have hnom : s.nominal lat = clamp s.now s.lastNom + lat := rfl
  obtain ⟨h1, h2⟩ := hc.chain
  have := le_clamp s.now s.back
  refine ⟨rfl, hE, by omega, by omega, by omega, fun x hx hxl => ?_⟩
  rw [hE]; unfold RS.back
  cases hb : s.r.queue.getLast? with
  | none => rw [List.getLast?_eq_none_iff.mp hb] at hx; cases hx
  | some b =>
    have := rs_pair_last hc.pair hb x hx hxl
    have := Int.le_max_right s.now b.completion
    show _ ≤ max s.now b.completion + lat; omega

theorem RCore.doName {s : RS} (hc : RCore s) (hf : FrontOK s) (err : Ec) (ips : List String)
    (lat : Int) (port h : Nat) (hlat : 0 ≤ lat) :
    RInv (s.doName .fixed err ips lat port h) := by
  generalize hE : s.nameEntry .fixed err ips lat port h = E
  obtain ⟨hEl, hEc, hnow, hlo, hhi, hord⟩ := nameEntry_facts hc hlat hE
  have hsl := litSlack_mono s.reqLog [RReq.ofName s.now err ips lat port h (s.nominal lat)]
  -- the front after the append
  obtain ⟨z, hz', hz, hzf⟩ : ∃ z, s.r.queue.head?.getD E = z ∧ (s.r.queue ++ [E]).head? = some z
      ∧ (s.now ≤ z.completion ∨ LitDl s.reqLog s.now) := by
    cases hq : s.r.queue with
    | nil => exact ⟨E, rfl, rfl, Or.inl hnow⟩
    | cons f rest => exact ⟨f, rfl, rfl, hf f (by rw [hq]; rfl)⟩
  rw [doName_eq, hE, hz']
  refine RCore.armFront (z := z) (s := { s with r := { queue := s.r.queue ++ [E] }, reqLog := s.reqLog ++ [RReq.ofName s.now err ips lat port h (s.nominal lat)], lastNom := some (s.nominal lat) })
    { ub := hc.ub, cnt := ?cnt, pair := ?pair, match_q := ?match_q, match_c := ?match_c,
      fifo := ?fifo, chain := ?chain, reqwf := ?reqwf } ?hf hz s.posted
  case cnt =>
    intro h'
    have := hc.cnt h'
    subst hE
    simp only [List.map_append, List.map_cons, List.map_nil, List.count_append, List.count_cons,
      List.count_nil, RS.nameEntry, RReq.ofName] at this ⊢
    omega
  case pair =>
    refine List.pairwise_append.mpr ⟨hc.pair, List.pairwise_singleton _ _, ?_⟩
    intro x hx y hy hxl
    cases List.mem_singleton.mp hy
    exact ⟨hEl, hord x hx hxl⟩
  case match_q =>
    intro e he
    rcases List.mem_append.mp he with he | he
    · obtain ⟨q, hq, hm⟩ := hc.match_q e he
      exact ⟨q, List.mem_append_left _ hq, hm.mono hsl⟩
    · cases List.mem_singleton.mp he
      refine ⟨RReq.ofName s.now err ips lat port h (s.nominal lat), by simp, ?_, ?_, ?_,
        fun hl => by simp [hEl] at hl, fun _ => ⟨hlo, Int.le_trans hhi (Int.add_le_add_left hsl _)⟩⟩ <;> (subst hE; rfl)
  case match_c => exact fun c hc' => CompOk_mono (hc.match_c c hc')
  case fifo =>
    have := hc.fifo
    subst hE
    simp only [List.filter_append, List.filter_cons, List.filter_nil, RReq.ofName, RS.nameEntry,
      Bool.not_false, List.map_append, List.map_cons, List.map_nil, ite_true] at this ⊢
    rw [this, List.append_assoc]
  case chain =>
    show Chain s.now (some (s.nominal lat)) ((s.r.queue ++ [E]).getLast?.map REntry.completion) _
    rw [List.getLast?_concat, Option.map_some, hEc]
    exact (hc.chain.push lat).mono hsl
  case reqwf =>
    intro q hq hl
    rcases List.mem_append.mp hq with hq | hq
    · exact hc.reqwf q hq hl
    · cases List.mem_singleton.mp hq; cases hl
  case hf =>
    intro z' hz'
    cases hz.symm.trans hz'
    exact hzf.imp id LitDl_mono

theorem RCore.doCancel {s : RS} (hc : RCore s) : RInv s.doCancel := by
  rw [doCancel_eq]
  refine ⟨{ ub := hc.ub, cnt := ?cnt, pair := ?pair, match_q := ?match_q, match_c := ?match_c,
            fifo := ?fifo, chain := ?chain, reqwf := hc.reqwf }, ?front, ?armed⟩
  case cnt =>
    intro h'
    have := hc.cnt h'
    simp only [List.map_append, List.count_append, map_h_ofEntry, List.map_nil,
      List.count_nil] at this ⊢
    omega
  case pair => exact List.Pairwise.nil
  case match_q => intro e he; cases he
  case match_c =>
    intro c hc'
    rcases List.mem_append.mp hc' with hc' | hc'
    · exact hc.match_c c hc'
    · obtain ⟨e, he, rfl⟩ := List.mem_map.mp hc'
      obtain ⟨q, hq, hm⟩ := hc.match_q e he
      exact ⟨q, hq, hm.1, hm.2.1, fun _ => rfl, fun hi => by cases hi⟩
  case fifo =>
    have := hc.fifo
    simp only [List.filter_append, List.map_append, List.filter_map, map_h_ofEntry, List.filter_nil,
      List.map_nil, List.append_nil] at this ⊢
    exact this
  case chain => exact Chain.refl _ _ (litSlack_nonneg _)
  case front => intro z hz; cases hz
  case armed => intro z hz; cases hz

theorem RCore.doCall {s : RS} (hc : RCore s) (hf : FrontOK s) (c : RCall) (hok : c.ok) :
    RInv (s.doCall .fixed c) := by
  cases c with
  | lit addr port h => exact RCore.doLit hc addr port h
  | name err ips lat port h => exact RCore.doName hc hf err ips lat port h hok
  | cancel => exact RCore.doCancel hc

/-- between the pop and the re-arm of `on_lookup`: either some call of the handler armed the
    timer, or it is idle and `empty` was read as false -/
def MidArmed (empty : Bool) (s : RS) : Prop := Armed s ∨ empty = false

theorem onLookupFinish_fst (p : RParams) (e : Bool) (r : R) : (r.onLookupFinish p e).1 = r := by
  unfold R.onLookupFinish; split <;> rfl

theorem rs_finish_inv (empty : Bool) {s : RS} (h1 : RCore s) (h2 : FrontOK s) (h3 : MidArmed empty s) :
    RInv (({ s with r := (s.r.onLookupFinish .fixed empty).1 }).applyEff
      (s.r.onLookupFinish .fixed empty).2) := by
  rw [onLookupFinish_fst]
  show RInv (s.applyEff (s.r.onLookupFinish .fixed empty).2)
  unfold R.onLookupFinish
  cases hq : s.r.queue with
  | nil =>
    simp [RParams.fixed, RS.applyEff]
    exact ⟨h1, h2, fun z hz => by simp [hq] at hz⟩
  | cons f rest =>
    cases empty with
    | true =>
      simp [RS.applyEff]
      rcases h3 with h3 | h3
      · exact ⟨h1, h2, h3⟩
      · cases h3
    | false =>
      simp [RParams.fixed]
      rw [rs_applyEff_armFront s s.r f (by simp [hq])]
      exact RCore.armFront h1 h2 (by simp [hq]) s.posted

/-- the state of `on_lookup` right after the pop, when the handler is being invoked -/
def RS.popped (s : RS) (v : REntry) (rest : List REntry) : RS :=
  { s with posted := false, r := { queue := rest },
           compLog := s.compLog ++ [RComp.ofEntry s.now true v.err v] }

theorem onLookupGuard_nil (p : RParams) (now : Int) (r : R) (h : r.queue = []) :
    r.onLookupGuard p now = none := by
  unfold R.onLookupGuard; simp [h]

theorem onLookupGuard_notdue (p : RParams) (hp : p.dueCheck = true) (now : Int) (r : R) (f : REntry)
    (rest : List REntry) (h : r.queue = f :: rest) (hd : now < f.completion) :
    r.onLookupGuard p now = some r.armFront := by
  unfold R.onLookupGuard; simp [h, hd, hp]

theorem onLookupGuard_due (p : RParams) (now : Int) (r : R) (f : REntry) (rest : List REntry)
    (h : r.queue = f :: rest) (hd : ¬ now < f.completion) :
    r.onLookupGuard p now = none := by
  unfold R.onLookupGuard; simp [h, hd]

theorem doFire_nil (p : RParams) (s : RS) (re : List RCall) (hq : s.r.queue = []) :
    s.doFire p re = { s with posted := false } := by
  unfold RS.doFire
  simp only [onLookupGuard_nil p s.now s.r hq, R.onLookupPop, hq]

theorem doFire_notdue (p : RParams) (hp : p.dueCheck = true) (s : RS) (re : List RCall) (v : REntry)
    (rest : List REntry) (hq : s.r.queue = v :: rest) (hd : s.now < v.completion) :
    s.doFire p re = { s with posted := false, timer := some (v.completion, s.now) } := by
  unfold RS.doFire
  simp only [onLookupGuard_notdue p hp s.now s.r v rest hq hd]
  exact rs_applyEff_armFront _ s.r v (by rw [hq]; rfl)

theorem doFire_guard (p : RParams) (s : RS) (re : List RCall) (effs : List REff)
    (hg : s.r.onLookupGuard p s.now = some effs) :
    s.doFire p re = ({ s with posted := false } : RS).applyEff effs := by
  unfold RS.doFire
  simp only [hg]

theorem doFire_pop (p : RParams) (s : RS) (re : List RCall) (v : REntry) (rest : List REntry)
    (hq : s.r.queue = v :: rest) (hg : s.r.onLookupGuard p s.now = none) :
    s.doFire p re =
      ({ (re.foldl (RS.doCall p) (s.popped v rest)) with
          r := ((re.foldl (RS.doCall p) (s.popped v rest)).r.onLookupFinish p rest.isEmpty).1 }).applyEff
        ((re.foldl (RS.doCall p) (s.popped v rest)).r.onLookupFinish p rest.isEmpty).2 := by
  unfold RS.doFire
  simp only [hg, R.onLookupPop, hq]
  rfl

theorem RInv.doFire {s : RS} (hI : RInv s) (re : List RCall)
    (hok : ∀ c ∈ re, c.ok) : RInv (s.doFire .fixed re) := by
  obtain ⟨hc, hf, ha⟩ := hI
  cases hq : s.r.queue with
  | nil =>
    rw [doFire_nil _ _ _ hq]
    exact ⟨hc.setTimer _ false, hf, fun z hz => by simp [hq] at hz⟩
  | cons v rest =>
    by_cases hdue : s.now < v.completion
    · rw [doFire_notdue _ rfl _ _ v rest hq hdue]
      exact RCore.armFront hc hf (by simp [hq]) false
    rw [doFire_pop _ _ _ v rest hq (onLookupGuard_due _ _ _ v rest hq hdue)]
    have hvm : v ∈ s.r.queue := by simp [hq]
    have hvt : v.completion ≤ s.now := by omega
    have hvf := hf v (by simp [hq])
    obtain ⟨q, hqm, mh, ml, mans, mlit, mname⟩ := hc.match_q v hvm
    have hpair := List.pairwise_cons.mp (hq ▸ hc.pair)
    have hcnt := hc.cnt
    have hfifo := hc.fifo
    rw [hq] at hcnt hfifo
    have h1 : RCore (s.popped v rest) := by
      unfold RS.popped
      refine { ub := hc.ub, cnt := ?cnt, pair := hpair.2, match_q := ?match_q, match_c := ?match_c,
               fifo := ?fifo, chain := ?chain, reqwf := hc.reqwf }
      case cnt =>
        intro h'
        have := hcnt h'
        simp only [List.map_append, List.map_cons, List.map_nil, List.count_append, List.count_cons,
          List.count_nil, RComp.ofEntry] at this ⊢
        omega
      case match_q =>
        intro e he
        exact hc.match_q e (by rw [hq]; exact List.mem_cons_of_mem _ he)
      case match_c =>
        intro c hc'
        rcases List.mem_append.mp hc' with hc' | hc'
        · exact hc.match_c c hc'
        · simp at hc'; subst hc'
          refine ⟨q, hqm, mh, ml, fun hi => (by cases hi), fun _ => ⟨mans, mlit, mname, hvt, ?_⟩⟩
          show s.now = v.completion ∨ LitDl s.reqLog s.now
          rcases hvf with h | h
          · left; omega
          · exact Or.inr h
      case fifo =>
        cases hvl : v.literal <;>
          simp only [List.filter_append, List.filter_cons, List.filter_nil, RComp.ofEntry, hvl,
            Bool.not_true, Bool.not_false, List.map_append, List.map_cons, List.map_nil, ite_true] at hfifo ⊢
        · rw [hfifo]; simp
        · simpa using hfifo
      case chain =>
        -- the back entry stays, unless `v` was the only one: it was due, so the clock takes over
        have := hc.chain
        unfold RS.back at this ⊢
        rw [hq, List.getLast?_cons] at this
        dsimp only
        cases hr : rest.getLast? with
        | some b => rw [hr] at this; exact this
        | none => rw [hr] at this; exact this.drain hvt
    -- popped on time, or at a literal's deadline; behind a host name only host names that complete
    -- no earlier (`pair`)
    have h2 : FrontOK (s.popped v rest) := by
      unfold RS.popped
      intro z hz
      show s.now ≤ z.completion ∨ LitDl s.reqLog s.now
      rcases hvf with h | h
      · cases hvl : v.literal with
        | true =>
          right
          exact ⟨q, hqm, ml.trans hvl, by have := mlit hvl; omega⟩
        | false =>
          left
          have hzm : z ∈ rest := List.mem_of_head? hz
          have := (hpair.1 z hzm hvl).2
          omega
      · exact Or.inr h
    have h3 : MidArmed rest.isEmpty (s.popped v rest) := by
      unfold RS.popped
      cases hr : rest with
      | nil => left; intro z hz; cases hz
      | cons f rest' => right; rfl
    obtain ⟨g1, g2, g3⟩ := List.foldlRecOn re (RS.doCall .fixed)
      (motive := fun x => RCore x ∧ FrontOK x ∧ MidArmed rest.isEmpty x) ⟨h1, h2, h3⟩
      fun x ⟨a, b, _⟩ c hc =>
        have hI := RCore.doCall a b c (hok c hc)
        ⟨hI.core, hI.front, .inl hI.armed⟩
    exact rs_finish_inv rest.isEmpty g1 g2 g3

theorem RInv.step {s : RS} (hI : RInv s) (l : RLbl) (hok : s.ok l) : RInv (s.step .fixed l) := by
  cases l with
  | resolveLit t addr port h =>
    obtain ⟨h1, h2⟩ := hok
    exact RCore.doLit (hI.tick h1 h2).core addr port h
  | resolveName t err ips lat port h =>
    obtain ⟨h1, h2, h3⟩ := hok
    exact RCore.doName (hI.tick h1 h2).core (hI.tick h1 h2).front err ips lat port h h3
  | cancel t =>
    obtain ⟨h1, h2⟩ := hok
    exact RCore.doCancel (hI.tick h1 h2).core
  | timerExpires t =>
    obtain ⟨h1, h2, h3⟩ := hok
    have hnd : s.notAfterDue t := by
      unfold RS.dueAt at h2; unfold RS.notAfterDue
      refine ⟨?_, fun hp => by rw [h3] at hp; cases hp⟩
      split <;> simp_all
    obtain ⟨hc, hf, _⟩ := hI.tick h1 hnd
    exact ⟨hc.setTimer none true, hf, fun z _ => Or.inr rfl⟩
  | timerFires t re =>
    obtain ⟨rfl, _, h3⟩ := hok
    exact RInv.doFire hI re h3

theorem RInv.run {s : RS} (hI : RInv s) (ls : List RLbl) (h : RS.okRun .fixed s ls) :
    RInv (RS.run .fixed s ls) := by
  induction ls generalizing s with
  | nil => exact hI
  | cons l ls ih => exact ih (hI.step l h.1) h.2

theorem RInv.run_init (ls : List RLbl) (h : RS.okRun .fixed {} ls) : RInv (RS.run .fixed {} ls) :=
  RInv.init.run ls h

theorem RS.run_append (p : RParams) (s : RS) (l₁ l₂ : List RLbl) :
    RS.run p s (l₁ ++ l₂) = RS.run p (RS.run p s l₁) l₂ := by
  simp [RS.run, List.foldl_append]

theorem rs_okRun_append {p : RParams} {s : RS} {l₁ l₂ : List RLbl} (h : RS.okRun p s (l₁ ++ l₂)) :
    RS.okRun p s l₁ ∧ RS.okRun p (RS.run p s l₁) l₂ := by
  induction l₁ generalizing s with
  | nil => exact ⟨trivial, h⟩
  | cons l l₁ ih =>
    obtain ⟨h1, h2⟩ := h
    exact ⟨⟨h1, (ih h2).1⟩, (ih h2).2⟩

theorem rs_applyEff_compLog (s : RS) (l : List REff) : (s.applyEff l).compLog = s.compLog := by
  induction l generalizing s with
  | nil => rfl
  | cons e l ih => cases e <;> simp [RS.applyEff, ih]

theorem rs_applyEff_r (s : RS) (l : List REff) : (s.applyEff l).r = s.r := by
  induction l generalizing s with
  | nil => rfl
  | cons e l ih => cases e <;> simp [RS.applyEff, ih]

theorem doCall_compLog (p : RParams) (s : RS) (c : RCall) : s.compLog <+: (s.doCall p c).compLog := by
  cases c with
  | lit addr port h => simp [RS.doCall, RS.doLit, rs_applyEff_compLog]
  | name err ips lat port h => simp [RS.doCall, RS.doName, rs_applyEff_compLog]
  | cancel => exact ⟨_, (congrArg RS.compLog (doCancel_eq s)).symm⟩

theorem doFire_compLog (p : RParams) (s : RS) (re : List RCall) :
    s.compLog <+: (s.doFire p re).compLog := by
  cases hg : s.r.onLookupGuard p s.now with
  | some effs => rw [doFire_guard p s re effs hg, rs_applyEff_compLog]; exact List.prefix_rfl
  | none =>
    cases hq : s.r.queue with
    | nil => rw [doFire_nil _ _ _ hq]; exact List.prefix_rfl
    | cons v rest =>
      rw [doFire_pop p s re v rest hq hg, rs_applyEff_compLog]
      exact List.foldlRecOn re _ (b := s.popped v rest) (motive := fun x => s.compLog <+: x.compLog)
        ⟨_, rfl⟩ fun x hx c _ => hx.trans (doCall_compLog p x c)

theorem rs_step_compLog (p : RParams) (s : RS) (l : RLbl) : s.compLog <+: (s.step p l).compLog := by
  cases l with
  | resolveLit t addr port h => exact doCall_compLog p { s with now := t } (.lit addr port h)
  | resolveName t err ips lat port h =>
    exact doCall_compLog p { s with now := t } (.name err ips lat port h)
  | cancel t => exact doCall_compLog p { s with now := t } .cancel
  | timerExpires t => exact List.prefix_rfl
  | timerFires t re => exact doFire_compLog p { s with now := t } re

theorem rs_run_compLog (p : RParams) (ls : List RLbl) (s : RS) :
    s.compLog <+: (RS.run p s ls).compLog :=
  List.foldlRecOn ls _ (motive := fun x => s.compLog <+: x.compLog) (List.prefix_rfl)
    fun x hx l _ => hx.trans (rs_step_compLog p x l)

/-! ### the logged completions are the handler effects of the mechanism functions -/

theorem cancel_logs_effects (s : RS) :
    ∃ ext, s.doCancel.compLog = s.compLog ++ ext ∧ ext.map RComp.eff = s.r.cancel.2 := by
  refine ⟨_, by rw [doCancel_eq], ?_⟩
  simp [R.cancel, RComp.eff, RComp.ofEntry, Function.comp_def]

theorem fire_logs_effects (p : RParams) (s : RS) (v : REntry) (rest : List REntry)
    (hq : s.r.queue = v :: rest) (hd : ¬ s.now < v.completion) :
    (s.doFire p []).compLog = s.compLog ++ [RComp.ofEntry s.now true v.err v]
    ∧ (s.r.onLookup p s.now false).2.head? = some (RComp.ofEntry s.now true v.err v).eff
    ∧ (s.doFire p []).r = (s.r.onLookup p s.now false).1 := by
  rw [doFire_pop p s [] v rest hq (onLookupGuard_due p s.now s.r v rest hq hd)]
  unfold R.onLookup
  simp [onLookupGuard_due p s.now s.r v rest hq hd, R.onLookupPop, hq, rs_applyEff_compLog,
    rs_applyEff_r, RComp.eff, RComp.ofEntry, onLookupFinish_fst, RS.popped]

end SimVerif
