/-
  SimVerif.Lemmas.SocksBuf — checked memory of the SOCKS model: accesses inside an array succeed,
  what `store` does to capacity, length and bytes, store then read.
-/
import SimVerif.Socks

namespace SimVerif.Socks

theorem Buf.inb_of (b : Buf) (off n : Int) (h0 : 0 ≤ off) (h1 : 0 ≤ n) (h2 : off + n ≤ b.cap) :
    b.inb off n = true := by
  simp [Buf.inb, h0, h1, h2]

theorem Buf.get_ok (b : Buf) (i : Int) (h0 : 0 ≤ i) (h1 : i < b.cap) : b.get i = .ok (b.byte i.toNat) := by
  unfold Buf.get; rw [Buf.inb_of b i 1 h0 (by omega) (by omega)]; rfl

theorem Buf.readN_ok (b : Buf) (off n : Int) (h0 : 0 ≤ off) (h1 : 0 ≤ n) (h2 : off + n ≤ b.cap) :
    b.readN off n = .ok ((List.range n.toNat).map (fun j => b.byte (off.toNat + j))) := by
  unfold Buf.readN; rw [Buf.inb_of b off n h0 h1 h2]; rfl

theorem Buf.write_ok (b : Buf) (off : Int) (bytes : Bytes) (h0 : 0 ≤ off) (h2 : off + bytes.length ≤ b.cap) :
    b.write off bytes = .ok (b.store off.toNat bytes) := by
  unfold Buf.write; rw [Buf.inb_of b off _ h0 (by omega) h2]; rfl

@[simp] theorem Buf.store_cap (b : Buf) (off : Nat) (bytes : Bytes) : (b.store off bytes).cap = b.cap := rfl
theorem Relay.store_cap (b : Buf) (o : Nat) (d : Bytes) : (b.store o d).cap = b.cap := Buf.store_cap b o d

theorem sx_range_neg (b : UInt8) : -128 ≤ sx b ∧ sx b ≤ 127 := by
  have := UInt8.toNat_lt b
  unfold sx; split <;> omega

theorem pad_getD (l : List UInt8) (n i : Nat) : (l ++ List.replicate n 0).getD i 0 = l.getD i 0 := by
  simp only [List.getD_eq_getElem?_getD, List.getElem?_append, List.getElem?_replicate]
  by_cases h : i < l.length
  · simp [h]
  · have : l[i]? = none := by simp; omega
    simp [h]; split <;> simp

theorem splice_getD (d bytes : List UInt8) (off i : Nat) (h : off + bytes.length ≤ d.length) :
    (d.take off ++ bytes ++ d.drop (off + bytes.length)).getD i 0
      = if off ≤ i ∧ i < off + bytes.length then bytes.getD (i - off) 0 else d.getD i 0 := by
  simp only [List.getD_eq_getElem?_getD, List.getElem?_append, List.getElem?_take, List.getElem?_drop, List.length_append, List.length_take]
  have hm : min off d.length = off := by omega
  rw [hm]
  by_cases h1 : i < off
  · have : i < off + bytes.length := by omega
    have h3 : ¬ off ≤ i := by omega
    simp [h1, this, h3]
  · by_cases h2 : i < off + bytes.length
    · have h3 : off ≤ i := by omega
      simp [h1, h2, h3]
    · have h3 : off + bytes.length + (i - (off + bytes.length)) = i := by omega
      simp [h2, h3]

theorem Buf.store_byte (b : Buf) (off : Nat) (bytes : Bytes) (i : Nat) :
    (b.store off bytes).byte i = if off ≤ i ∧ i < off + bytes.length then bytes.getD (i - off) 0 else b.byte i := by
  unfold Buf.store Buf.byte
  dsimp only
  rw [splice_getD _ _ _ _ (by simp; omega), pad_getD]

theorem Buf.store_length (b : Buf) (off : Nat) (bytes : Bytes) :
    (b.store off bytes).data.length = max b.data.length (off + bytes.length) := by
  unfold Buf.store
  simp only [List.length_append, List.length_take, List.length_drop, List.length_replicate]
  omega

theorem list_eq_of_getD (l1 l2 : List UInt8) (hl : l1.length = l2.length) (h : ∀ i, l1.getD i 0 = l2.getD i 0) : l1 = l2 := by
  apply List.ext_getElem hl
  intro i h1 h2
  have := h i
  simp only [List.getD_eq_getElem?_getD] at this
  rw [List.getElem?_eq_getElem h1, List.getElem?_eq_getElem h2] at this
  simpa using this

theorem Buf.ext' (b1 b2 : Buf) (hc : b1.cap = b2.cap) (hl : b1.data.length = b2.data.length)
    (h : ∀ i, b1.byte i = b2.byte i) : b1 = b2 := by
  cases b1; cases b2
  simp only at hc hl
  subst hc
  congr
  exact list_eq_of_getD _ _ hl h

theorem Buf.store_store (b : Buf) (o : Nat) (d1 d2 : Bytes) :
    (b.store o d1).store (o + d1.length) d2 = b.store o (d1 ++ d2) := by
  apply Buf.ext'
  · rfl
  · simp only [Buf.store_length, List.length_append]; omega
  · intro i
    simp only [Buf.store_byte, List.length_append, List.getD_eq_getElem?_getD]
    by_cases h1 : o ≤ i ∧ i < o + d1.length
    · rw [if_neg (by omega), if_pos h1, if_pos (by omega), List.getElem?_append_left (by omega)]
    · by_cases h2 : o + d1.length ≤ i ∧ i < o + d1.length + d2.length
      · rw [if_pos h2, if_pos (by omega), List.getElem?_append_right (by omega), Nat.sub_sub]
      · rw [if_neg h2, if_neg h1, if_neg (by omega)]

theorem Buf.store0_byte (b : Buf) (d : Bytes) (j : Nat) (hj : j < d.length) : (b.store 0 d).byte j = d.getD j 0 := by
  rw [Buf.store_byte, if_pos ⟨Nat.zero_le _, by omega⟩]; rfl

theorem Buf.store0_readN (b : Buf) (d : Bytes) (off n : Int) (h0 : 0 ≤ off) (hn : 0 ≤ n)
    (hle : off + n ≤ d.length) (hc : d.length ≤ b.cap) :
    (b.store 0 d).readN off n = .ok ((d.drop off.toNat).take n.toNat) := by
  rw [Buf.readN_ok _ _ _ h0 hn (by rw [Buf.store_cap]; omega)]
  congr 1
  apply List.ext_getElem
  · simp; omega
  · intro i h1 h2
    simp at h1
    have hi : off.toNat + i < d.length := by omega
    simp [Buf.store0_byte _ _ _ hi, List.getD_eq_getElem?_getD, hi]

theorem Buf.store0_readAll (b : Buf) (bytes : Bytes) (h : bytes.length ≤ b.cap) :
    (b.store 0 bytes).readN 0 bytes.length = .ok bytes := by
  rw [Buf.store0_readN b bytes 0 bytes.length (by omega) (by omega) (by omega) h]
  simp

theorem Buf.write_eq_ok {b : Buf} {off : Int} {bytes : Bytes} {ob : Buf} (h : b.write off bytes = .ok ob) :
    off + bytes.length ≤ b.cap ∧ ob = b.store off.toNat bytes := by
  unfold Buf.write at h
  split at h <;> cases h
  rename_i hin
  simp only [Buf.inb, Bool.and_eq_true, decide_eq_true_eq] at hin
  exact ⟨hin.2, rfl⟩

end SimVerif.Socks
