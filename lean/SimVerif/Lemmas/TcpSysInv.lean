/-
  SimVerif.Lemmas.TcpSysInv — the invariant of the open system `TS` (SimVerif/StreamSys.lean) and
  its preservation by every move (Lemmas/StreamMoves.lean).
-/
import SimVerif.Lemmas.TcpInv
import SimVerif.Lemmas.StreamMoves

namespace SimVerif

/-- the writer's socket: while the connection is open its next sequence number is the number of
    segments created so far and its segment size is the one it started with; what waits for
    retransmission is genuine; once closed it cannot send -/
structure AOk (segs : List (List UInt8)) (closed : Bool) (mss0 : Nat) (sa : TcpSock) : Prop where
  live : closed = false → sa.nextOut = segs.length ∧ sa.mss = mss0
  dead : closed = true → sa.isOpen = false ∧ sa.chan = none
  resend : ∀ p ∈ sa.resend, p.ty = .payload ∧ segs[p.id]? = some p.payload

theorem AOk.weq {segs closed m sa sa'} (h : AOk segs closed m sa) (w : WEq sa sa') : AOk segs closed m sa' :=
  ⟨fun hc => by rw [w.nextOut, w.mss]; exact h.live hc,
   fun hc => by rw [w.isOpen, w.chan]; exact h.dead hc,
   by rw [w.resend]; exact h.resend⟩

/-- The safety invariant of `TS` without its control state, over the fields of `TS` it reads: the
    segment log cuts exactly the bytes written (`flat`); both sockets exist, the writer's with `AOk`,
    the reader's with `BQ` (`exA`, `exB`); every packet in flight is genuine (`bag`); end of file was
    reported only when everything written had been delivered and the writer had closed (`eof`); no
    segment is empty or longer than the start MSS (`segsB`). -/
structure TCore (c : TcpCfg) (net : NetSt) (bag : List Pkt) (segs : List (List UInt8))
    (written delivered : List UInt8) (eofAt : Option Nat) (closed : Bool) (mss0 : Nat) : Prop where
  ne : c.a ≠ c.b
  flat : segs.flatten = written
  exA : ∃ sa, net.tcp? c.a = some sa ∧ AOk segs closed mss0 sa
  exB : ∃ sb, net.tcp? c.b = some sb ∧ BQ segs closed delivered sb.nextIn sb.reorder sb.inq
  bag : ∀ p ∈ bag, s5_PktOk segs closed p
  eof : ∀ k, eofAt = some k → k = delivered.length ∧ delivered = written ∧ closed = true
  segsB : 0 < mss0 → ∀ x ∈ segs, x ≠ [] ∧ x.length ≤ mss0

def eofNote (e : Option Nat) (d : List UInt8) : Option RdEv → Option Nat
  | some (.err .eof) => (match e with | some k => some k | none => some d.length)
  | _ => e

theorem eofNote_some (k : Nat) (d : List UInt8) (ev : Option RdEv) : eofNote (some k) d ev = some k := by
  cases ev with
  | none => rfl
  | some x => cases x with
    | data _ => rfl
    | err e => cases e <;> rfl

theorem eofNote_none {d : List UInt8} {ev : Option RdEv} {k : Nat} (h : eofNote none d ev = some k) :
    ev = some (.err .eof) ∧ k = d.length := by
  unfold eofNote at h
  split at h
  · exact ⟨rfl, (Option.some.inj h).symm⟩
  · cases h

theorem dlNote_prefix (d : List UInt8) (ev : Option RdEv) : d <+: dlNote d ev := by
  cases ev with
  | none => exact List.prefix_refl _
  | some x => cases x with
    | data _ => exact List.prefix_append _ _
    | err _ => exact List.prefix_refl _

theorem TS.note_eq (s : TS) (ev : Option RdEv) :
    s.note ev = { s with delivered := dlNote s.delivered ev, eofAt := eofNote s.eofAt s.delivered ev } := by
  cases ev with
  | none => rfl
  | some x => cases x with
    | data d => rfl
    | err e => cases e <;> rfl

theorem TS.note_delivered (s : TS) (ev : Option RdEv) : (s.note ev).delivered = dlNote s.delivered ev := by
  rw [TS.note_eq]

section core
variable {c : TcpCfg} {net : NetSt} {bag : List Pkt} {segs : List (List UInt8)} {w d : List UInt8}
  {e : Option Nat} {cl : Bool} {m : Nat}

theorem TCore.genuine (h : TCore c net bag segs w d e cl m) :
    (∀ p ∈ bag, p.ty = .payload → segs[p.id]? = some p.payload)
    ∧ (∃ sa, net.tcp? c.a = some sa ∧ ∀ p ∈ sa.resend, p.ty = .payload ∧ segs[p.id]? = some p.payload)
    ∧ (∃ sb, net.tcp? c.b = some sb
        ∧ (∀ e ∈ sb.reorder, e.2.ty = .payload → segs[e.1]? = some e.2.payload)
        ∧ d ++ bytesOf sb.inq = (segs.take sb.nextIn).flatten) := by
  obtain ⟨sa, hsa, hao⟩ := h.exA
  obtain ⟨sb, hsb, hq⟩ := h.exB
  exact ⟨fun p hp => (h.bag p hp).payload, ⟨sa, hsa, hao.resend⟩,
    ⟨sb, hsb, fun e he hty => (hq.ro e he).1 ▸ (hq.ro e he).2.payload hty, hq.bytes⟩⟩

/-- a writer-side action that creates no segment -/
theorem TCore.stepA (h : TCore c net bag segs w d e cl m)
    {net' : NetSt} {f : TcpSock → TcpSock → Prop} (hA : NStep net net' c.a f)
    (hf : ∀ sa sa', net.tcp? c.a = some sa → AOk segs cl m sa → f sa sa' → AOk segs cl m sa')
    {bag' : List Pkt} (hb : ∀ p ∈ bag', p ∈ bag ∨ s5_PktOk segs cl p) :
    TCore c net' bag' segs w d e cl m := by
  obtain ⟨sa, hsa, hao⟩ := h.exA
  obtain ⟨sa', hsa', hff⟩ := hA.self sa hsa
  exact ⟨h.ne, h.flat, ⟨sa', hsa', hf sa sa' hsa hao hff⟩, hA.other c.b (Ne.symm h.ne) ▸ h.exB,
    fun p hp => (hb p hp).elim (h.bag p) id, h.eof, h.segsB⟩

theorem TCore.stepW (h : TCore c net bag segs w d e cl m) {net' : NetSt} (hA : NStep net net' c.a WEq)
    {bag' : List Pkt} (hb : ∀ p ∈ bag', p ∈ bag) : TCore c net' bag' segs w d e cl m :=
  h.stepA hA (fun _ _ _ h w => h.weq w) fun p hp => .inl (hb p hp)

theorem TCore.quietW (h : TCore c net bag segs w d e cl m) {net' : NetSt} (hA : NStep net net' c.a WEq)
    {eff : List NEff} (he : s5_fwdsOf eff = []) {bag0 : List Pkt} (hb : ∀ p ∈ bag0, p ∈ bag) :
    TCore c net' (bag0 ++ s5_fwdsOf eff) segs w d e cl m :=
  h.stepW hA fun p hp => hb p (by rwa [he, List.append_nil] at hp)

theorem TCore.unpark (h : TCore c net bag segs w d e cl m) {sa : TcpSock} (hs : net.tcp? c.a = some sa) :
    TCore c (net.setTcp c.a { sa with sendH := none }) bag segs w d e cl m :=
  h.stepW (NStep.set (s' := { sa with sendH := none }) hs ⟨rfl, rfl, rfl, rfl, rfl⟩) fun _ hp => hp

theorem TCore.sendSeg (h : TCore c net bag segs w d e cl m) (hcl : cl = false)
    (t : Int) (hops : List String) (seg : List UInt8) (hseg : 0 < m → seg ≠ [] ∧ seg.length ≤ m) :
    TCore c (net.tcpSendSeg t c.a hops seg).1 (bag ++ s5_fwdsOf (net.tcpSendSeg t c.a hops seg).2)
      (segs ++ [seg]) (w ++ seg) d e cl m := by
  obtain ⟨sa, hsa, hao⟩ := h.exA
  obtain ⟨hst, hfw⟩ := tcpSendSeg_spec net t c.a hops seg sa hsa
  obtain ⟨sa', hsa', hw⟩ := hst.self sa hsa
  have hlive := hao.live hcl
  refine ⟨h.ne, by rw [List.flatten_append, h.flat]; simp, ⟨sa', hsa', ?_⟩, ?_, ?_, ?_, ?_⟩
  · refine ⟨fun _ => ?_, fun hc => (by rw [hcl] at hc; cases hc), ?_⟩
    · rw [hw.nextOut, hw.mss]; simp [hlive.1, hlive.2]
    · rw [hw.resend]
      exact fun p hp => ⟨(hao.resend p hp).1,
        (DataOk.mono_seg seg hcl (.inl (hao.resend p hp))).payload (hao.resend p hp).1⟩
  · rw [hst.other c.b (Ne.symm h.ne)]
    obtain ⟨sb, hsb, hq⟩ := h.exB
    exact ⟨sb, hsb, hq.mono_seg seg hcl⟩
  · intro p hp
    rw [List.mem_append] at hp
    rcases hp with hp | hp
    · exact (h.bag p hp).mono_seg seg hcl
    · obtain ⟨h1, h2, h3, _⟩ := hfw p hp
      left; left
      refine ⟨h2, ?_⟩
      rw [h1, hlive.1, h3]; exact List.getElem?_concat_length
  · intro k hk
    have := (h.eof k hk).2.2
    rw [hcl] at this; cases this
  · intro hm x hx
    rw [List.mem_append] at hx
    rcases hx with hx | hx
    · exact h.segsB hm x hx
    · simp only [List.mem_singleton] at hx; subst hx; exact hseg hm

/-- a reader-side action -/
theorem TCore.stepB (h : TCore c net bag segs w d e cl m)
    {net' : NetSt} {ev : Option RdEv} (hB : BStep segs cl d net net' c.b ev)
    {bag' : List Pkt} (hb : ∀ p ∈ bag', p ∈ bag ∨ s5_PktOk segs cl p) :
    TCore c net' bag' segs w (dlNote d ev) (eofNote e d ev) cl m := by
  obtain ⟨⟨sb', hsb', hq'⟩, heof, hoth⟩ := hB
  refine ⟨h.ne, h.flat, ?_, ⟨sb', hsb', hq'⟩, ?_, ?_, h.segsB⟩
  · rw [hoth c.a h.ne]; exact h.exA
  · exact fun p hp => (hb p hp).elim (h.bag p) id
  · -- end of file: once reported nothing more can be delivered; when reported everything has been
    intro k hk
    cases he : e with
    | some k0 =>
      rw [he, eofNote_some] at hk; cases hk
      obtain ⟨h1, h2, h3⟩ := h.eof k he
      have hpre : dlNote d ev <+: d := by have := hq'.isPrefix; rwa [h.flat, ← h2] at this
      rw [← List.IsPrefix.eq_of_length_le (dlNote_prefix d ev) hpre.length_le]
      exact ⟨h1, h2, h3⟩
    | none =>
      rw [he] at hk
      obtain ⟨rfl, rfl⟩ := eofNote_none hk
      obtain ⟨h1, h2⟩ := heof rfl
      exact ⟨rfl, h1.trans h.flat, h2⟩

theorem TCore.close (h : TCore c net bag segs w d e cl m) (t : Int) :
    TCore c (net.tcpClose t c.a).1 (bag ++ s5_fwdsOf (net.tcpClose t c.a).2) segs w d e true m := by
  obtain ⟨sa, hsa, hao⟩ := h.exA
  obtain ⟨⟨sa', hsa', ho, hr, hch⟩, hoth, hfw, hno⟩ := tcpClose_spec net t c.a sa hsa
  refine ⟨h.ne, h.flat, ⟨sa', hsa', ?_⟩, ?_, ?_, ?_, h.segsB⟩
  · exact ⟨fun hc => (by cases hc), fun _ => ⟨ho, hch⟩, (by rw [hr]; simp)⟩
  · rw [hoth c.b (Ne.symm h.ne)]
    obtain ⟨sb, hsb, hq⟩ := h.exB
    exact ⟨sb, hsb, hq.close⟩
  · intro p hp
    rw [List.mem_append] at hp
    rcases hp with hp | hp
    · exact (h.bag p hp).close
    · cases hcl : cl with
      | true =>
        rw [hno (hao.dead hcl).2] at hp; simp at hp
      | false =>
        obtain ⟨h1, h2, h3, h4⟩ := hfw p hp
        left; right
        exact ⟨h1, rfl, by rw [h2, (hao.live hcl).1], h3, h4⟩
  · intro k hk
    obtain ⟨h1, h2, _⟩ := h.eof k hk
    exact ⟨h1, h2, rfl⟩

end core

/-- What the control state promises: inside the segmentation loop of `op` the connection is open, the
    bytes written beyond those reported are the `acc` bytes of `op` sent so far and `rest` is what is
    still to send, in segments of legal size; in every other state all bytes written have been reported. -/
def CtlOk (ctl : TCtl) (written accepted : List UInt8) (closed : Bool) (mss0 : Nat) : Prop :=
  match ctl with
  | .segs op _ rest acc =>
    closed = false
    ∧ (∃ cur, written = accepted ++ cur ∧ cur ++ rest.flatten = op.bufs.flatten ∧ acc = cur.length)
    ∧ (0 < mss0 → ∀ x ∈ rest, x ≠ [] ∧ x.length ≤ mss0)
  | _ => written = accepted

/-- the safety invariant of `TS`: `TCore` of its fields and `CtlOk` of its control state -/
structure TInv (c : TcpCfg) (s : TS) : Prop where
  core : TCore c s.net s.bag s.segs s.written s.delivered s.eofAt s.closed s.mss0
  ctl : CtlOk s.ctl s.written s.accepted s.closed s.mss0

theorem s5_PktOk.inTransit {segs closed p} (tr : Option (List String × String)) (h : s5_PktOk segs closed p) :
    s5_PktOk segs closed (p.inTransit tr) := by
  obtain ⟨_, _, e⟩ := p.inTransit_eq tr; rw [e]; exact h

theorem TInv.ctl_of {c : TcpCfg} {s : TS} (h : TInv c s) {k : TCtl} (e : s.ctl = k) :
    CtlOk k s.written s.accepted s.closed s.mss0 := e ▸ h.ctl

section inv
variable {c : TcpCfg} {s : TS} (hc : TCore c s.net s.bag s.segs s.written s.delivered s.eofAt s.closed s.mss0)
include hc

theorem TCore.inv_finish (op : WriteOp) (r : Except Ec Nat)
    (hw : s.written = (match r with | .ok k => s.accepted ++ op.bufs.flatten.take k | .error _ => s.accepted)) :
    TInv c (s.finish c op r) :=
  ⟨hc.quietW (tcpWriteFinish_spec s.net c.a op r).1 (tcpWriteFinish_spec s.net c.a op r).2 fun _ hp => hp, hw⟩

theorem TCore.inv_sendSeg (hcl : s.closed = false) (t : Int) (op : WriteOp) (hops : List String) (seg : List UInt8)
    (rest : List (List UInt8)) (cur : List UInt8) (a : Nat) (hw : s.written = s.accepted ++ cur)
    (hfl : cur ++ (seg :: rest).flatten = op.bufs.flatten) (ha : a = (cur ++ seg).length)
    (hb : 0 < s.mss0 → ∀ x ∈ seg :: rest, x ≠ [] ∧ x.length ≤ s.mss0) :
    TInv c { s.sendSeg c t hops seg with ctl := .segs op hops rest a } := by
  unfold TS.sendSeg TS.emit
  refine ⟨hc.sendSeg hcl t hops seg fun h0 => hb h0 seg List.mem_cons_self, hcl,
    ⟨cur ++ seg, by dsimp only; rw [hw, List.append_assoc], ?_, ha⟩,
    fun h0 x hx => hb h0 x (List.mem_cons_of_mem _ hx)⟩
  rw [← hfl, List.flatten_cons, List.append_assoc]

end inv

theorem TInv.noteB {c : TcpCfg} {s : TS} (h : TInv c s) {n' : NetSt} {bag' : List Pkt} {posts' : List Compl} {ev : Option RdEv}
    (hB : BStep s.segs s.closed s.delivered s.net n' c.b ev)
    (hb : ∀ p ∈ bag', p ∈ s.bag ∨ s5_PktOk s.segs s.closed p) :
    TInv c (({ s with net := n', bag := bag', posts := posts' } : TS).note ev) := by
  rw [TS.note_eq]
  exact ⟨h.core.stepB hB hb, h.ctl⟩

theorem TInv.arrive {c : TcpCfg} {s : TS} (h : TInv c s) {p : Pkt} (hpk : s5_PktOk s.segs s.closed p)
    (hty : p.ty = .payload ∨ p.ty = .err) (t : Int) (i : Nat) :
    TInv c ((({ s with bag := s.bag.eraseIdx i, net := (s.net.tcpIncoming c.tp t c.b p).1 } : TS).emit
      (s.net.tcpIncoming c.tp t c.b p).2).note ((s.net.tcpPreWake c.b p).bind (·.wakeRead c.tp))) := by
  have hdo : DataOk s.segs s.closed p := by
    rcases hpk with h | h
    · exact h
    · rcases hty with hty | hty <;> rw [h.1] at hty <;> cases hty
  obtain ⟨sb, hsb, hq⟩ := h.core.exB
  have hs := tcpIncoming_data_spec c.tp s.net t c.b p sb hsb hty hdo hq
  apply h.noteB hs.1
  intro q hq'
  rcases List.mem_append.mp hq' with hq' | hq'
  · exact Or.inl (List.mem_of_mem_eraseIdx hq')
  · exact Or.inr (Or.inr (hs.2 q hq'))

theorem TInv.move {c : TcpCfg} {l : TLbl} {s s' : TS} {eA eB : List NEff} (h : TInv c s)
    (m : TS.Move c l s eA eB s') : TInv c s' := by
  induction m with
  | skip => exact h
  | seq _ _ _ ih1 ih2 => exact ih2 (ih1 h)
  | submit0 =>
    exact ⟨h.core.quietW (tcpAsyncWrite_spec ..).1 (tcpAsyncWrite_spec ..).2 fun _ hp => hp, h.ctl⟩
  | submit _ hsa _ =>
    exact ⟨(h.core.quietW (tcpAsyncWrite_spec ..).1 (tcpAsyncWrite_spec ..).2 fun _ hp => hp).unpark hsa, h.ctl⟩
  | ackIdle hcs _ => exact ⟨h.core.stepW (tcpAckPost_spec ..) fun _ hp => hp, (h.ctl_of hcs :)⟩
  | ackWake hcs _ hsa _ => exact ⟨(h.core.stepW (tcpAckPost_spec ..) fun _ hp => hp).unpark hsa, (h.ctl_of hcs :)⟩
  | startFail hi _ => exact h.core.inv_finish _ _ (h.ctl_of hi)
  | startEmpty hi _ => exact h.core.inv_finish _ _ ((h.ctl_of hi).trans (by simp))
  | @startSeg l s op hops seg rest hi hprep =>
    have hw : s.written = s.accepted := h.ctl_of hi
    obtain ⟨sa, hsa, hopen, hflat, hbound⟩ := tcpWritePrep_spec _ _ _ _ _ hprep
    obtain ⟨sa', hsa', hao⟩ := h.core.exA
    rw [hsa] at hsa'; cases hsa'
    have hcl : s.closed = false := by
      cases h : s.closed with
      | false => rfl
      | true => have := (hao.dead h).1; rw [hopen] at this; cases this
    exact h.core.inv_sendSeg hcl _ op hops seg rest [] _ (by rw [hw, List.append_nil]) hflat rfl
      (by rw [← (hao.live hcl).2]; exact hbound)
  | @loopDone s _ op hops rest acc hcs _ =>
    obtain ⟨-, ⟨cur, hw, hfl, hacc⟩, -⟩ := h.ctl_of hcs
    exact h.core.inv_finish op _ (by dsimp only; rw [hw, ← hfl, hacc, List.take_left' rfl])
  | @loopSeg s t op hops seg rest acc hcs _ =>
    obtain ⟨hcl, ⟨cur, hw, hfl, hacc⟩, hbd⟩ := h.ctl_of hcs
    exact h.core.inv_sendSeg hcl t op hops seg rest cur _ hw hfl (by rw [hacc, List.length_append]) hbd
  | resendStop hcs _ => exact ⟨h.core, (h.ctl_of hcs :)⟩
  | @resendOne s t n wb acked r hcs hr =>
    obtain ⟨sa, p, rest, hsa, hres, hst, hfw⟩ := tcpResendOne_spec _ _ _ _ hr
    refine ⟨?_, (h.ctl_of hcs :)⟩
    obtain ⟨sa0, hsa0, hao0⟩ := h.core.exA
    rw [hsa] at hsa0; cases hsa0
    have hp := hao0.resend p (by rw [hres]; simp)
    refine h.core.stepA hst (fun x x' hx0 hx hw => ?_) fun q (hq : q ∈ s.bag ++ s5_fwdsOf r.2) => ?_
    · rw [hsa] at hx0; cases hx0
      have hx' : AOk s.segs s.closed s.mss0 { sa with resend := rest } :=
        ⟨hx.live, hx.dead, fun q hq => hx.resend q (by rw [hres]; exact List.mem_cons_of_mem _ hq)⟩
      exact hx'.weq hw
    · rcases List.mem_append.mp hq with hq | hq
      · exact Or.inl hq
      · obtain ⟨h1, h2, h3, _⟩ := hfw q hq
        exact .inr (.inl (.inl ⟨by rw [h2, hp.1], by rw [h1, h3]; exact hp.2⟩))
  | @ackArrive s t i tr p0 _ hty hi =>
    have hs := tcpIncoming_ack_spec c.tp s.net t c.a _ hty
    refine ⟨h.core.quietW hs.1 hs.2.1 fun q hq => List.mem_of_mem_eraseIdx hq, ?_⟩
    have hw : s.written = s.accepted := h.ctl_of hi
    show CtlOk (match ackPostOf _ with | some (wb, acked) => _ | none => _) _ _ _ _
    split <;> exact hw
  | @dataArrive s t i tr p0 hp hty =>
    exact h.arrive (s5_PktOk.inTransit tr (h.core.bag p0 (List.mem_of_getElem? hp))) hty t i
  | vanish => exact ⟨h.core.stepW (NStep.refl WEq.refl) fun q hq => List.mem_of_mem_eraseIdx hq, h.ctl⟩
  | @handBack s i tr p0 hp hdrop =>
    obtain ⟨hc, hctl⟩ := h
    have hpk := s5_PktOk.inTransit tr (hc.bag p0 (List.mem_of_getElem? hp))
    generalize p0.inTransit tr = p at hpk hdrop ⊢
    have hpl : p.ty = .payload ∧ s.segs[p.id]? = some p.payload := by
      rcases hpk with (h | ⟨_, _, _, _, hnd⟩) | ⟨_, hnd⟩
      · exact h
      · rw [hnd] at hdrop; cases hdrop
      · rw [hnd] at hdrop; cases hdrop
    obtain ⟨sa, hsa, hao⟩ := hc.exA
    have herase : ∀ q ∈ s.bag.eraseIdx i, q ∈ s.bag := fun q hq => List.mem_of_mem_eraseIdx hq
    refine ⟨?_, hctl⟩
    rcases tcpPacketDropped_cases s.net c.a c.tp p sa hsa with ⟨_, e⟩ | ⟨_, sa', _, e, h'⟩ <;> dsimp only <;> rw [e]
    · exact hc.stepW (NStep.refl WEq.refl) herase
    · -- the socket stored differs from `sa` in window fields and by the packet appended to `resend`
      refine hc.stepA (NStep.set (f := fun _ x => x = sa') hsa rfl) (fun _ _ _ _ e => e ▸ ?_)
        fun q hq => .inl (herase q hq)
      rw [h']
      exact ⟨hao.live, hao.dead, fun q hq => (List.mem_append.mp hq).elim (hao.resend q)
        fun hq => by cases List.mem_singleton.mp hq; exact hpl⟩
  | @read s op =>
    obtain ⟨sb, hsb, hq⟩ := h.core.exB
    have hs := tcpAsyncRead_spec s.net c.b op sb hsb hq
    simp only [hsb, Option.bind_some]
    exact h.noteB hs.1 fun q (hq' : q ∈ s.bag ++ s5_fwdsOf (s.net.tcpAsyncRead c.b op).2) => by
      rw [hs.2, List.append_nil] at hq'; exact Or.inl hq'
  | @readNb s caps =>
    obtain ⟨sb, hsb, hq⟩ := h.core.exB
    exact h.noteB (bag' := s.bag) (posts' := s.posts) (tcpReadNb_spec s.net c.b caps sb hsb hq)
      fun q hq' => Or.inl hq'
  | @waitRead s hh =>
    obtain ⟨sb, hsb, hq⟩ := h.core.exB
    have hs := tcpWaitRead_spec s.net c.b hh sb hsb hq
    simp only [hsb, Option.bind_some]
    exact h.noteB hs.1 fun q (hq' : q ∈ s.bag ++ s5_fwdsOf (s.net.tcpWaitRead c.b hh).2) => by
      rw [hs.2, List.append_nil] at hq'; exact Or.inl hq'
  | @close s t hi => exact ⟨h.core.close t, by show CtlOk s.ctl _ _ _ _; rw [hi]; exact h.ctl_of hi⟩

theorem TInv.step {c : TcpCfg} {s : TS} (h : TInv c s) (l : TLbl) : TInv c (s.step c l) :=
  h.move (TS.step_move c s l)

theorem TInv.run {c : TcpCfg} (ls : List TLbl) : ∀ {s : TS}, TInv c s → TInv c (TS.run c s ls) := by
  induction ls with
  | nil => intro s h; exact h
  | cons l rest ih => intro s h; exact ih (h.step l)

theorem TInv.init {c : TcpCfg} {n : NetSt} (h : TcpStart c n) : TInv c (TS.init c n) := by
  obtain ⟨sa, hsa, h1, h2, h3⟩ := h.sa
  obtain ⟨sb, hsb, h4, h5, h6⟩ := h.sb
  refine ⟨⟨h.ne, rfl, ⟨sa, hsa, ?_⟩, ⟨sb, hsb, ?_⟩, by simp [TS.init], by simp [TS.init], by simp [TS.init]⟩, rfl⟩
  · refine ⟨fun _ => ⟨by simp [TS.init, h1], by simp [TS.init, hsa]⟩, fun hc => by simp [TS.init] at hc, ?_⟩
    rw [h2]; simp
  · simp only [TS.init]
    rw [h4, h5, h6]
    exact ⟨by simp, by simp, by simp, by simp, by simp⟩

theorem TInv.reach {c : TcpCfg} {n : NetSt} (h : TcpStart c n) (ls : List TLbl) :
    TInv c (TS.run c (TS.init c n) ls) := (TInv.init h).run ls

/-- `TcpStart` from decidable projections (for concrete states) -/
theorem tcpStart_of_check (c : TcpCfg) (n : NetSt) (h : c.a ≠ c.b)
    (ha : (n.tcp? c.a).map (fun s => (s.nextOut, s.resend.length, s.isOpen)) = some (0, 0, true))
    (hb : (n.tcp? c.b).map (fun s => (s.nextIn, s.reorder.length, s.inq.length)) = some (0, 0, 0)) :
    TcpStart c n := by
  refine ⟨h, ?_, ?_⟩
  · obtain ⟨s, hs, e⟩ := Option.map_eq_some_iff.mp ha
    rw [Prod.mk.injEq, Prod.mk.injEq] at e
    exact ⟨s, hs, e.1, List.eq_nil_of_length_eq_zero e.2.1, e.2.2⟩
  · obtain ⟨s, hs, e⟩ := Option.map_eq_some_iff.mp hb
    rw [Prod.mk.injEq, Prod.mk.injEq] at e
    exact ⟨s, hs, e.1, List.eq_nil_of_length_eq_zero e.2.1, List.eq_nil_of_length_eq_zero e.2.2⟩

theorem established_start (cfg : NetCfg) (c : TcpCfg) (epA epB : Ep) (hopsAB hopsBA : List String)
    (h : c.a ≠ c.b) :
    TcpStart c (established cfg c epA epB hopsAB hopsBA)
    ∧ TcpStart { a := c.b, b := c.a, tp := c.tp } (established cfg c epA epB hopsAB hopsBA) := by
  have hba : (c.b == c.a) = false := by simpa using (Ne.symm h)
  have hab : (c.a == c.b) = false := by simpa using h
  constructor
  · apply tcpStart_of_check _ _ h
    · simp [established, NetSt.tcp?]
    · simp [established, NetSt.tcp?, List.lookup, hba]
  · apply tcpStart_of_check _ _ (Ne.symm h)
    · simp [established, NetSt.tcp?, List.lookup, hba]
    · simp [established, NetSt.tcp?]

end SimVerif
