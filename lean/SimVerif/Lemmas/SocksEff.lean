/-
  SimVerif.Lemmas.SocksEff — what a completion does to a connection of the repaired SOCKS proxy
  with its real array sizes (`Eff`, `complete_eff`): it returns normally, keeps sizes and
  version, starts composed reads only inside `m_out_buffer` and from `got = 0` (or continues one
  that is not full), leaves counters and negotiation alone once the request is over, and writes
  for the relay exactly what it read for the relay. Memory safety (`SSafe`), the frame of the
  counters, relay transparency and the well-formedness of the stream system are read off its fields.

  Most member functions are *tame* (`Tame`): counters kept, and only actions that pass the
  Boolean test `Act.tame` (no relay write, nothing of the negotiation), which `rfl` decides on an
  explicit action list. The handlers of the negotiation satisfy `Neg`; the two relay reads and
  the chunks of a composed read are described directly.
-/
import SimVerif.Lemmas.SocksNeg
import SimVerif.Lemmas.SocksUdp

namespace SimVerif.Socks

/-- operations of the negotiation before the request -/
def POp.pre : POp → Bool
  | .exact _ _ _ .hs1 | .exact _ _ _ .hs2 | .write _ _ .hs3 => true
  | _ => false
/-- a chunk of the request's composed read -/
def POp.isReq : POp → Bool
  | .exact _ _ _ .req1 => true
  | _ => false
/-- everything after the request -/
def POp.late (op : POp) : Bool := !op.pre && !op.isReq

def lateActs (acts : List Act) : Bool := acts.all (fun a => match a.op? with | some op => op.late | none => true)

/-- frame: version and counters untouched, only late operations started -/
def Fr (c : Conn) (cnt : List Int) (o : Out) : Prop :=
  ∀ c' cnt' acts, o = .ok (c', cnt', acts) → c'.ver = c.ver ∧ cnt' = cnt ∧ lateActs acts = true

/-- the region of a pending composed read lies inside `m_out_buffer` -/
def POp.Bnd : POp → Prop
  | .exact off need got _ => off + need ≤ 65536 ∧ got ≤ need
  | _ => True

def Act.Bnd (a : Act) : Prop := ∀ op, a.op? = some op → op.Bnd
def ActsOk (acts : List Act) : Prop := ∀ a ∈ acts, a.Bnd

/-- a member function returned normally, arrays and counters keep their sizes, regions in bounds -/
def Good : Out → Prop
  | .ok (c, cnt, acts) => c.Sized ∧ cnt.length = 3 ∧ ActsOk acts
  | .error _ => False

theorem Good_ok {c : Conn} {cnt : List Int} {acts : List Act} :
    Good (.ok (c, cnt, acts)) ↔ (c.Sized ∧ cnt.length = 3 ∧ ActsOk acts) := Iff.rfl

theorem ActsOk.cons {a : Act} {l : List Act} (ha : a.Bnd) (hl : ActsOk l) : ActsOk (a :: l) :=
  List.forall_mem_cons.2 ⟨ha, hl⟩

/-- a composed read that was started has `got = 0`; a continued one is not full -/
def POp.Strict : POp → Prop
  | .exact _ need got _ => got < need ∨ got = 0
  | _ => True

def ActsStrict (acts : List Act) : Prop := ∀ a ∈ acts, ∀ op, a.op? = some op → op.Strict

/-- no relay write, nothing of the negotiation, a composed read only from its beginning and in bounds -/
def Act.tame (a : Act) : Bool :=
  match a with
  | .write .server _ _ => false
  | .write .client _ (.write _ _ .srvFwd) => false
  | _ =>
    match a.op? with
    | some op => op.late && (match op with | .exact off need got _ => decide (off + need ≤ 65536) && got == 0 | _ => true)
    | none => true

theorem Act.tame_op {a : Act} {op : POp} (h : a.tame = true) (hop : a.op? = some op) :
    op.Bnd ∧ op.Strict ∧ op.late = true := by
  unfold Act.tame at h
  split at h
  · cases h
  · cases h
  · rw [hop, Bool.and_eq_true] at h
    obtain ⟨hl, hb⟩ := h
    cases op with
    | exact off need got k =>
      simp at hb
      exact ⟨⟨hb.1, by omega⟩, .inr hb.2, hl⟩
    | _ => exact ⟨trivial, trivial, hl⟩

theorem Act.tame_quiet {a : Act} (h : a.tame = true) : toServer [a] = [] ∧ toClientRelay [a] = [] := by
  unfold Act.tame at h
  split at h
  · cases h
  · cases h
  · rename_i h1 h2
    constructor
    · unfold toServer
      rw [List.flatMap_singleton]
      split
      · exact absurd rfl (h1 _ _)
      · rfl
    · unfold toClientRelay
      rw [List.flatMap_singleton]
      split
      · exact (h2 _ _ _ rfl).elim
      · rfl

theorem tame_spec {acts : List Act} (h : acts.all Act.tame = true) :
    ActsOk acts ∧ ActsStrict acts ∧ lateActs acts = true ∧ toServer acts = [] ∧ toClientRelay acts = [] := by
  have h := List.all_eq_true.1 h
  refine ⟨fun a ha op hop => (Act.tame_op (h a ha) hop).1, fun a ha op hop => (Act.tame_op (h a ha) hop).2.1,
    List.all_eq_true.2 fun a ha => ?_, List.flatMap_eq_nil_iff.2 fun a ha => ?_, List.flatMap_eq_nil_iff.2 fun a ha => ?_⟩
  · split
    · exact (Act.tame_op (h a ha) ‹_›).2.2
    · rfl
  · have := (Act.tame_quiet (h a ha)).1
    rwa [toServer, List.flatMap_singleton] at this
  · have := (Act.tame_quiet (h a ha)).2
    rwa [toClientRelay, List.flatMap_singleton] at this

/-- returned normally; sizes, version and counters kept; only tame actions -/
def Tame (v : Int) (cnt : List Int) (o : Out) : Prop :=
  ∃ c' acts, o = .ok (c', cnt, acts) ∧ c'.Sized ∧ c'.ver = v ∧ acts.all Act.tame = true

theorem ux_bounds (b : UInt8) : 0 ≤ ux b ∧ ux b ≤ 255 := by
  have := UInt8.toNat_lt b
  unfold ux; omega

theorem Conn.Sized.setIn {c : Conn} (hs : c.Sized) (ib : Buf) (h : ib.cap = 65536) : ({ c with inBuf := ib } : Conn).Sized :=
  ⟨hs.out, h, hs.udp⟩
theorem Conn.Sized.setOut {c : Conn} (hs : c.Sized) (ob : Buf) (h : ob.cap = 65536) : ({ c with outBuf := ob } : Conn).Sized :=
  ⟨h, hs.inn, hs.udp⟩
theorem Conn.Sized.setUdp {c : Conn} (hs : c.Sized) (ub : Buf) (h : ub.cap = 1500) : ({ c with udpBuf := ub } : Conn).Sized :=
  ⟨hs.out, hs.inn, h⟩

section tame
variable {c : Conn} {cnt : List Int} (hs : c.Sized)
include hs

theorem closeConnection_tame : Tame c.ver cnt (closeConnection c cnt) := ⟨_, _, rfl, hs, rfl, rfl⟩

theorem writeFrom_tame {len : Int} {k : Kind} (h0 : 0 ≤ len) (h1 : len ≤ 65536) (hk : k ≠ .hs3 ∧ k ≠ .srvFwd) :
    Tame c.ver cnt (writeFrom c cnt .client len k) := by
  unfold writeFrom
  rw [Buf.readN_ok _ _ _ (by omega) h0 (by rw [hs.inn]; omega)]
  exact ⟨_, _, rfl, hs, rfl, by cases k <;> first | rfl | simp at hk⟩

theorem onRequestDomainName_tame {ec : Ec} {n : Nat} : Tame c.ver cnt (onRequestDomainName {} c cnt ec n) := by
  by_cases he : ec = .ok
  · rw [he, dom_good c cnt n hs]
    exact ⟨_, _, rfl, hs, rfl, rfl⟩
  · unfold onRequestDomainName
    rw [if_pos he]
    exact closeConnection_tame hs

theorem onRequestDomainLookup_tame {ec : Ec} {ips : List (Nat × Nat)} : Tame c.ver cnt (onRequestDomainLookup c cnt ec ips) := by
  unfold onRequestDomainLookup
  split
  · exact ⟨_, _, rfl, hs, rfl, rfl⟩
  · rw [in_write0 hs _ (by simp)]
    exact writeFrom_tame (hs.setIn (c.inBuf.store 0 _) hs.inn) (len := 10) (by omega) (by omega) (by decide)

theorem reply_tame {addr port response : Nat} {k : Kind} (hk : k ≠ .hs3 ∧ k ≠ .srvFwd) :
    Tame c.ver cnt (reply c cnt addr port response k) := by
  rw [reply_eq hs]
  exact ⟨_, _, rfl, hs.setIn _ hs.inn, rfl, by cases k <;> first | rfl | simp at hk⟩

theorem bindConnection2_tame {ec : Ec} {loc : Nat × Nat} : Tame c.ver cnt (bindConnection2 c cnt ec loc) :=
  bindConnection2_eq_reply .. ▸ reply_tame hs (by split <;> decide)

theorem onConnected_tame {ec : Ec} {remote : Option (Nat × Nat)} : Tame c.ver cnt (onConnected c cnt ec remote) := by
  rw [onConnected_eq_reply]
  split
  · exact ⟨_, _, rfl, hs, rfl, rfl⟩
  · exact reply_tame hs (by split <;> decide)

theorem udpReply_ok (a pt r : Nat) : ∃ c' len acts,
    (if c.flags / 2 % 2 = 1 then formatHostnameResponse c pt r
     else match formatResponse c a pt r with
       | .error e => .error e
       | .ok (c, len) => .ok (c, len, [])) = .ok (c', len, acts)
      ∧ c'.Sized ∧ c'.ver = c.ver ∧ len ≤ 13 ∧ acts.all Act.tame = true := by
  split
  · unfold formatHostnameResponse
    split
    · exact ⟨_, _, _, rfl, hs, rfl, by omega, rfl⟩
    · dsimp only
      rw [in_write0 hs _ (by simp [port2])]
      exact ⟨_, _, _, rfl, hs.setIn _ hs.inn, rfl, by simp [port2], rfl⟩
  · unfold formatResponse
    dsimp only
    rw [in_write0 hs _ (by split <;> simp [addr4, port2])]
    exact ⟨_, _, _, rfl, hs.setIn _ hs.inn, rfl, by split <;> simp [addr4, port2], rfl⟩

theorem udpAssociate2_tame {addr port : Nat} {ec : Ec} {loc : Nat × Nat} {cli : Nat} :
    Tame c.ver cnt (udpAssociate2 c cnt addr port ec loc cli) := by
  unfold udpAssociate2
  extract_lets c1 rcv response
  obtain ⟨c2, len, a1, he, h2, hv2, h3, h4⟩ := udpReply_ok (c := c1) ⟨hs.out, hs.inn, hs.udp⟩ loc.1 loc.2 response
  obtain ⟨c3, a2, e3, g1, g2, g3⟩ := writeFrom_tame h2 (cnt := cnt) (len := len)
    (k := if ec ≠ .ok then .closeAfter else .waitEof) (by omega) (by omega) (by split <;> decide)
  have hr : rcv.all Act.tame = true := by unfold rcv; split <;> rfl
  split
  · cases he.symm.trans ‹_ = Except.error _›
  · cases he.symm.trans ‹_ = Except.ok _›
    rw [e3]
    exact ⟨_, _, rfl, g1, g2.trans hv2, by rw [List.all_append, List.all_append, hr, h4, g3]; rfl⟩

theorem waitForEof_tame {ec : Ec} : Tame c.ver cnt (waitForEof c cnt ec) := by
  unfold waitForEof
  split
  · exact ⟨_, _, rfl, ⟨hs.out, hs.inn, hs.udp⟩, rfl, rfl⟩
  · split <;> exact ⟨_, _, rfl, hs, rfl, rfl⟩

theorem startAccept_tame {ec : Ec} : Tame c.ver cnt (startAccept c cnt ec) := by
  unfold startAccept
  split
  · exact closeConnection_tame hs
  · exact ⟨_, _, rfl, hs, rfl, rfl⟩

theorem relayStart_tame {ec : Ec} : Tame c.ver cnt (relayStart c cnt ec) := by
  unfold relayStart
  split <;> exact ⟨_, _, rfl, hs, rfl, rfl⟩

theorem onClientForward_tame {ec : Ec} : Tame c.ver cnt (onClientForward c cnt ec) := by
  unfold onClientForward
  split
  · exact closeConnection_tame hs
  · exact ⟨_, _, rfl, hs, rfl, rfl⟩

theorem onServerForward_tame {ec : Ec} : Tame c.ver cnt (onServerForward c cnt ec) := by
  unfold onServerForward
  split
  · exact closeConnection_tame hs
  · exact ⟨_, _, rfl, hs, rfl, rfl⟩

theorem udpResolved_tame {payload host : Bytes} {ec : Ec} {ips : List (Nat × Nat)} :
    Tame c.ver cnt (udpResolved c cnt payload host ec ips) := by
  unfold udpResolved
  split
  · exact ⟨_, _, rfl, hs, rfl, rfl⟩
  · split
    · exact ⟨_, _, rfl, hs, rfl, List.all_eq_true.2 fun a ha => by obtain ⟨t, _, rfl⟩ := List.mem_map.1 ha; rfl⟩
    · split
      · exact ⟨_, _, rfl, hs, rfl, rfl⟩
      · exact ⟨_, _, rfl, ⟨hs.out, hs.inn, hs.udp⟩, rfl, rfl⟩

omit hs in
theorem udpActs_tame (C : Conn) (src : Nat × Nat) (dg : Bytes) : (udpActs C src dg).all Act.tame = true := by
  unfold udpActs
  split
  · split
    · rfl
    · split <;> rfl
    · rfl
  · rfl

theorem onReadUdp_tame {ec : Ec} {dg : Bytes} {src : Nat × Nat} (hl : dg.length ≤ 1500) :
    Tame c.ver cnt (onReadUdp {} { c with udpBuf := c.udpBuf.store 0 dg } cnt ec dg.length src) := by
  by_cases he : ec = .ok
  · rw [he, onReadUdp_eq (udpHolds_store c hs dg hl), Conn.seen_eq]
    exact ⟨_, _, rfl, ⟨hs.out, hs.inn, hs.udp⟩, rfl, udpActs_tame ..⟩
  · unfold onReadUdp
    rw [if_pos he]
    exact ⟨_, _, rfl, hs.setUdp _ hs.udp, rfl, rfl⟩

theorem reqAct_tame {H : Bytes} : Tame c.ver cnt (reqAct {} c cnt H) :=
  reqAct_ind H (closeConnection_tame hs) (fun _ _ => ⟨_, _, rfl, hs, rfl, rfl⟩) (fun _ _ => ⟨_, _, rfl, hs, rfl, rfl⟩)
    (fun _ _ => ⟨_, _, rfl, hs, rfl, rfl⟩) (onRequestDomainName_tame hs)
    (fun len hl hn => by
      rw [exactRead_ok hs (by simp at hn; omega) (by omega)]
      exact ⟨_, _, rfl, hs, rfl, by simp [Act.tame, Act.op?, POp.late, POp.pre, POp.isReq]; omega⟩)

end tame

/-- what a handler of the negotiation made of a connection of version `v`: sizes and version
    kept; regions in bounds, composed reads fresh or not full; nothing for the relay -/
structure NegEff (v : Int) (c' : Conn) (cnt' : List Int) (acts : List Act) : Prop where
  sized : c'.Sized
  ver : c'.ver = v
  len : cnt'.length = 3
  bnd : ActsOk acts
  strict : ActsStrict acts
  toS : toServer acts = []
  toC : toClientRelay acts = []

def Neg (v : Int) (o : Out) : Prop := ∃ c' cnt' acts, o = .ok (c', cnt', acts) ∧ NegEff v c' cnt' acts

theorem Neg.out {v : Int} {o : Out} {c' : Conn} {cnt' : List Int} {acts : List Act} (h : Neg v o)
    (ho : o = .ok (c', cnt', acts)) : NegEff v c' cnt' acts := by
  obtain ⟨_, _, _, e, h⟩ := h
  cases e.symm.trans ho
  exact h

theorem Tame.neg {v : Int} {cnt : List Int} {o : Out} (hc : cnt.length = 3) (h : Tame v cnt o) : Neg v o :=
  let ⟨_, _, e, h1, h2, h3⟩ := h
  have ⟨t1, t2, _, t4, t5⟩ := tame_spec h3
  ⟨_, _, _, e, h1, h2, hc, t1, t2, t4, t5⟩

theorem acts_one {a : Act} {op : POp} (h : a.op? = some op) (hb : op.Bnd) (hs : op.Strict) : ActsOk [a] ∧ ActsStrict [a] :=
  ⟨fun x hx op' hop => by cases List.mem_singleton.1 hx; cases h.symm.trans hop; exact hb,
   fun x hx op' hop => by cases List.mem_singleton.1 hx; cases h.symm.trans hop; exact hs⟩

section neg
variable {c : Conn} {cnt : List Int} (hs : c.Sized) (hc : cnt.length = 3)
include hs hc

theorem exactRead_neg {off : Nat} {n : Int} {k : Kind} (h0 : 0 ≤ n) (h1 : (off : Int) + n ≤ 65536) :
    Neg c.ver (exactRead c cnt off n k) := by
  rw [exactRead_ok hs h0 h1]
  have := acts_one (a := .read .client n.toNat (.exact off n.toNat 0 k)) rfl ⟨by omega, by omega⟩ (.inr rfl)
  exact ⟨_, _, _, rfl, hs, rfl, hc, this.1, this.2, rfl, rfl⟩

theorem start_neg : Neg c.ver (start c cnt) := by
  unfold start
  split <;> exact exactRead_neg hs hc (by omega) (by omega)

theorem onHandshake1_neg {ec : Ec} {n : Nat} : Neg c.ver (onHandshake1 {} c cnt ec n) := by
  rw [onHandshake1_sized hs]
  split
  · exact (closeConnection_tame hs).neg hc
  · split
    · exact (closeConnection_tame hs).neg hc
    · have := ux_bounds (c.outBuf.byte 1)
      exact exactRead_neg hs hc (by omega) (by omega)

theorem onHandshake2_neg {ec : Ec} {n : Nat} (hn : n ≤ 65536) : Neg c.ver (onHandshake2 c cnt ec n) := by
  rw [onHandshake2_sized hs hn]
  split
  · exact (closeConnection_tame hs).neg hc
  · have := acts_one (a := .write .client [5, 0] (.write .client 2 .hs3)) rfl trivial trivial
    exact ⟨_, _, _, rfl, hs.setIn _ hs.inn, rfl, hc, this.1, this.2, rfl, rfl⟩

theorem onHandshake3_neg {ec : Ec} {n : Nat} : Neg c.ver (onHandshake3 c cnt ec n) := by
  unfold onHandshake3
  split
  · exact (closeConnection_tame hs).neg hc
  · exact exactRead_neg hs hc (by omega) (by omega)

theorem onRequest1_result (ec : Ec) (n : Nat) : ∃ c' acts,
    onRequest1 {} c cnt ec n
      = .ok (c', if ec = .ok ∧ n = expectedLen c.ver then cntAfter cnt (sx (c.outBuf.byte 1)) else cnt, acts)
    ∧ c'.Sized ∧ c'.ver = c.ver ∧ acts.all Act.tame = true := by
  rw [onRequest1_sized hs hc]
  split
  · exact reqAct_tame (c := { c with command := sx (c.outBuf.byte 1) }) ⟨hs.out, hs.inn, hs.udp⟩
  · exact closeConnection_tame hs

theorem exactDone_neg {k : Kind} {ec : Ec} {total : Nat} (ht : total ≤ 65536) : Neg c.ver (exactDone {} c cnt k ec total) := by
  unfold exactDone
  split
  · exact onHandshake1_neg hs hc
  · exact onHandshake2_neg hs hc ht
  · obtain ⟨_, _, e, h1, h2, h3⟩ := onRequest1_result hs hc ec total
    exact Tame.neg (by split <;> simp [cntAfter_length, hc]) ⟨_, _, e, h1, h2, h3⟩
  · exact (onRequestDomainName_tame hs).neg hc
  · exact Tame.neg hc ⟨_, _, rfl, hs, rfl, rfl⟩

end neg

/-- what the completion of `op` with result `r` made of a connection of version `v` and the
    counters `cnt` -/
structure Eff (v : Int) (cnt : List Int) (op : POp) (r : Res) (c' : Conn) (cnt' : List Int) (acts : List Act) : Prop where
  sized : c'.Sized
  ver : c'.ver = v
  len : cnt'.length = 3
  bnd : ActsOk acts
  strict : ActsStrict acts
  late : op.late = true → cnt' = cnt ∧ lateActs acts = true
  toS : toServer acts = fromClient [(op, r)]
  toC : toClientRelay acts = fromServer [(op, r)]

def Completes (v : Int) (cnt : List Int) (op : POp) (r : Res) (o : Out) : Prop :=
  ∃ c' cnt' acts, o = .ok (c', cnt', acts) ∧ Eff v cnt op r c' cnt' acts

theorem Completes.eff {v : Int} {cnt cnt' : List Int} {op : POp} {r : Res} {o : Out} {c' : Conn} {acts : List Act}
    (h : Completes v cnt op r o) (ho : o = .ok (c', cnt', acts)) : Eff v cnt op r c' cnt' acts := by
  obtain ⟨_, _, _, e, h⟩ := h
  cases e.symm.trans ho
  exact h

section eff
variable {v : Int} {cnt : List Int} {op : POp} {r : Res} {o : Out}

theorem Tame.eff (hc : cnt.length = 3) (h1 : fromClient [(op, r)] = []) (h2 : fromServer [(op, r)] = []) (h : Tame v cnt o) :
    Completes v cnt op r o :=
  let ⟨_, _, e, g1, g2, g3⟩ := h
  have ⟨t1, t2, t3, t4, t5⟩ := tame_spec g3
  ⟨_, _, _, e, g1, g2, hc, t1, t2, fun _ => ⟨rfl, t3⟩, t4.trans h1.symm, t5.trans h2.symm⟩

theorem Neg.eff (hl : op.late = false) (h1 : fromClient [(op, r)] = []) (h2 : fromServer [(op, r)] = []) (h : Neg v o) :
    Completes v cnt op r o :=
  let ⟨_, _, _, e, g⟩ := h
  ⟨_, _, _, e, g.sized, g.ver, g.len, g.bnd, g.strict, fun h => absurd h (by simp [hl]), g.toS.trans h1.symm, g.toC.trans h2.symm⟩

end eff

theorem fromClient_other {s : Sock} {k : Kind} {ec : Ec} {d : Bytes} (h : k ≠ .cliRecv) :
    fromClient [(.readSome s k, .rd ec d)] = [] := by
  cases s <;> cases k <;> first | rfl | exact absurd rfl h

theorem fromServer_other {s : Sock} {k : Kind} {ec : Ec} {d : Bytes} (h : k ≠ .srvRecv) :
    fromServer [(.readSome s k, .rd ec d)] = [] := by
  cases s <;> cases k <;> first | rfl | exact absurd rfl h

section complete
variable {c : Conn} {cnt : List Int} (hs : c.Sized) (hc : cnt.length = 3)
include hs hc

/-- a relay read hands on exactly the bytes it carried (`on_client_receive` after the I/O layer stored them) -/
theorem onClientReceive_eff {ec : Ec} {d : Bytes} (hd : d.length ≤ 65536) :
    Completes c.ver cnt (.readSome .client .cliRecv) (.rd ec d)
      (onClientReceive { c with outBuf := c.outBuf.store 0 d } cnt ec d.length) := by
  have hs1 := hs.setOut (c.outBuf.store 0 d) hs.out
  unfold onClientReceive
  by_cases hec : ec = .ok
  · subst hec
    rw [if_neg (by simp), if_neg (by simp)]
    unfold writeFrom
    dsimp only
    rw [Buf.store0_readAll _ _ (by rw [hs.out]; exact hd)]
    have := acts_one (a := .write .server d (.write .server d.length .cliFwd)) rfl trivial trivial
    exact ⟨_, _, _, rfl, hs1, rfl, hc, this.1, this.2, fun _ => ⟨rfl, rfl⟩, rfl, rfl⟩
  · have h1 : fromClient [(POp.readSome .client .cliRecv, Res.rd ec d)] = [] := by
      cases ec <;> first | rfl | exact absurd rfl hec
    split
    · exact Tame.eff hc h1 rfl ⟨_, _, rfl, hs1, rfl, rfl⟩
    · exact (closeConnection_tame hs1).eff hc h1 rfl

theorem onServerReceive_eff {ec : Ec} {d : Bytes} (hd : d.length ≤ 65536) :
    Completes c.ver cnt (.readSome .server .srvRecv) (.rd ec d)
      (onServerReceive { c with inBuf := c.inBuf.store 0 d } cnt ec d.length) := by
  have hs1 := hs.setIn (c.inBuf.store 0 d) hs.inn
  unfold onServerReceive
  by_cases hec : ec = .ok
  · subst hec
    rw [if_neg (by simp), writeFrom_stored (by rw [hs.inn]; exact hd)]
    have := acts_one (a := .write .client d (.write .client d.length .srvFwd)) rfl trivial trivial
    exact ⟨_, _, _, rfl, hs1, rfl, hc, this.1, this.2, fun _ => ⟨rfl, rfl⟩, rfl, rfl⟩
  · rw [if_pos hec]
    exact (closeConnection_tame hs1).eff hc rfl (by cases ec <;> first | rfl | exact absurd rfl hec)

theorem onExactChunk_eff {off need got : Nat} {k : Kind} {ec : Ec} {data : Bytes}
    (hb : off + need ≤ 65536 ∧ got ≤ need) (hv : data.length ≤ min (need - got) 65536) :
    Completes c.ver cnt (.exact off need got k) (.rd ec data) (onExactChunk {} c cnt off need got k ec data) := by
  have hd : data.length ≤ need - got := Nat.le_trans hv (Nat.min_le_left _ _)
  have hs1 := hs.setOut (c.outBuf.store (off + got) data) hs.out
  unfold onExactChunk
  rw [exactStep_ok _ _ _ _ _ _ (by rw [hs.out]; omega)]
  dsimp only
  split
  · have hn := exactDone_neg hs1 hc (k := k) (ec := ec) (total := got + data.length) (by omega)
    cases k
    case dom => exact (onRequestDomainName_tame hs1).eff hc rfl rfl
    case hs1 | hs2 | req1 => exact hn.eff rfl rfl rfl
    all_goals exact Tame.eff hc rfl rfl ⟨_, _, rfl, hs1, rfl, rfl⟩
  · rename_i hnd
    have hnd : ¬ (ec ≠ .ok ∨ data.length = 0 ∨ got + data.length ≥ need) := by simpa using hnd
    have := acts_one (a := .read .client (min (need - (got + data.length)) 65536) (.exact off need (got + data.length) k)) rfl
      ⟨hb.1, by omega⟩ (.inl (by omega))
    exact ⟨_, _, _, rfl, hs1, rfl, hc, this.1, this.2, fun hl => ⟨rfl, by cases k <;> first | rfl | cases hl⟩, rfl, rfl⟩

/-- the summary of the dispatcher: every completion the I/O layer can deliver, on a connection
    with its real array sizes and a pending region in bounds -/
theorem complete_eff (op : POp) (r : Res) (hb : op.Bnd) (hv : valid op r = true) :
    Completes c.ver cnt op r (complete {} c cnt op r) := by
  cases op <;> cases r <;> simp only [valid, decide_eq_true_eq, reduceCtorEq] at hv
  case exact.rd => exact onExactChunk_eff hs hc hb hv
  case readSome.rd s k ec data =>
    unfold complete
    cases s <;> dsimp only
    · rw [Buf.write_ok _ 0 _ (by omega) (by rw [hs.out]; omega)]
      have hs1 := hs.setOut (c.outBuf.store (0 : Int).toNat data) hs.out
      dsimp only
      split
      · exact onClientReceive_eff hs hc hv
      · exact (waitForEof_tame hs1).eff hc rfl rfl
      · exact Tame.eff hc (fromClient_other (by assumption)) rfl ⟨_, _, rfl, hs1, rfl, rfl⟩
    · rw [in_write0 hs _ (by omega)]
      have hs1 := hs.setIn (c.inBuf.store (0 : Int).toNat data) hs.inn
      dsimp only
      split
      · exact onServerReceive_eff hs hc hv
      · exact Tame.eff hc rfl (fromServer_other (by assumption)) ⟨_, _, rfl, hs1, rfl, rfl⟩
  case write.wr s len k ec n =>
    unfold complete
    dsimp only
    split
    · exact (onHandshake3_neg hs hc).eff rfl rfl rfl
    · exact (closeConnection_tame hs).eff hc rfl rfl
    · exact (startAccept_tame hs).eff hc rfl rfl
    · exact (waitForEof_tame hs).eff hc rfl rfl
    · exact (relayStart_tame hs).eff hc rfl rfl
    · exact (onClientForward_tame hs).eff hc rfl rfl
    · exact (onServerForward_tame hs).eff hc rfl rfl
    · exact Tame.eff hc rfl rfl ⟨_, _, rfl, hs, rfl, rfl⟩
  case resolve.ips => exact (onRequestDomainLookup_tame hs).eff hc rfl rfl
  case connect.conn => exact (onConnected_tame hs).eff hc rfl rfl
  case accept.conn => exact (onConnected_tame hs).eff hc rfl rfl
  case bound.bnd => exact (bindConnection2_tame hs).eff hc rfl rfl
  case udpBound.bnd => exact (udpAssociate2_tame hs).eff hc rfl rfl
  case udpRecv.dgram ec data src =>
    rw [complete_udpRecv hs hv]
    exact (onReadUdp_tame hs hv).eff hc rfl rfl
  case udpResolve.ips => exact (udpResolved_tame hs).eff hc rfl rfl

end complete

structure SSafe (s : SS) : Prop where
  cnt : s.cnt.length = 3
  conns : ∀ cs ∈ s.conns, cs.c.Sized ∧ ∀ e ∈ cs.pend, e.op.Bnd

theorem SSafe.init (ver : Int) (flags : Nat) : SSafe (SS.init ver flags) := ⟨rfl, fun _ h => nomatch h⟩

theorem SSafe.start {s : SS} (hs : SSafe s) : Neg s.ver (start { ver := s.ver, flags := s.flags } s.cnt) :=
  start_neg ⟨rfl, rfl, rfl⟩ hs.cnt

theorem SSafe.complete {s : SS} (hs : SSafe s) {i : Nat} {cs : CS} {e : PEnt} {r : Res} (hcs : cs ∈ s.conns)
    (he : cs.pend[i]? = some e) (hok : e.ok r = true) : Completes cs.c.ver s.cnt e.op r (complete {} cs.c s.cnt e.op r) :=
  complete_eff (hs.conns cs hcs).1 hs.cnt e.op r ((hs.conns cs hcs).2 e (List.mem_of_getElem? he)) (PEnt.ok_valid hok)

theorem SSafe.step {s s' : SS} {l : SLbl} (hs : SSafe s) (h : s.step {} l = .ok s') : SSafe s' := by
  refine ⟨?_, SS.conns_step h hs.conns (fun c cnt acts hst => ?_) fun cs i e r c cnt acts hcs he hok hco => ?_⟩
  · rcases SS.step_cases h with rfl | ⟨c, cnt, acts, -, hst, rfl⟩ | ⟨ci, i, r, cs, e, c, cnt, acts, -, hcs, he, hok, hco, rfl⟩
    · exact hs.cnt
    · exact (hs.start.out hst).len
    · exact ((hs.complete (List.mem_of_getElem? hcs) he hok).eff hco).len
  · have := hs.start.out hst
    exact ⟨this.sized, addOps_all acts [] (fun _ h => nomatch h) this.bnd⟩
  · have := (hs.complete hcs he hok).eff hco
    exact ⟨this.sized, addOps_all acts _ (fun e' he' => (hs.conns cs hcs).2 e' (List.mem_of_mem_eraseIdx he')) this.bnd⟩

theorem SSafe.no_fault (ls : List SLbl) : ∀ {s : SS}, SSafe s → ∃ s', s.run {} ls = .ok s' := by
  induction ls with
  | nil => intro s _; exact ⟨s, rfl⟩
  | cons l rest ih =>
    intro s hs
    obtain ⟨s1, h1⟩ := SS.step_ok (p := {}) l (let ⟨c, cnt, acts, h, _⟩ := hs.start; ⟨_, h⟩)
      fun ci i r cs e hcs he hok => let ⟨c, cnt, acts, h, _⟩ := hs.complete (List.mem_of_getElem? hcs) he hok; ⟨_, h⟩
    unfold SS.run
    rw [h1]
    exact ih (hs.step h1)

theorem SS.run_safe {I : SS → Prop} (hstep : ∀ s s' l, SSafe s → I s → s.step {} l = .ok s' → I s') :
    ∀ (ls : List SLbl) (s s' : SS), SSafe s → I s → s.run {} ls = .ok s' → I s'
  | [], s, s', _, hI, h => by cases h; exact hI
  | l :: rest, s, s', hs, hI, h => by
    unfold SS.run at h
    split at h
    · cases h
    · exact SS.run_safe hstep rest _ s' (hs.step ‹_›) (hstep s _ l hs hI ‹_›) h

def RelayOk (cs : CS) : Prop := toServer cs.acts = fromClient cs.hist ∧ toClientRelay cs.acts = fromServer cs.hist

theorem relay_step (s s' : SS) (l : SLbl) (hS : SSafe s) (hs : ∀ cs ∈ s.conns, RelayOk cs) (h : s.step {} l = .ok s') :
    ∀ cs ∈ s'.conns, RelayOk cs :=
  SS.conns_step h hs
    (fun _ _ _ hst => ⟨(hS.start.out hst).toS, (hS.start.out hst).toC⟩)
    fun cs i e r c cnt acts hcs he hok hco => by
      have h0 := hs cs hcs
      have h1 := (hS.complete hcs he hok).eff hco
      have t1 := h1.toS
      have t2 := h1.toC
      unfold RelayOk CS.next toServer toClientRelay fromClient fromServer at *
      simp only [List.flatMap_append]
      rw [h0.1, h0.2, t1, t2]
      exact ⟨rfl, rfl⟩

theorem relay_run (ver : Int) (flags : Nat) (ls : List SLbl) (s : SS)
    (h : (SS.init ver flags).run {} ls = .ok s) :
    ∀ cs ∈ s.conns, toServer cs.acts = fromClient cs.hist ∧ toClientRelay cs.acts = fromServer cs.hist :=
  SS.run_safe (I := fun s => ∀ cs ∈ s.conns, RelayOk cs) relay_step ls _ s (SSafe.init ver flags)
    (by intro cs hcs; cases hcs) h

theorem no_relay_no_server_write (ver : Int) (flags : Nat) (ls : List SLbl) (s : SS)
    (h : (SS.init ver flags).run {} ls = .ok s) :
    ∀ cs ∈ s.conns, fromClient cs.hist = [] → toServer cs.acts = [] := by
  intro cs hcs h0
  rw [(relay_run ver flags ls s h cs hcs).1, h0]

end SimVerif.Socks
