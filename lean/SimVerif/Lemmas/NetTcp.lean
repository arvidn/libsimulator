/-
  SimVerif.Lemmas.NetTcp — the TCP / acceptor mechanism functions of SimVerif/Tcp.lean that touch
  the registry or the forwarder table, as operations on the TCP registry view `NetSt.rvT`
  (Lemmas/NetView.lean): an equation `(f n).rvT att' = op (n.rvT att)` where the function is one
  operation (`close`, `open`, the destructor, move construction), a `RStepT` where it is composed of
  several (`bind`, `async_connect`, the attach of an incoming connection). Everything else of a TCP
  object (windows, queues, handlers, channels) is invisible to the registry: `TFrame`.
-/
import SimVerif.Lemmas.NetView
import SimVerif.Lemmas.TcpEq

namespace SimVerif

theorem tv_setTcp (n : NetSt) (k : String) (v : TcpSock) : (n.setTcp k v).tv = setS n.tv k (some v.view) := by
  funext x; unfold NetSt.tv setS; rw [tcp?_setTcp]; split <;> rfl

theorem tv_some_of_tcp? {n : NetSt} {name : String} {s : TcpSock} (h : n.tcp? name = some s) :
    n.tv name = some (s.isOpen, s.bound, s.fwd) := by simp [NetSt.tv, h, TcpSock.view]
theorem tv_none_of_tcp? {n : NetSt} {name : String} (h : n.tcp? name = none) : n.tv name = none := by
  simp [NetSt.tv, h]

/-- `n'` differs from `n` only in what the registry cannot see of TCP objects -/
structure TFrame (n n' : NetSt) : Prop where
  tv   : n'.tv = n.tv
  reg  : n'.reg = n.reg
  fwds : n'.fwds = n.fwds
  udps : n'.udps = n.udps
  cfg  : n'.cfg = n.cfg

theorem TFrame.refl (n : NetSt) : TFrame n n := ⟨rfl, rfl, rfl, rfl, rfl⟩
theorem TFrame.trans {a b c : NetSt} (h1 : TFrame a b) (h2 : TFrame b c) : TFrame a c :=
  ⟨h2.tv.trans h1.tv, h2.reg.trans h1.reg, h2.fwds.trans h1.fwds, h2.udps.trans h1.udps, h2.cfg.trans h1.cfg⟩

theorem TFrame.rvT {n n' : NetSt} (h : TFrame n n') (att : List String) : n'.rvT att = n.rvT att := by
  unfold NetSt.rvT NetSt.fwdTarget; rw [h.tv, h.reg, h.fwds]
theorem TFrame.same {n n' : NetSt} (h : TFrame n n') : UdpUntouched n n' := ⟨h.udps, by rw [h.reg], h.cfg⟩
theorem TFrame.step {b : Bool} {n n' : NetSt} (h : TFrame n n') (att : List String) : RStepT b n att n' att :=
  .of_rv ⟨h.rvT att, h.same⟩ (fun _ => rfl) fun _ _ => .refl

theorem TFrame.setTcp (n : NetSt) (name : String) (s s' : TcpSock) (h : n.tcp? name = some s)
    (hv : s'.view = s.view) : TFrame n (n.setTcp name s') :=
  ⟨by rw [tv_setTcp, hv]; exact setS_eq_self (by simp [NetSt.tv, h]), rfl, rfl, rfl, rfl⟩

theorem TFrame.chans (n : NetSt) (cs : List Chan) : TFrame n { n with chans := cs } :=
  ⟨rfl, rfl, rfl, rfl, rfl⟩

/-- what `close(ec)` does, field by field (`tcpClose_rv` says it as one equation) -/
structure CloseEff (n n' : NetSt) (name : String) : Prop where
  tv   : ∀ x, n'.tv x = if x = name then (n.tv name).map (fun _ => (false, ({} : Ep), (none : Option Nat))) else n.tv x
  regT : n'.reg.tcp = match n.tv name with
          | some v => if v.2.1.isDefault then n.reg.tcp else simUnbind n.reg.tcp name v.2.1
          | none => n.reg.tcp
  regU : n'.reg.udp = n.reg.udp
  port : n'.reg.nextPort = n.reg.nextPort
  cfg  : n'.cfg = n.cfg
  udps : n'.udps = n.udps
  flen : n'.fwds.length = n.fwds.length
  ft   : ∀ g, n'.fwdTarget g = if (n.tv name).bind (·.2.2) = some g then none else n.fwdTarget g

theorem CloseEff.closed {n n' : NetSt} {name : String} (e : CloseEff n n' name) :
    n'.tv name = none ∨ n'.tv name = some (false, {}, none) := by
  rw [e.tv]; cases n.tv name <;> simp

/-- the registry's view of a state in which `name`'s entry and forwarder are released and the object
    is replaced by an idle one: the operation `close` -/
theorem rv_released {n : NetSt} {name : String} {s s' : TcpSock} (cs : List Chan) (att : List String)
    (h : n.tcp? name = some s) (hv : s'.view = View.idle) :
    ((({ n with chans := cs } : NetSt).released name s.bound s.fwd).setTcp name s').rvT (att.filter (· != name))
      = (n.rvT att).close name
    ∧ UdpUntouched n ((({ n with chans := cs } : NetSt).released name s.bound s.fwd).setTcp name s') := by
  have hf := fwds_detach (n := n)
    (n' := (({ n with chans := cs } : NetSt).released name s.bound s.fwd).setTcp name s') (fo := s.fwd)
    rfl
  refine ⟨?_, ⟨rfl, rfl, rfl⟩⟩
  rw [RV.close_some (tv_some_of_tcp? h)]
  unfold NetSt.rvT
  rw [hf.1, hf.2, tv_setTcp, hv]; rfl

theorem tcpClose_rv (n : NetSt) (now : Int) (name : String) (att : List String) :
    (n.tcpClose now name).1.rvT (att.filter (· != name)) = (n.rvT att).close name
    ∧ UdpUntouched n (n.tcpClose now name).1 := by
  cases h : n.tcp? name with
  | none => rw [tcpClose_none n now name h, RV.close_none (tv_none_of_tcp? h)]; exact ⟨rfl, .refl n⟩
  | some s0 => obtain ⟨cs, -, e⟩ := tcpClose_exact n now name s0 h; rw [e]; exact rv_released cs att h rfl

theorem tcpClose_rstep {b : Bool} (n : NetSt) (now : Int) (name : String) (att : List String) :
    RStepT b n att (n.tcpClose now name).1 (att.filter (· != name)) :=
  .of_rv (tcpClose_rv n now name att) (fun _ => rfl) fun _ _ => .close name

/-- the second stage of `open(protocol, ec)`, after the `close(ec)`: a fresh forwarder, open
    (`tcpOpen_exact`, Lemmas/TcpEq.lean, is both stages in one term) -/
def NetSt.tcpOpen2 (m : NetSt) (name : String) (v4 : Bool) : NetSt :=
  match m.tcp? name with
  | none => m
  | some s => (m.newFwd name).1.setTcp name { s with isOpen := true, isV4 := v4, fwd := some m.fwds.length }

theorem tcpOpen_nf (n : NetSt) (now : Int) (name : String) (v4 : Bool) :
    (n.tcpOpen now name v4).1 = (n.tcpClose now name).1.tcpOpen2 name v4 := by
  unfold NetSt.tcpOpen NetSt.tcpOpen2
  generalize n.tcpClose now name = r
  obtain ⟨m, e⟩ := r
  dsimp only
  cases m.tcp? name <;> rfl

theorem tcpOpen2_rv (m : NetSt) (name : String) (v4 : Bool) (att : List String) :
    (m.tcpOpen2 name v4).rvT att = (m.rvT att).opened name ∧ UdpUntouched m (m.tcpOpen2 name v4) := by
  unfold NetSt.tcpOpen2
  cases h : m.tcp? name with
  | none => rw [RV.opened_none (tv_none_of_tcp? h)]; exact ⟨rfl, .refl m⟩
  | some s =>
    refine ⟨?_, ⟨rfl, rfl, rfl⟩⟩
    rw [RV.opened_some (tv_some_of_tcp? h)]
    exact RV.ext rfl (tv_setTcp _ _ _) rfl (fwdTarget_newFwd' m name) (fwds_length_newFwd m name) rfl

theorem tcpOpen_rv (n : NetSt) (now : Int) (name : String) (v4 : Bool) (att : List String) :
    (n.tcpOpen now name v4).1.rvT (att.filter (· != name)) = ((n.rvT att).close name).opened name
    ∧ UdpUntouched n (n.tcpOpen now name v4).1 := by
  have h1 := tcpClose_rv n now name att
  have h2 := tcpOpen2_rv (n.tcpClose now name).1 name v4 (att.filter (· != name))
  rw [tcpOpen_nf, h2.1, h1.1]; exact ⟨rfl, h1.2.trans h2.2⟩

theorem tcpOpen_rstep {b : Bool} (n : NetSt) (now : Int) (name : String) (v4 : Bool) (att : List String) :
    RStepT b n att (n.tcpOpen now name v4).1 (att.filter (· != name)) :=
  .of_rv (tcpOpen_rv n now name v4 att) (fun _ => rfl) fun _ _ =>
    (ROp.close name).trans (.opened (RV.close_idle _ name))

def NetSt.tcpBindPre (n : NetSt) (name : String) (ep : Ep) (s : TcpSock) (ep1 : Ep) : Prop :=
  n.tcp? name = some s ∧ s.isOpen = true ∧ ep.isV4 = s.isV4 ∧ s.bound.isDefault = true
  ∧ ioResolve (n.cfg.ipsOf s.node) ep = .ok ep1

theorem tcpBind_pre (n : NetSt) (name : String) (ep : Ep) (s : TcpSock) (ep1 : Ep)
    (h : n.tcpBindPre name ep s ep1) : n.tcpBind name ep = n.tcpBound name s ep1 := by
  obtain ⟨h1, h2, h3, h4, h5⟩ := h
  unfold NetSt.tcpBind NetSt.tcpBound
  simp only [h1, h2, h3, h4, h5]
  simp only [Bool.not_true, Bool.false_eq_true, if_false, bne_self_eq_false]
  rcases hs : simBind n.reg.tcp n.reg.nextPort name ep1 with ⟨tbl, np, r⟩
  cases r <;> rfl

theorem tcpBind_cases (n : NetSt) (name : String) (ep : Ep) :
    (∃ e, e ∈ [Ec.other, .badDesc, .afNoSupport, .invalid, .notAvail] ∧ n.tcpBind name ep = (n, e))
    ∨ ∃ s ep1, n.tcpBindPre name ep s ep1 := by
  unfold NetSt.tcpBind
  cases h1 : n.tcp? name with
  | none => exact .inl ⟨_, by simp, rfl⟩
  | some s =>
    dsimp only
    split
    · exact .inl ⟨_, by simp, rfl⟩
    · split
      · exact .inl ⟨_, by simp, rfl⟩
      · split
        · exact .inl ⟨_, by simp, rfl⟩
        · cases h5 : ioResolve (n.cfg.ipsOf s.node) ep with
          | error e => exact .inl ⟨e, by rw [ioResolve_error _ _ _ h5]; simp, rfl⟩
          | ok ep1 => exact .inr ⟨s, ep1, h1, by simp_all, by simp_all, by simp_all, h5⟩

theorem tcpBind_codes (n : NetSt) (name : String) (ep : Ep) :
    (n.tcpBind name ep).2 ∈ [Ec.other, .badDesc, .afNoSupport, .invalid, .notAvail, .denied, .inUse, .ok]
    ∧ ((n.tcpBind name ep).2 ≠ .ok →
        (n.tcpBind name ep).1.reg.tcp = n.reg.tcp ∧ (n.tcpBind name ep).1.reg.udp = n.reg.udp
        ∧ (n.tcpBind name ep).1.tcps = n.tcps ∧ (n.tcpBind name ep).1.udps = n.udps
        ∧ (n.tcpBind name ep).1.fwds = n.fwds) := by
  rcases tcpBind_cases n name ep with ⟨e, he, h⟩ | ⟨s, ep1, hpre⟩
  · rw [h]; exact ⟨List.mem_append_left [Ec.denied, .inUse, .ok] he, fun _ => ⟨rfl, rfl, rfl, rfl, rfl⟩⟩
  · rw [tcpBind_pre n name ep s ep1 hpre, NetSt.tcpBound]
    rcases simBind_cases n.reg.tcp n.reg.nextPort name ep1
      with ⟨_, _, e⟩ | ⟨_, _, e⟩ | ⟨q, _, _, e⟩ | ⟨_, _, e⟩ | ⟨_, _, e⟩ <;> rw [e] <;> simp

theorem tcpBound_rstep {n : NetSt} {name node : String} {s : TcpSock} {ep1 : Ep} (att : List String)
    (hs : n.tcp? name = some s) (ho : s.isOpen = true) (hb : s.bound.addr = "0.0.0.0")
    (hip : ep1.addr ∈ n.cfg.ipsOf node) :
    RStepT true n att (n.tcpBound name s ep1).1 att
    ∧ bumped n.reg.nextPort (n.tcpBound name s ep1).1.reg.nextPort := by
  have hv : (n.rvT att).v name = some (true, s.bound, s.fwd) := ho ▸ tv_some_of_tcp? hs
  have op := fun (_ : n.cfg.WF) (hr : (n.rvT att).Ok n.uf) =>
    ROp.bind (c := n.cfg) (st := n.uf) (node := node) hv (hr.unbound hv hb) hip
  have hbm := simBind_bumped n.reg.tcp n.reg.nextPort name ep1
  unfold NetSt.tcpBound
  rcases hsb : simBind n.reg.tcp n.reg.nextPort name ep1 with ⟨tbl, np, r⟩
  rw [hsb] at hbm
  cases r with
  | error _ => exact ⟨.of_rv ⟨(RV.bind_error (r := n.rvT att) hsb).symm, ⟨rfl, rfl, rfl⟩⟩ nofun op, hbm⟩
  | ok ep2 =>
    refine ⟨.of_rv ⟨?_, ⟨rfl, rfl, rfl⟩⟩ nofun op, hbm⟩
    rw [RV.bind_ok (r := n.rvT att) hsb, hv]
    exact RV.ext rfl (by show (NetSt.setTcp _ _ _).tv = _; rw [tv_setTcp, ← ho]; rfl) rfl rfl rfl rfl

theorem tcpBind_rstep (n : NetSt) (name : String) (ep : Ep) (att : List String) :
    RStepT true n att (n.tcpBind name ep).1 att ∧ bumped n.reg.nextPort (n.tcpBind name ep).1.reg.nextPort := by
  rcases tcpBind_cases n name ep with ⟨e, -, he⟩ | ⟨s, ep1, hpre⟩
  · rw [he]; exact ⟨.refl n att, .refl _⟩
  · rw [tcpBind_pre n name ep s ep1 hpre]
    obtain ⟨h1, h2, -, h4, h5⟩ := hpre
    exact tcpBound_rstep att h1 h2 (Ep.addr_of_isDefault h4) (ioResolve_ok _ _ _ h5).2

/-- what the move constructor leaves in the moved-from object -/
def TcpSock.movedFrom (s : TcpSock) : TcpSock :=
  { node := s.node, isV4 := s.isV4, mss := s.mss, cwnd := s.cwnd, inFlight := s.inFlight,
    nextOut := s.nextOut, nextIn := s.nextIn, lastDrop := s.lastDrop, recvNull := s.recvNull }

theorem tcpMove_some (n : NetSt) (src dst : String) (s : TcpSock) (h : n.tcp? src = some s) :
    n.tcpMove src dst =
      (({ n with reg := { n.reg with tcp := if s.bound.isDefault then n.reg.tcp else rebind n.reg.tcp s.bound src dst },
                 fwds := match s.fwd with | some f => (n.setFwd f (some dst)).fwds | none => n.fwds }).setTcp dst s).setTcp
        src s.movedFrom := by
  unfold NetSt.tcpMove
  simp only [h]
  cases s.fwd <;> cases s.bound.isDefault <;> rfl

theorem tcpMove_tcp? (n : NetSt) (src dst x : String) (s : TcpSock) (h : n.tcp? src = some s) :
    (n.tcpMove src dst).tcp? x = if x = src then some s.movedFrom else if x = dst then some s else n.tcp? x := by
  rw [tcpMove_some n src dst s h, tcp?_setTcp, tcp?_setTcp]; rfl

theorem tcpMove_rv (n : NetSt) (src dst : String) (s : TcpSock) (att : List String) (h : n.tcp? src = some s) :
    (n.tcpMove src dst).rvT (att.map fun x => if x = src then dst else x) = (n.rvT att).move src dst s.view
    ∧ UdpUntouched n (n.tcpMove src dst) := by
  have he := tcpMove_some n src dst s h
  have hf := fwdTarget_setFwdOpt (n := n) (n' := n.tcpMove src dst) (fo := s.fwd) (t := some dst) (by rw [he]; rfl)
  refine ⟨RV.ext ?_ ?_ rfl (funext hf.2) hf.1 ?_, by rw [he]; exact ⟨rfl, rfl, rfl⟩⟩ <;> rw [he]
  · rfl
  · show (NetSt.setTcp _ _ _).tv = _; rw [tv_setTcp, tv_setTcp]; rfl
  · rfl

theorem tcpMove_rstep {b : Bool} (n : NetSt) (src dst : String) (s : TcpSock) (att : List String)
    (h : n.tcp? src = some s) (hf : n.fresh dst = true) :
    RStepT b n att (n.tcpMove src dst) (att.map fun x => if x = src then dst else x) :=
  .of_rv (tcpMove_rv n src dst s att h) (fun _ => rfl) fun _ _ =>
    .move (tv_some_of_tcp? h) (tv_none_of_tcp? ((fresh_iff n dst).mp hf).2)
      (by simp [NetSt.uf, ((fresh_iff n dst).mp hf).1])

theorem accListen_frame (n : NetSt) (name : String) (qs : Int) : TFrame n (n.accListen name qs).1 := by
  cases h : n.tcp? name with
  | none => unfold NetSt.accListen; rw [h]; exact TFrame.refl n
  | some s =>
    rcases accListen_cases h qs with e | ⟨a, -, -, -, e⟩ <;> rw [e]
    · exact TFrame.refl n
    · exact TFrame.setTcp n name s _ h rfl

/-- `acceptor::close(ec)`: to the registry, `close` -/
theorem accClose_rv (n : NetSt) (now : Int) (name : String) (att : List String) :
    (n.accClose now name).1.rvT (att.filter (· != name)) = (n.rvT att).close name
    ∧ UdpUntouched n (n.accClose now name).1 := by
  cases h : n.tcp? name with
  | none =>
    have e : n.accClose now name = (n, []) := by unfold NetSt.accClose; rw [h]
    rw [e, RV.close_none (tv_none_of_tcp? h)]; exact ⟨rfl, .refl n⟩
  | some s => obtain ⟨cs, -, e⟩ := accClose_exact n now name s h; rw [e]; exact rv_released cs att h rfl

theorem accClose_rstep {b : Bool} (n : NetSt) (now : Int) (name : String) (att : List String) :
    RStepT b n att (n.accClose now name).1 (att.filter (· != name)) :=
  .of_rv (accClose_rv n now name att) (fun _ => rfl) fun _ _ => .close name

theorem tcpDestroy_rv (n : NetSt) (now : Int) (name : String) (att : List String) :
    (n.tcpDestroy now name).1.rvT (att.filter (· != name)) = ((n.rvT att).close name).set name none
    ∧ UdpUntouched n (n.tcpDestroy now name).1 := by
  have key : ∀ m : NetSt, m.rvT (att.filter (· != name)) = (n.rvT att).close name ∧ UdpUntouched n m →
      ({ m with tcps := m.tcps.filter (fun e => e.1 != name) } : NetSt).rvT (att.filter (· != name))
        = ((n.rvT att).close name).set name none
      ∧ UdpUntouched n { m with tcps := m.tcps.filter (fun e => e.1 != name) } := by
    intro m hm
    refine ⟨?_, ⟨hm.2.udps, hm.2.regU, hm.2.cfg⟩⟩
    rw [← hm.1]
    refine RV.ext rfl (funext fun x => ?_) rfl rfl rfl rfl
    show ((m.tcps.filter (fun e => e.1 != name)).lookup x).map TcpSock.view = setS m.tv name none x
    rw [lookup_filter_ne]; unfold setS; split <;> rfl
  unfold NetSt.tcpDestroy
  cases h : n.tcp? name with
  | none =>
    rw [RV.close_none (tv_none_of_tcp? h)]
    exact ⟨RV.ext rfl (setS_eq_self (tv_none_of_tcp? h)).symm rfl rfl rfl rfl, .refl n⟩
  | some t =>
    dsimp only
    split
    · exact key _ (accClose_rv n now name att)
    · have f := TFrame.setTcp n name t { t with chan := none } h rfl
      have := tcpClose_rv (n.setTcp name { t with chan := none }) now name att
      rw [f.rvT] at this
      exact key _ ⟨this.1, f.same.trans this.2⟩

theorem tcpDestroy_rstep {b : Bool} (n : NetSt) (now : Int) (name : String) (att : List String) :
    RStepT b n att (n.tcpDestroy now name).1 (att.filter (· != name)) :=
  .of_rv (tcpDestroy_rv n now name att) (fun _ => rfl) fun _ _ =>
    (ROp.close name).trans (.idle (RV.close_idle _ name) (.inl rfl))

theorem tcpOpen_tv_self (n : NetSt) (now : Int) (name : String) (v4 : Bool) (s : TcpSock)
    (hs : n.tcp? name = some s) :
    (n.tcpOpen now name v4).1.tv name = some (true, ({} : Ep), some n.fwds.length) :=
  (congrFun (congrArg RV.v (tcpOpen_rv n now name v4 []).1) name).trans (RV.reopened_v (tv_some_of_tcp? hs))

/-- the second stage of the attach, after the `open` (`tcpAttach_exact` is both in one term) -/
def NetSt.tcpAttach2 (m : NetSt) (peer : String) (bindEp : Ep) (cid : Nat) : NetSt :=
  match m.tcp? peer, m.chan? cid with
  | some p, some ch =>
    let mss := m.cfg.pathMtu bindEp.addr ch.ep0.addr
    let m := m.setTcp peer { p with bound := bindEp, chan := some cid, mss := mss, cwnd := mss * 2 }
    let h1 := match p.fwd with
      | some f => ch.hops1.dropLast ++ [fwdHop f]
      | none => ch.hops1
    m.setChan cid { ch with hops1 := h1 }
  | _, _ => m

theorem tcpAttach_nf (n : NetSt) (now : Int) (peer : String) (bindEp : Ep) (cid : Nat) :
    (n.tcpAttach now peer bindEp cid).1 = match n.tcp? peer with
      | none => n
      | some p0 => (n.tcpOpen now peer p0.isV4).1.tcpAttach2 peer bindEp cid := by
  unfold NetSt.tcpAttach NetSt.tcpAttach2
  cases n.tcp? peer with
  | none => rfl
  | some p0 =>
    dsimp only
    generalize n.tcpOpen now peer p0.isV4 = r
    obtain ⟨m, e⟩ := r
    dsimp only
    cases m.tcp? peer <;> cases m.chan? cid <;> rfl

theorem tcpAttach2_spec (m : NetSt) (peer : String) (ep : Ep) (cid k : Nat) (att : List String)
    (hmv : m.tv peer = some (true, ({} : Ep), some k)) (hnd : ep.isDefault = false) :
    UdpUntouched m (m.tcpAttach2 peer ep cid) ∧ (m.tcpAttach2 peer ep cid).reg.nextPort = m.reg.nextPort
    ∧ ∀ c st, ep.addr ≠ "0.0.0.0" → ROp c st (m.rvT att) ((m.tcpAttach2 peer ep cid).rvT
        ((if (((m.tcpAttach2 peer ep cid).tcp? peer).map (fun p => !p.bound.isDefault)).getD false
          then [peer] else []) ++ att)) := by
  unfold NetSt.tcpAttach2
  cases hm : m.tcp? peer with
  | none => rw [tv_none_of_tcp? hm] at hmv; cases hmv
  | some p =>
    have hpv := (tv_some_of_tcp? hm).symm.trans hmv
    have hpb : p.bound = {} := congrArg (·.2.1) (Option.some.inj hpv)
    cases hc : m.chan? cid with
    | none =>
      dsimp only; rw [hm]
      refine ⟨.refl m, rfl, fun _ _ _ => ?_⟩
      simp only [Option.map_some, Option.getD_some, hpb, Ep.default_isDefault]
      exact .refl
    | some ch =>
      dsimp only
      refine ⟨⟨rfl, rfl, rfl⟩, rfl, fun c st ha => ?_⟩
      refine (ROp.attach (r := m.rvT att) hmv Ep.default_isDefault hnd ha).cast (RV.ext rfl ?_ ?_ rfl rfl rfl)
      · show (NetSt.setTcp _ _ _).tv = setS m.tv peer ((m.tv peer).map _)
        rw [tv_setTcp, hmv, ← hpv]; rfl
      · show (if ((NetSt.setTcp _ _ _).tcp? peer |>.map _).getD false = true then [peer] else []) ++ att = peer :: att
        simp [hnd]

theorem tcpAttach_rstep {b : Bool} (n : NetSt) (now : Int) (peer : String) (ep : Ep) (cid : Nat)
    (att : List String) (hnd : ep.isDefault = false) (haddr : (n.rvT att).Ok n.uf → ep.addr ≠ "0.0.0.0") :
    RStepT b n att (n.tcpAttach now peer ep cid).1
      ((if (((n.tcpAttach now peer ep cid).1.tcp? peer).map (fun p => !p.bound.isDefault)).getD false
        then [peer] else []) ++ att.filter (· != peer)) := by
  rw [tcpAttach_nf]
  cases hp : n.tcp? peer with
  | none =>
    dsimp only; rw [hp]
    exact (RStepT.refl n att).att_eq fun hr => hr.not_att (x := peer) (by simp [show (n.rvT att).v peer = none from tv_none_of_tcp? hp])
  | some p0 =>
    dsimp only
    have h1 := tcpOpen_rstep (b := b) n now peer p0.isV4 att
    obtain ⟨h2, h3, h4⟩ := tcpAttach2_spec _ peer ep cid _ (att.filter (· != peer)) (tcpOpen_tv_self n now peer p0.isV4 p0 hp) hnd
    exact ⟨h1.same.trans h2, fun hb => h3.trans (h1.port hb), fun hc hr => (h1.op hc hr).trans (h4 _ _ (haddr hr))⟩

theorem tcpOpen_np (n : NetSt) (now : Int) (name : String) (v4 : Bool) :
    (n.tcpOpen now name v4).1.reg.nextPort = n.reg.nextPort := (tcpOpen_rstep (b := false) n now name v4 []).port rfl

theorem tcpAttach_np (n : NetSt) (now : Int) (peer : String) (bindEp : Ep) (cid : Nat) :
    (n.tcpAttach now peer bindEp cid).1.reg.nextPort = n.reg.nextPort := by
  cases hp : n.tcp? peer with
  | none => rw [tcpAttach_none n now peer bindEp cid hp]
  | some p0 => obtain ⟨cs, -, e⟩ := tcpAttach_exact n now peer bindEp cid p0 hp; rw [e]; cases cs[cid]? <;> rfl

theorem tcpConnectFinish_frame (n : NetSt) (name : String) (target : Ep) (h : Nat) (e0 : List NEff) :
    TFrame n (n.tcpConnectFinish name target h e0).1 := by
  cases hs : n.tcp? name with
  | none => unfold NetSt.tcpConnectFinish; rw [hs]; exact TFrame.refl n
  | some s =>
    rcases tcpConnectFinish_rows n name target h e0 s hs with ⟨-, e⟩ | ⟨-, e⟩ | ⟨_, _, -, -, -, e⟩ <;> rw [e]
    · exact TFrame.refl n
    · exact TFrame.setTcp n name s _ hs rfl
    · exact (TFrame.chans n _).trans (TFrame.setTcp _ name s _ hs rfl)

theorem tcpConnectBind_rstep (m : NetSt) (name : String) (s : TcpSock) (target : Ep) (att : List String)
    (hs : m.tcp? name = some s) (ho : s.isOpen = true) :
    RStepT true m att (m.tcpConnectBind name target s).1 att
    ∧ bumped m.reg.nextPort (m.tcpConnectBind name target s).1.reg.nextPort := by
  rw [tcpConnectBind_eq]
  split
  · rename_i haddr
    cases hr : ioResolve (m.cfg.ipsOf s.node) { addr := if target.isV4 = true then "0.0.0.0" else "::", port := 0 } with
    | error e => exact ⟨.refl m att, .refl _⟩
    | ok ep1 => exact tcpBound_rstep att hs ho (by simpa using haddr) (ioResolve_ok _ _ _ hr).2
  · exact ⟨.refl m att, .refl _⟩

/-- `async_connect`: a closed socket is opened first (it cannot be an accepted one), then the
    implicit bind, then the connection is set up (invisible to the registry) -/
theorem tcpConnect_rstep (n : NetSt) (now : Int) (name : String) (target : Ep) (hh : Nat) (att : List String) :
    RStepT true n att (n.tcpConnect now name target hh).1 att
    ∧ bumped n.reg.nextPort (n.tcpConnect now name target hh).1.reg.nextPort := by
  cases hs0 : n.tcp? name with
  | none => rw [tcpConnect_none n now name target hh hs0]; exact ⟨.refl n att, .refl _⟩
  | some s0 =>
    rw [tcpConnect_eq n now name target hh s0 hs0]
    have hst : RStepT true n att (n.tcpConnectOpen now name target s0).1 att
        ∧ (n.tcpConnectOpen now name target s0).1.reg.nextPort = n.reg.nextPort
        ∧ ∀ s, (n.tcpConnectOpen now name target s0).1.tcp? name = some s → s.isOpen = true := by
      unfold NetSt.tcpConnectOpen
      cases ho : s0.isOpen with
      | true => exact ⟨.refl n att, rfl, fun s hs => by rw [show n.tcp? name = some s from hs] at hs0; cases hs0; exact ho⟩
      | false =>
        refine ⟨(tcpOpen_rstep n now name target.isV4 att).att_eq fun hr => ?_, tcpOpen_np _ _ _ _, fun s hs => ?_⟩
        · exact (hr.not_att (x := name) fun ep f e => by
            rw [show (n.rvT att).v name = _ from tv_some_of_tcp? hs0, ho] at e; cases e).symm
        · have := (tv_some_of_tcp? hs).symm.trans (tcpOpen_tv_self n now name target.isV4 s0 hs0)
          exact congrArg (·.1) (Option.some.inj this)
    generalize n.tcpConnectOpen now name target s0 = r0 at hst ⊢
    obtain ⟨h1, h2, h3⟩ := hst
    cases hs : r0.1.tcp? name with
    | none => exact ⟨h1, by rw [h2]; exact .refl _⟩
    | some s =>
      have hb := tcpConnectBind_rstep r0.1 name s target att hs (h3 s hs)
      rw [h2] at hb
      dsimp only
      split
      · exact ⟨h1.trans hb.1, hb.2⟩
      · have hf := tcpConnectFinish_frame (r0.1.tcpConnectBind name target s).1 name target hh r0.2
        exact ⟨(h1.trans hb.1).trans (hf.step att), by rw [hf.reg]; exact hb.2⟩

theorem tcpNew_rstep {b : Bool} (n : NetSt) (name node : String) (isAcc : Bool) (att : List String)
    (hf : n.fresh name = true) : RStepT b n att (n.tcpNew name node isAcc) att :=
  .of_rv (r' := (n.rvT att).set name (some View.idle)) ⟨RV.ext rfl (tv_setTcp n name _) rfl rfl rfl rfl, ⟨rfl, rfl, rfl⟩⟩
    (fun _ => rfl) fun _ _ => .idle (.inl (tv_none_of_tcp? ((fresh_iff n name).mp hf).2))
      (.inr ⟨rfl, by unfold NetSt.uf; rw [((fresh_iff n name).mp hf).1]; rfl⟩)

end SimVerif
