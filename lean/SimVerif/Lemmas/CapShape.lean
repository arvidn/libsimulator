/-
  SimVerif.Lemmas.CapShape — the capture records of an effect list (`capsTcp` / `capsUdp`) and the
  block shape `CapBlocks` of the effect lists of the TCP functions: non-packet effects, packets
  forwarded directly (SYN, SYN-ACK, ACK, RST: never captured), and `send_packet` blocks (the
  capture record iff capturing, immediately followed by the packet it describes).
-/
import SimVerif.Lemmas.TcpBasic

namespace SimVerif

/-- one `pcap::log_tcp` call: time, source and destination endpoint, `p.byte_counter`, bytes -/
structure CapT where
  t : Int
  src : Ep
  dst : Ep
  seq : Nat
  payload : List UInt8
  deriving DecidableEq, Repr

/-- one `pcap::log_udp` call -/
structure CapU where
  t : Int
  src : Ep
  dst : Ep
  payload : List UInt8
  deriving DecidableEq, Repr

def capsTcp (e : List NEff) : List CapT :=
  e.filterMap (fun x => match x with | .pcapTcp t s d q pl => some ⟨t, s, d, q, pl⟩ | _ => none)

def capsUdp (e : List NEff) : List CapU :=
  e.filterMap (fun x => match x with | .pcapUdp t s d pl => some ⟨t, s, d, pl⟩ | _ => none)

@[simp] theorem capsTcp_nil : capsTcp [] = [] := rfl
@[simp] theorem capsUdp_nil : capsUdp [] = [] := rfl
theorem capsTcp_append (a b : List NEff) : capsTcp (a ++ b) = capsTcp a ++ capsTcp b :=
  List.filterMap_append
theorem capsUdp_append (a b : List NEff) : capsUdp (a ++ b) = capsUdp a ++ capsUdp b :=
  List.filterMap_append

/-- effect lists made of completions / control effects only: no capture record, no packet -/
def Quiet (e : List NEff) : Prop := capsTcp e = [] ∧ capsUdp e = [] ∧ s5_fwdsOf e = []

theorem Quiet.nil : Quiet [] := ⟨rfl, rfl, rfl⟩
theorem Quiet.append {a b : List NEff} (ha : Quiet a) (hb : Quiet b) : Quiet (a ++ b) :=
  ⟨by rw [capsTcp_append, ha.1, hb.1]; rfl, by rw [capsUdp_append, ha.2.1, hb.2.1]; rfl,
   by rw [s5_fwdsOf_append, ha.2.2, hb.2.2]; rfl⟩

theorem capsTcp_sendEffs (pcap : Bool) (now : Int) (src dst : Ep) (seq : Nat) (p : Pkt) :
    capsTcp (sendEffs pcap now src dst seq p) = if pcap then [⟨now, src, dst, seq, p.payload⟩] else [] := by
  cases pcap <;> rfl
theorem capsUdp_sendEffs (pcap : Bool) (now : Int) (src dst : Ep) (seq : Nat) (p : Pkt) :
    capsUdp (sendEffs pcap now src dst seq p) = [] := by
  cases pcap <;> rfl

def NEff.plain : NEff → Bool
  | .forward _ => false
  | .pcapTcp .. => false
  | _ => true

/-- a packet of one of the `forward_packet` call sites of the TCP code -/
def directPkt (p : Pkt) : Prop :=
  p.ty = .syn ∨ p.ty = .synack ∨ p.ty = .ack ∨ (p.ty = .err ∧ p.ec = .reset)

inductive CapBlocks (pcap : Bool) (now : Int) : List NEff → Prop
  | nil : CapBlocks pcap now []
  | plain (e : NEff) (r : List NEff) : e.plain = true → CapBlocks pcap now r → CapBlocks pcap now (e :: r)
  | direct (p : Pkt) (r : List NEff) : directPkt p → CapBlocks pcap now r → CapBlocks pcap now (.forward p :: r)
  | sent (src dst : Ep) (seq : Nat) (p : Pkt) (r : List NEff) :
      CapBlocks pcap now r → CapBlocks pcap now (sendEffs pcap now src dst seq p ++ r)

theorem CapBlocks.append {pcap : Bool} {now : Int} {a b : List NEff}
    (ha : CapBlocks pcap now a) (hb : CapBlocks pcap now b) : CapBlocks pcap now (a ++ b) := by
  induction ha with
  | nil => exact hb
  | plain e r he _ ih => exact CapBlocks.plain e _ he ih
  | direct p r hp _ ih => exact CapBlocks.direct p _ hp ih
  | sent src dst seq p r _ ih => rw [List.append_assoc]; exact CapBlocks.sent src dst seq p _ ih

theorem CapBlocks.of_plain {pcap : Bool} {now : Int} {l : List NEff} (h : ∀ e ∈ l, e.plain = true) :
    CapBlocks pcap now l := by
  induction l with
  | nil => exact CapBlocks.nil
  | cons e r ih =>
    exact CapBlocks.plain e r (h e (List.mem_cons_self ..)) (ih (fun x hx => h x (List.mem_cons_of_mem _ hx)))

theorem Quiet.capBlocks {pcap : Bool} {now : Int} {l : List NEff} (h : Quiet l) : CapBlocks pcap now l := by
  refine CapBlocks.of_plain ?_
  induction l with
  | nil => exact fun _ he => nomatch he
  | cons e r ih =>
    cases e with
    | forward p => exact absurd h.2.2 (List.cons_ne_nil _ _)
    | pcapTcp t s d q pl => exact absurd h.1 (List.cons_ne_nil _ _)
    | pcapUdp t s d pl => exact absurd h.2.1 (List.cons_ne_nil _ _)
    | _ => exact List.forall_mem_cons.2 ⟨rfl, ih h⟩

theorem CapBlocks.one_sent (pcap : Bool) (now : Int) (src dst : Ep) (seq : Nat) (p : Pkt) :
    CapBlocks pcap now (sendEffs pcap now src dst seq p) := by
  have := CapBlocks.sent (pcap := pcap) (now := now) src dst seq p [] CapBlocks.nil
  rwa [List.append_nil] at this

theorem CapBlocks.one_direct (pcap : Bool) (now : Int) (p : Pkt) (h : directPkt p) :
    CapBlocks pcap now [.forward p] := CapBlocks.direct p [] h CapBlocks.nil

/-- the shape of what a function emits whose `send_packet` calls all happen at time `now` (`some now`),
    under the capture switch `pc`; for a function that never reaches `send_packet` (`none`) the shape
    holds at every switch and time -/
def CapAt (pc : Bool) : Option Int → List NEff → Prop
  | some now, e => CapBlocks pc now e
  | none, e => ∀ pc now, CapBlocks pc now e

theorem CapAt.of_none {pc : Bool} {t : Option Int} {l : List NEff} (h : CapAt pc none l) : CapAt pc t l := by
  cases t with
  | none => exact h
  | some now => exact h pc now

theorem CapAt.append {pc : Bool} {t : Option Int} {a b : List NEff} (ha : CapAt pc t a) (hb : CapAt pc t b) :
    CapAt pc t (a ++ b) := by
  cases t with
  | none => exact fun pc now => (ha pc now).append (hb pc now)
  | some now => exact CapBlocks.append ha hb

theorem Quiet.capAt {pc : Bool} {t : Option Int} {l : List NEff} (h : Quiet l) : CapAt pc t l :=
  .of_none fun _ _ => h.capBlocks

/-- what the shape says about records: none when not capturing; when capturing, each record is
    immediately followed by a packet with the record's payload and sequence number -/
def RecThenPkt (pcap : Bool) (now : Int) : List NEff → Prop
  | [] => True
  | .pcapTcp t _ _ seq pl :: rest =>
    (match rest with
     | .forward p :: _ => pcap = true ∧ t = now ∧ seq = p.bc ∧ pl = p.payload
     | _ => False) ∧ RecThenPkt pcap now rest
  | _ :: rest => RecThenPkt pcap now rest

theorem CapBlocks.recThenPkt {pcap : Bool} {now : Int} {l : List NEff} (h : CapBlocks pcap now l) :
    RecThenPkt pcap now l := by
  induction h with
  | nil => trivial
  | plain e r he _ ih => cases e <;> first | exact ih | cases he
  | direct p r _ _ ih => exact ih
  | sent src dst seq p r _ ih =>
    cases pcap with
    | false => exact ih
    | true => exact ⟨⟨rfl, rfl, rfl, rfl⟩, ih⟩

/-- when capturing, a packet that is not immediately preceded by a record (`prev = false`) is a
    SYN / SYN-ACK / ACK / RST -/
def BarePkts (pcap : Bool) : Bool → List NEff → Prop
  | _, [] => True
  | _, .pcapTcp _ _ _ _ _ :: rest => BarePkts pcap true rest
  | prev, .forward p :: rest => (pcap = true → prev = false → directPkt p) ∧ BarePkts pcap false rest
  | _, _ :: rest => BarePkts pcap false rest

theorem CapBlocks.barePkts {pcap : Bool} {now : Int} {l : List NEff} (h : CapBlocks pcap now l) :
    BarePkts pcap false l := by
  induction h with
  | nil => trivial
  | plain e r he _ ih => cases e <;> first | exact ih | cases he
  | direct p r hp _ ih => exact ⟨fun _ _ => hp, ih⟩
  | sent src dst seq p r _ ih =>
    cases pcap with
    | false => exact ⟨fun h => (by cases h), ih⟩
    | true => exact ⟨fun _ h => (by cases h), ih⟩

theorem CapBlocks.no_record_when_off {now : Int} {l : List NEff} (h : CapBlocks false now l) : capsTcp l = [] := by
  induction h with
  | nil => rfl
  | plain e r he _ ih => cases e <;> first | exact ih | cases he
  | direct p r _ _ ih => exact ih
  | sent src dst seq p r _ ih => exact ih

theorem CapBlocks.records_le_packets {pcap : Bool} {now : Int} {l : List NEff} (h : CapBlocks pcap now l) :
    (capsTcp l).length ≤ (s5_fwdsOf l).length := by
  induction h with
  | nil => exact Nat.le_refl _
  | plain e r he _ ih => cases e <;> first | exact ih | cases he
  | direct p r _ _ ih => exact Nat.le_succ_of_le ih
  | sent src dst seq p r _ ih =>
    rw [capsTcp_append, s5_fwdsOf_append, capsTcp_sendEffs, s5_fwdsOf_sendEffs]
    cases pcap <;> simp <;> omega

end SimVerif
