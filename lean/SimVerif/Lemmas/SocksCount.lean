/-
  SimVerif.Lemmas.SocksCount — the command counters over all histories: the per-connection
  negotiation invariant (before / in / after the request's composed read) and the global
  counting argument.
-/
import SimVerif.Lemmas.SocksEff

namespace SimVerif.Socks

theorem writeFrom_fr (c : Conn) (cnt : List Int) (s : Sock) (len : Int) (k : Kind) (hk : k ≠ .hs3) :
    Fr c cnt (writeFrom c cnt s len k) := by
  unfold writeFrom; split
  · exact fun _ _ _ h => nomatch h
  · intro _ _ _ h; cases h
    exact ⟨rfl, rfl, by cases k <;> first | rfl | exact absurd rfl hk⟩

theorem reqAct_cnt {p : Params} {c c' : Conn} {cnt cnt' : List Int} {H : Bytes} {acts : List Act}
    (h : reqAct p c cnt H = .ok (c', cnt', acts)) : cnt' = cnt := by
  revert h
  refine reqAct_ind (P := fun o => o = .ok (c', cnt', acts) → cnt' = cnt) H ?_ ?_ ?_ ?_ (fun h => (onRequestDomainName_out h).2.1)
    (fun _ _ _ h => (exactRead_out h).2.1)
  all_goals intros; rename_i h; cases h; rfl

theorem req1_counts (c : Conn) (cnt : List Int) (ec : Ec) (n : Nat) (c' : Conn) (cnt' : List Int) (a : List Act)
    (hc : cnt.length = 3) (h : onRequest1 {} c cnt ec n = .ok (c', cnt', a)) :
    cnt' = (if ec = .ok ∧ n = expectedLen c.ver then
              (let k := sx (c.outBuf.byte 1)
               if 1 ≤ k ∧ k ≤ 3 then cnt.set (k - 1).toNat (cnt.getD (k - 1).toNat 0 + 1) else cnt)
            else cnt) := by
  rw [onRequest1_eq] at h
  split at h
  · rename_i hb
    cases h
    exact (if_neg fun a => hb.elim (· a.1) (· a.2)).symm
  · rename_i hb
    split at h
    · cases h
    · rename_i H hr
      obtain rfl := outPrefix_of_readN0 hr
      rw [outPrefix_getD c _ 1 (by have := expectedLen_ge c.ver; omega), if_pos rfl, guard_bump cnt hc] at h
      exact (reqAct_cnt h).trans (if_pos ⟨Classical.not_not.1 fun a => hb (.inl a), Classical.not_not.1 fun a => hb (.inr a)⟩).symm

theorem req_append_other {hist : List (POp × Res)} {op : POp} {r : Res} (h : op.isReq = false) :
    reqBytes (hist ++ [(op, r)]) = reqBytes hist ∧ reqOk (hist ++ [(op, r)]) = reqOk hist := by
  unfold reqBytes reqOk
  rw [List.flatMap_append, List.flatMap_singleton, List.all_append, List.all_cons, List.all_nil]
  cases op <;> first | exact ⟨List.append_nil _, Bool.and_true _⟩ |
    (rename_i k; cases k <;> first | exact ⟨List.append_nil _, Bool.and_true _⟩ | cases h)

theorem req_append_req (hist : List (POp × Res)) (a b g : Nat) (ec : Ec) (d : Bytes) :
    reqBytes (hist ++ [(.exact a b g .req1, .rd ec d)]) = reqBytes hist ++ d ∧
    reqOk (hist ++ [(.exact a b g .req1, .rd ec d)]) = (reqOk hist && (ec == .ok)) := by
  unfold reqBytes reqOk
  rw [List.flatMap_append, List.all_append]
  simp

theorem command?_congr {cs cs' : CS} (hv : cs'.c.ver = cs.c.ver) (hb : reqBytes cs'.hist = reqBytes cs.hist)
    (ho : reqOk cs'.hist = reqOk cs.hist) : cs'.command? = cs.command? := by
  unfold CS.command?; rw [hv, hb, ho]

theorem addOps_nil_closeActs : addOps [] closeActs = [] := by
  simp [addOps, closeActs, Act.op?]

theorem addOps_nil_single (a : Act) (op : POp) (h : a.op? = some op) : addOps [] [a] = [{ op := op }] := by
  simp [addOps, h]
  cases op.rdSock <;> rfl

theorem addOps_late (pend : List PEnt) (acts : List Act) (hp : ∀ e ∈ pend, e.op.late = true) (ha : lateActs acts = true) :
    ∀ e ∈ addOps pend acts, e.op.late = true :=
  addOps_all (Q := fun op => op.late = true) acts pend hp fun a h op hop => by
    have := List.all_eq_true.1 ha a h
    rw [hop] at this
    exact this

theorem valid_exact {off need got : Nat} {k : Kind} {r : Res} (h : valid (.exact off need got k) r = true) :
    ∃ ec data, r = .rd ec data ∧ data.length ≤ need - got := by
  cases r <;> simp [valid] at h
  exact ⟨_, _, rfl, by omega⟩

theorem valid_write {s : Sock} {len : Nat} {k : Kind} {r : Res} (h : valid (.write s len k) r = true) :
    ∃ ec n, r = .wr ec n := by
  cases r <;> simp [valid] at h
  exact ⟨_, _, rfl⟩

theorem outPrefix_store (c : Conn) (got : Nat) (data : Bytes) :
    ({ c with outBuf := c.outBuf.store got data } : Conn).outPrefix (got + data.length) = c.outPrefix got ++ data := by
  unfold Conn.outPrefix
  apply List.ext_getElem
  · simp
  · intro i h1 h2
    simp only [List.length_map, List.length_range] at h1
    simp only [List.getElem_map, List.getElem_range, Buf.store_byte, List.getElem_append, List.length_map, List.length_range]
    by_cases hi : i < got
    · have : ¬ (got ≤ i ∧ i < got + data.length) := by omega
      simp [hi, this]
    · have : got ≤ i ∧ i < got + data.length := by omega
      simp [hi, this]
      rw [List.getElem?_eq_getElem (by omega)]; rfl

theorem POp.pre_cases {op : POp} (h : op.pre = true) :
    (∃ off need got k, op = .exact off need got k ∧ (k = .hs1 ∨ k = .hs2)) ∨ ∃ s len, op = .write s len .hs3 := by
  cases op with
  | exact off need got k => exact .inl ⟨_, _, _, k, rfl, by cases k <;> first | exact .inl rfl | exact .inr rfl | cases h⟩
  | write s len k => cases k <;> first | exact .inr ⟨_, _, rfl⟩ | cases h
  | _ => cases h

theorem POp.isReq_of_pre {op : POp} (h : op.pre = true) : op.isReq = false := by
  rcases POp.pre_cases h with ⟨_, _, _, _, rfl, rfl | rfl⟩ | ⟨_, _, rfl⟩ <;> rfl

/-- before the request: at most one operation, of the greeting / method negotiation (SOCKS5 only) -/
structure CPre (cs : CS) : Prop where
  v5 : cs.c.ver ≠ 4
  one : cs.pend.length ≤ 1
  pre : ∀ e ∈ cs.pend, e.op.pre = true
  noReq : reqBytes cs.hist = []
  ok : reqOk cs.hist = true

/-- the request's composed read is in progress: `got` bytes so far, all stored at the start of `m_out_buffer` -/
def CReq (cs : CS) : Prop :=
  ∃ got ab, cs.pend = [{ op := .exact 0 (expectedLen cs.c.ver) got .req1, aborted := ab }] ∧ reqOk cs.hist = true
    ∧ (reqBytes cs.hist).length = got ∧ got < expectedLen cs.c.ver ∧ cs.c.outPrefix got = reqBytes cs.hist

/-- after the request: no operation of the negotiation is pending any more -/
def CPost (cs : CS) : Prop := ∀ e ∈ cs.pend, e.op.late = true

def CInv (cs : CS) : Prop := CPre cs ∨ CReq cs ∨ CPost cs

/-- what a step does to the ghost command and to the counters -/
def CountEff (cs cs' : CS) (cnt cnt' : List Int) : Prop :=
  (cs'.command? = cs.command? ∧ cnt' = cnt) ∨ (cs.command? = none ∧ ∃ k, cs'.command? = some k ∧ cnt' = cntAfter cnt k)

theorem singleton_of_getElem? {α : Type} {l : List α} {i : Nat} {e : α} (hl : l.length ≤ 1) (he : l[i]? = some e) : l = [e] ∧ i = 0 := by
  match l, i with
  | [], _ => simp at he
  | [x], 0 => simp at he; simp [he]
  | [x], i + 1 => simp at he
  | _ :: _ :: _, _ => simp at hl

theorem CountEff.other {cs : CS} {i : Nat} {e : PEnt} {r : Res} {c : Conn} {acts : List Act} {cnt : List Int}
    (hnr : e.op.isReq = false) (hv : c.ver = cs.c.ver) : CountEff cs (cs.next i e r c acts) cnt cnt :=
  .inl ⟨command?_congr hv ((req_append_other hnr).1) ((req_append_other hnr).2), rfl⟩

theorem command?_none_of_short (cs : CS) (h : (reqBytes cs.hist).length < expectedLen cs.c.ver) : cs.command? = none := by
  unfold CS.command?
  have : ¬ (reqBytes cs.hist).length = expectedLen cs.c.ver := by omega
  simp [this]

def CountOk (cs : CS) (i : Nat) (e : PEnt) (r : Res) (c : Conn) (acts : List Act) (cnt cnt' : List Int) : Prop :=
  CInv (cs.next i e r c acts) ∧ CountEff cs (cs.next i e r c acts) cnt cnt'

theorem CPre.stays {cs : CS} {e : PEnt} {r : Res} {c : Conn} {acts : List Act} {cnt : List Int} (hI : CPre cs) (hp : cs.pend = [e])
    (hnr : e.op.isReq = false) (hv : c.ver = cs.c.ver)
    (ha : acts = closeActs ∨ ∃ a op, acts = [a] ∧ a.op? = some op ∧ op.pre = true) :
    CountOk cs 0 e r c acts cnt cnt := by
  have hpend : (cs.next 0 e r c acts).pend = addOps [] acts := by
    show addOps (cs.pend.eraseIdx 0) acts = _
    rw [hp]; rfl
  refine ⟨.inl ⟨hv ▸ hI.v5, ?_, ?_, ((req_append_other hnr).1).trans hI.noReq, ((req_append_other hnr).2).trans hI.ok⟩,
    CountEff.other hnr hv⟩ <;> rw [hpend] <;> rcases ha with rfl | ⟨a, op, rfl, hop, hpre⟩
  · simp [addOps_nil_closeActs]
  · simp [addOps_nil_single a op hop]
  · simp [addOps_nil_closeActs]
  · simp [addOps_nil_single a op hop, hpre]

section step
variable {cs : CS} {cnt : List Int} {i : Nat} {e : PEnt} {r : Res} {c : Conn} {cnt' : List Int} {acts : List Act}
  (he : cs.pend[i]? = some e) (hok : e.ok r = true) (h : complete {} cs.c cnt e.op r = .ok (c, cnt', acts))
include he hok h

omit hok h in
theorem CPost.step (hI : CPost cs) (hE : Eff cs.c.ver cnt e.op r c cnt' acts) : CountOk cs i e r c acts cnt cnt' := by
  have hl := hI e (List.mem_of_getElem? he)
  obtain ⟨hcnt, hla⟩ := hE.late hl
  have hnr : e.op.isReq = false := by simp [POp.late] at hl; exact hl.2
  exact ⟨.inr (.inr (addOps_late _ _ (fun e' he' => hI e' (List.mem_of_mem_eraseIdx he')) hla)), hcnt ▸ CountEff.other hnr hE.ver⟩

theorem CPre.step (hI : CPre cs) : CountOk cs i e r c acts cnt cnt' := by
  obtain ⟨hp, rfl⟩ := singleton_of_getElem? hI.one he
  have hpre : e.op.pre = true := hI.pre e (by rw [hp]; simp)
  have hnr := POp.isReq_of_pre hpre
  have hval := PEnt.ok_valid hok
  rcases POp.pre_cases hpre with ⟨off, need, got, k, hop, hk⟩ | ⟨sk, len, hop⟩ <;> rw [hop] at hval h <;>
    unfold complete at h <;> dsimp only at h
  · obtain ⟨ec, data, rfl, _⟩ := valid_exact hval
    rcases onExactChunk_cases h with ⟨_, rfl, rfl, rfl⟩ | ⟨_, hd⟩
    · exact CPre.stays hI hp hnr rfl (.inr ⟨_, _, rfl, rfl, by rcases hk with rfl | rfl <;> rfl⟩)
    · rcases hk with rfl | rfl
      · obtain ⟨hv, rfl, ha⟩ := onHandshake1_out hd
        exact CPre.stays hI hp hnr hv (ha.imp_right fun ⟨_, _, ha⟩ => ⟨_, _, ha, rfl, rfl⟩)
      · obtain ⟨hv, rfl, ha⟩ := onHandshake2_out hd
        exact CPre.stays hI hp hnr hv (ha.imp_right fun ⟨_, _, ha⟩ => ⟨_, _, ha, rfl, rfl⟩)
  · obtain ⟨ec, n, rfl⟩ := valid_write hval
    obtain ⟨rfl, rfl, ha⟩ := onHandshake3_out h
    rcases ha with ha | ha
    · exact CPre.stays hI hp hnr rfl (.inl ha)
    · refine ⟨.inr (.inl ?_), CountEff.other hnr rfl⟩
      have hex : expectedLen cs.c.ver = 10 := by simp [expectedLen, hI.v5]
      unfold CReq CS.next
      dsimp only
      rw [hp, ha, (req_append_other hnr).1, (req_append_other hnr).2, hI.noReq, hex]
      exact ⟨0, false, rfl, hI.ok, rfl, by omega, rfl⟩

theorem CReq.step (hI : CReq cs) (hc : cnt.length = 3) (hs : cs.c.Sized) : CountOk cs i e r c acts cnt cnt' := by
  obtain ⟨got, ab, hp, ho, hlen, hlt, hpre⟩ := hI
  obtain ⟨hp', rfl⟩ := singleton_of_getElem? (by rw [hp]; simp) he
  have hee : e = { op := .exact 0 (expectedLen cs.c.ver) got .req1, aborted := ab } := by
    rw [hp] at hp'; simpa using hp'.symm
  have hop : e.op = .exact 0 (expectedLen cs.c.ver) got .req1 := by rw [hee]
  have hval := PEnt.ok_valid hok
  rw [hop] at hval h
  obtain ⟨ec, data, rfl, hdl⟩ := valid_exact hval
  have hnone : cs.command? = none := command?_none_of_short cs (by omega)
  unfold complete at h
  dsimp only at h
  have hB : reqBytes (cs.hist ++ [(e.op, Res.rd ec data)]) = reqBytes cs.hist ++ data := by
    rw [hop]; exact (req_append_req _ _ _ _ _ _).1
  have hO : reqOk (cs.hist ++ [(e.op, Res.rd ec data)]) = (reqOk cs.hist && (ec == .ok)) := by
    rw [hop]; exact (req_append_req _ _ _ _ _ _).2
  rcases onExactChunk_cases h with ⟨hnd, rfl, rfl, rfl⟩ | ⟨hdone, hd⟩
  · -- the read goes on
    have hec : ec = .ok := Classical.byContradiction (fun a => hnd (.inl a))
    have hlt' : got + data.length < expectedLen cs.c.ver := by
      have : ¬ got + data.length ≥ expectedLen cs.c.ver := fun a => hnd (.inr (.inr a))
      omega
    refine ⟨.inr (.inl ?_), .inl ⟨hnone ▸ command?_none_of_short _ ?_, rfl⟩⟩
    · unfold CReq CS.next
      dsimp only
      rw [hp, hB, hO, ho, hec, List.length_append, hlen, ← hpre, Nat.zero_add]
      exact ⟨got + data.length, false, rfl, rfl, rfl, hlt', outPrefix_store cs.c got data⟩
    · show (reqBytes (cs.hist ++ [_])).length < _
      rw [hB, List.length_append, hlen]; exact hlt'
  · -- the read is over: on_request1
    obtain ⟨_, _, e1, -, hv, ht⟩ := onRequest1_result (hs.setOut (cs.c.outBuf.store (0 + got) data) hs.out) hc ec (got + data.length)
    cases e1.symm.trans hd
    constructor
    · right; right
      show ∀ e' ∈ addOps (cs.pend.eraseIdx 0) acts, e'.op.late = true
      rw [hp]
      exact addOps_late _ _ (by simp) (tame_spec ht).2.2.1
    · have hcmd : (cs.next 0 e (Res.rd ec data) c acts).command?
          = if ec = .ok ∧ got + data.length = expectedLen cs.c.ver then some (sx ((reqBytes cs.hist ++ data).getD 1 0)) else none := by
        unfold CS.command? CS.next
        dsimp only
        rw [hB, hO, hv, ho, List.length_append, hlen]
        simp
      by_cases hfull : ec = .ok ∧ got + data.length = expectedLen cs.c.ver
      · refine .inr ⟨hnone, _, hcmd.trans (if_pos hfull), ?_⟩
        have := outPrefix_store cs.c got data
        rw [hpre] at this
        rw [if_pos hfull, ← this, Nat.zero_add, outPrefix_getD _ _ 1 (by have := expectedLen_ge cs.c.ver; omega)]
      · exact .inl ⟨hcmd.trans ((if_neg hfull).trans hnone.symm), by rw [if_neg hfull]⟩

theorem CInv.step (hI : CInv cs) (hc : cnt.length = 3) (hs : cs.c.Sized) (hE : Eff cs.c.ver cnt e.op r c cnt' acts) :
    CountOk cs i e r c acts cnt cnt' := by
  rcases hI with h1 | h1 | h1
  · exact CPre.step he hok h h1
  · exact CReq.step he hok h h1 hc hs
  · exact CPost.step he h1 hE

end step

theorem filter_set_length {α : Type} (l : List α) (p : α → Bool) (i : Nat) (a x : α) (h : l[i]? = some a) :
    ((l.set i x).filter p).length + (if p a then 1 else 0) = (l.filter p).length + (if p x then 1 else 0) := by
  obtain ⟨hlt, rfl⟩ := List.getElem?_eq_some_iff.1 h
  have : (if p l[i] then 1 else 0) ≤ l.countP p := by
    split
    · exact List.countP_pos_iff.2 ⟨_, List.getElem_mem hlt, ‹_›⟩
    · exact Nat.zero_le _
  simp only [← List.countP_eq_length_filter, List.countP_set hlt]
  omega

structure SInv (s : SS) : Prop where
  conns : ∀ cs ∈ s.conns, CInv cs
  cnt : s.cnt = [s.countCmd 1, s.countCmd 2, s.countCmd 3]

theorem SInv_init (ver : Int) (flags : Nat) : SInv (SS.init ver flags) :=
  ⟨by intro cs h; simp [SS.init] at h, by simp [SS.init, SS.countCmd]⟩

def countL (l : List CS) (k : Int) : Int := ((l.filter (fun cs => cs.command? = some k)).length : Int)

theorem countCmd_eq (s : SS) (k : Int) : s.countCmd k = countL s.conns k := rfl

theorem countL_set (l : List CS) (ci : Nat) (cs cs' : CS) (k : Int) (h : l[ci]? = some cs) :
    countL (l.set ci cs') k
      = countL l k + (if cs'.command? = some k then 1 else 0) - (if cs.command? = some k then 1 else 0) := by
  unfold countL
  have := filter_set_length l (fun cs => decide (cs.command? = some k)) ci cs cs' h
  simp only [decide_eq_true_eq] at this
  by_cases h1 : cs.command? = some k <;> by_cases h2 : cs'.command? = some k <;> simp [h1, h2] at this ⊢ <;> omega

theorem cntAfter3 (a b c k : Int) :
    cntAfter [a, b, c] k = [a + (if k = 1 then 1 else 0), b + (if k = 2 then 1 else 0), c + (if k = 3 then 1 else 0)] := by
  unfold cntAfter
  by_cases h : 1 ≤ k ∧ k ≤ 3
  · have : k = 1 ∨ k = 2 ∨ k = 3 := by omega
    rcases this with rfl | rfl | rfl <;> simp
  · have h1 : k ≠ 1 := by omega
    have h2 : k ≠ 2 := by omega
    have h3 : k ≠ 3 := by omega
    simp [h, h1, h2, h3]

theorem command?_new (c : Conn) (pend : List PEnt) (acts : List Act) :
    ({ c := c, pend := pend, acts := acts } : CS).command? = none :=
  command?_none_of_short _ (by show ([] : Bytes).length < _; have := expectedLen_ge c.ver; simp; omega)

theorem cinv_start {c c' : Conn} {cnt cnt' : List Int} {acts : List Act}
    (h : start c cnt = .ok (c', cnt', acts)) : CInv { c := c', pend := addOps [] acts, acts := acts } := by
  obtain ⟨rfl, rfl, ⟨hv, rfl⟩ | ⟨hv, rfl⟩⟩ := start_out h
  · refine .inr (.inl ⟨0, false, ?_, rfl, rfl, ?_, rfl⟩)
    · simp [expectedLen, hv]; rfl
    · simp [expectedLen, hv]
  · exact .inl ⟨hv, by simp [addOps, Act.op?, POp.rdSock], by simp [addOps, Act.op?, POp.rdSock, POp.pre], rfl, rfl⟩

theorem SInv_step (s s' : SS) (l : SLbl) (hS : SSafe s) (hI : SInv s) (h : s.step {} l = .ok s') : SInv s' := by
  have hst := fun {ci i : Nat} {r : Res} {cs : CS} {e : PEnt} {c : Conn} {cnt' : List Int} {acts : List Act} (hcs : s.conns[ci]? = some cs) (he : cs.pend[i]? = some e) (hok : e.ok r = true)
      (hco : complete {} cs.c s.cnt e.op r = .ok (c, cnt', acts)) =>
    have hm := List.mem_of_getElem? hcs
    CInv.step he hok hco (hI.conns cs hm) hS.cnt (hS.conns cs hm).1 ((hS.complete hm he hok).eff hco)
  refine ⟨SS.conns_step h hI.conns (fun _ _ _ => cinv_start) fun cs i e r c cnt acts hcs he hok hco => ?_, ?_⟩
  · obtain ⟨ci, hci⟩ := List.getElem?_of_mem hcs
    exact (hst hci he hok hco).1
  rcases SS.step_cases h with rfl | ⟨c, cnt, acts, -, hst', rfl⟩ | ⟨ci, i, r, cs, e, c, cnt', acts, -, hcs, he, hok, hco, rfl⟩
  · exact hI.cnt
  · obtain ⟨-, rfl, -⟩ := start_out hst'
    have hk : ∀ k, SS.countCmd { s with conns := s.conns ++ [{ c := c, pend := addOps [] acts, acts := acts }] } k = s.countCmd k := by
      intro k
      unfold SS.countCmd
      simp [List.filter_append, command?_new]
    show s.cnt = _
    rw [hk 1, hk 2, hk 3]
    exact hI.cnt
  · have heff := (hst hcs he hok hco).2
    show cnt' = _
    simp only [countCmd_eq, countL_set _ _ _ _ _ hcs]
    rcases heff with ⟨hsame, rfl⟩ | ⟨hnone, k0, hsome, rfl⟩
    · simp only [hsame, Int.add_sub_cancel]
      exact hI.cnt
    · rw [hnone, hsome, show s.cnt = [countL s.conns 1, countL s.conns 2, countL s.conns 3] from hI.cnt, cntAfter3]
      simp

theorem SInv_run (ver : Int) (flags : Nat) (ls : List SLbl) (s' : SS) (h : (SS.init ver flags).run {} ls = .ok s') : SInv s' :=
  SS.run_safe SInv_step ls _ s' (SSafe.init ver flags) (SInv_init ver flags) h

end SimVerif.Socks
