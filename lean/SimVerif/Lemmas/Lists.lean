/-
  SimVerif.Lemmas.Lists — facts about lists and association lists that mention nothing of the model.
-/
namespace SimVerif

theorem eq_of_nodup_map {α β : Type} (f : α → β) (l : List α) (hn : (l.map f).Nodup)
    (a b : α) (ha : a ∈ l) (hb : b ∈ l) (hab : f a = f b) : a = b :=
  have hp := List.pairwise_map.mp hn
  List.Pairwise.forall_of_forall_of_flip (R := fun a b => f a = f b → a = b) (fun _ _ _ => rfl)
    (hp.imp fun hne he => absurd he hne) (hp.imp fun hne he => absurd he.symm hne) ha hb hab

theorem nodup_of_nodup_map {α β : Type} (f : α → β) {l : List α} (hn : (l.map f).Nodup) : l.Nodup :=
  (List.pairwise_map.mp hn).imp (fun h e => h (congrArg f e))

theorem filterMap_congr_mem {α β : Type} {f g : α → Option β} {l : List α}
    (h : ∀ x, x ∈ l → f x = g x) : l.filterMap f = l.filterMap g := by
  induction l with
  | nil => rfl
  | cons a rest ih =>
    rw [List.filterMap_cons, List.filterMap_cons, h a (.head _), ih fun x hx => h x (.tail _ hx)]

theorem mem_of_lookup {κ α : Type} [BEq κ] [LawfulBEq κ] {l : List (κ × α)} {k : κ} {v : α}
    (h : l.lookup k = some v) : (k, v) ∈ l := by
  obtain ⟨l₁, l₂, hl, -⟩ := List.lookup_eq_some_iff.mp h
  rw [hl]; exact List.mem_append_right _ List.mem_cons_self

theorem lookup_none_iff {κ α : Type} [BEq κ] [LawfulBEq κ] (l : List (κ × α)) (k : κ) :
    l.lookup k = none ↔ ∀ v, (k, v) ∉ l := by
  rw [List.lookup_eq_none_iff]
  exact ⟨fun h v hm => by simpa using h _ hm, fun h e he => bne_iff_ne.mpr fun hk => h e.2 (hk ▸ he)⟩

/-- in a list whose `g`-images are distinct, exactly one element has the `g`-image of a given member -/
theorem filter_one_of_nodup {α β : Type} [BEq β] [LawfulBEq β] (g : α → β) (l : List α) (hnd : (l.map g).Nodup)
    (x : α) (hx : x ∈ l) : (l.filter (fun y => g y == g x)).length = 1 := by
  rw [← List.countP_eq_length_filter, show (fun y => g y == g x) = ((· == g x) ∘ g) from rfl, ← List.countP_map]
  exact (hnd.count (a := g x)).trans (if_pos (List.mem_map_of_mem hx))

end SimVerif
