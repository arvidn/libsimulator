/-
  The frames of C12: what an operation on UDP socket / TCP object `a` may change of the network
  state (`UdpFrame`, `TcpFrame`), closed under composition, and the frame of each primitive
  update of the state (object replaced, registry entries of `a`, own forwarder detached, new
  forwarder, own channel updated, channel appended; the normal forms `released` and `CountersOnly` of
  Lemmas/TcpEq.lean, `releasedU` of Lemmas/UdpSock.lean).
-/
import SimVerif.Lemmas.NetBasic
import SimVerif.Lemmas.TcpEq
import SimVerif.Lemmas.UdpSock

namespace SimVerif

/-- **UDP frame**: what an operation on UDP socket `a` (whose forwarder is `fw`) may change -/
structure UdpFrame (a : String) (fw : Option Nat) (n n' : NetSt) : Prop where
  udp    : ∀ b, b ≠ a → n'.udp? b = n.udp? b
  tcps   : n'.tcps = n.tcps
  chans  : n'.chans = n.chans
  cfg    : n'.cfg = n.cfg
  regt   : n'.reg.tcp = n.reg.tcp
  regu   : n'.reg.udp.filter (fun e => e.2 != a) = n.reg.udp.filter (fun e => e.2 != a)
  fwd    : ∀ g, g < n.fwds.length → some g ≠ fw → n'.fwdTarget g = n.fwdTarget g
  fwdlen : n.fwds.length ≤ n'.fwds.length

/-- **TCP frame**: what an operation on TCP socket / acceptor `a` (forwarder `fw`, channel `ch`)
    may change -/
structure TcpFrame (a : String) (fw ch : Option Nat) (n n' : NetSt) : Prop where
  tcp     : ∀ b, b ≠ a → n'.tcp? b = n.tcp? b
  udps    : n'.udps = n.udps
  cfg     : n'.cfg = n.cfg
  regu    : n'.reg.udp = n.reg.udp
  regt    : n'.reg.tcp.filter (fun e => e.2 != a) = n.reg.tcp.filter (fun e => e.2 != a)
  fwd     : ∀ g, g < n.fwds.length → some g ≠ fw → n'.fwdTarget g = n.fwdTarget g
  fwdlen  : n.fwds.length ≤ n'.fwds.length
  chan    : ∀ c, c < n.chans.length → some c ≠ ch → n'.chan? c = n.chan? c
  chanlen : n.chans.length ≤ n'.chans.length

namespace HL

theorem simBind_filter (tbl : List (Ep × String)) (np : Nat) (name : String) (ep : Ep) :
    (simBind tbl np name ep).1.filter (fun e => e.2 != name) = tbl.filter (fun e => e.2 != name) := by
  -- the table stays, or one entry is appended, which maps to `name`
  rcases simBind_cases tbl np name ep with ⟨-, -, e⟩ | ⟨-, -, e⟩ | ⟨q, -, -, e⟩ | ⟨-, -, e⟩ | ⟨-, -, e⟩ <;> rw [e] <;>
    simp [List.filter_append]

theorem simUnbind_filter (tbl : List (Ep × String)) (name : String) (ep : Ep) :
    (simUnbind tbl name ep).filter (fun e => e.2 != name) = tbl.filter (fun e => e.2 != name) := by
  unfold simUnbind
  rw [List.filter_filter]
  apply List.filter_congr
  intro e _
  by_cases h : e.2 = name <;> simp [h]

end HL

open HL

theorem UdpFrame.refl (a : String) (fw : Option Nat) (n : NetSt) : UdpFrame a fw n n :=
  ⟨fun _ _ => rfl, rfl, rfl, rfl, rfl, rfl, fun _ _ _ => rfl, Nat.le_refl _⟩

theorem UdpFrame.setUdp {a : String} {fw : Option Nat} {n n' : NetSt} (u : UdpSock) (h : UdpFrame a fw n n') :
    UdpFrame a fw n (n'.setUdp a u) :=
  ⟨fun b hb => by rw [udp?_setUdp_other _ _ _ _ hb]; exact h.udp b hb, h.tcps, h.chans, h.cfg, h.regt, h.regu,
    h.fwd, h.fwdlen⟩

theorem UdpFrame.trans {a : String} {fw : Option Nat} {n n1 n2 : NetSt}
    (h1 : UdpFrame a fw n n1) (h2 : UdpFrame a fw n1 n2) : UdpFrame a fw n n2 :=
  ⟨fun b hb => by rw [h2.udp b hb, h1.udp b hb], by rw [h2.tcps, h1.tcps], by rw [h2.chans, h1.chans],
    by rw [h2.cfg, h1.cfg], by rw [h2.regt, h1.regt], by rw [h2.regu, h1.regu],
    fun g hg hne => by rw [h2.fwd g (Nat.lt_of_lt_of_le hg h1.fwdlen) hne, h1.fwd g hg hne],
    Nat.le_trans h1.fwdlen h2.fwdlen⟩

theorem UdpFrame.of_reg (a : String) (fw : Option Nat) (n : NetSt) {t' : List (Ep × String)} {np : Nat}
    (h : t'.filter (fun e => e.2 != a) = n.reg.udp.filter (fun e => e.2 != a)) :
    UdpFrame a fw n { n with reg := { n.reg with udp := t', nextPort := np } } :=
  ⟨fun _ _ => rfl, rfl, rfl, rfl, rfl, h, fun _ _ _ => rfl, Nat.le_refl _⟩

theorem UdpFrame.newFwd (a : String) (fw : Option Nat) (n : NetSt) (x : String) :
    UdpFrame a fw n (n.newFwd x).1 :=
  ⟨fun _ _ => rfl, rfl, rfl, rfl, rfl, rfl,
    fun g hg _ => by rw [fwdTarget_newFwd, if_neg (Nat.ne_of_lt hg)], by rw [fwds_length_newFwd]; exact Nat.le_succ _⟩

theorem UdpFrame.releasedU (a : String) (b : Ep) (fw : Option Nat) (n : NetSt) :
    UdpFrame a fw n (n.releasedU a b fw) := by
  refine ⟨fun _ _ => rfl, rfl, rfl, rfl, rfl, ?_, fun g _ hne => ?_,
    Nat.le_of_eq (fwdTarget_setFwdOpt (fo := fw) (t := none) rfl).1.symm⟩
  · unfold NetSt.releasedU; dsimp only; split
    · rfl
    · exact simUnbind_filter _ _ _
  · rw [fwdTarget_detach (fo := fw) rfl, if_neg (fun e => hne e.symm)]

theorem TcpFrame.refl (a : String) (fw ch : Option Nat) (n : NetSt) : TcpFrame a fw ch n n :=
  ⟨fun _ _ => rfl, rfl, rfl, rfl, rfl, fun _ _ _ => rfl, Nat.le_refl _, fun _ _ _ => rfl, Nat.le_refl _⟩

theorem TcpFrame.setTcp {a : String} {fw ch : Option Nat} {n n' : NetSt} (t : TcpSock)
    (h : TcpFrame a fw ch n n') : TcpFrame a fw ch n (n'.setTcp a t) :=
  ⟨fun b hb => by rw [tcp?_setTcp_other _ _ _ _ hb]; exact h.tcp b hb, h.udps, h.cfg, h.regu, h.regt,
    h.fwd, h.fwdlen, h.chan, h.chanlen⟩

theorem TcpFrame.trans {a : String} {fw ch : Option Nat} {n n1 n2 : NetSt}
    (h1 : TcpFrame a fw ch n n1) (h2 : TcpFrame a fw ch n1 n2) : TcpFrame a fw ch n n2 :=
  ⟨fun b hb => by rw [h2.tcp b hb, h1.tcp b hb], by rw [h2.udps, h1.udps], by rw [h2.cfg, h1.cfg],
    by rw [h2.regu, h1.regu], by rw [h2.regt, h1.regt],
    fun g hg hne => by rw [h2.fwd g (Nat.lt_of_lt_of_le hg h1.fwdlen) hne, h1.fwd g hg hne],
    Nat.le_trans h1.fwdlen h2.fwdlen,
    fun c hc hne => by rw [h2.chan c (Nat.lt_of_lt_of_le hc h1.chanlen) hne, h1.chan c hc hne],
    Nat.le_trans h1.chanlen h2.chanlen⟩

theorem TcpFrame.mono {a : String} {fw ch fw' ch' : Option Nat} {n n' : NetSt}
    (h : TcpFrame a fw ch n n') (hf : fw = none ∨ fw = fw') (hc : ch = none ∨ ch = ch') : TcpFrame a fw' ch' n n' :=
  ⟨h.tcp, h.udps, h.cfg, h.regu, h.regt,
    fun g hg hne => h.fwd g hg (by rcases hf with hf | hf <;> subst hf <;> first | exact hne | exact (fun e => by cases e)),
    h.fwdlen,
    fun c hcl hne => h.chan c hcl (by rcases hc with hc | hc <;> subst hc <;> first | exact hne | exact (fun e => by cases e)),
    h.chanlen⟩

theorem TcpFrame.of_reg (a : String) (fw ch : Option Nat) (n : NetSt) {t' : List (Ep × String)} {np : Nat}
    (h : t'.filter (fun e => e.2 != a) = n.reg.tcp.filter (fun e => e.2 != a)) :
    TcpFrame a fw ch n { n with reg := { n.reg with tcp := t', nextPort := np } } :=
  ⟨fun _ _ => rfl, rfl, rfl, rfl, h, fun _ _ _ => rfl, Nat.le_refl _, fun _ _ _ => rfl, Nat.le_refl _⟩

theorem TcpFrame.newFwd (a : String) (fw ch : Option Nat) (n : NetSt) (x : String) :
    TcpFrame a fw ch n (n.newFwd x).1 :=
  ⟨fun _ _ => rfl, rfl, rfl, rfl, rfl, fun g hg _ => by rw [fwdTarget_newFwd, if_neg (Nat.ne_of_lt hg)],
    by rw [fwds_length_newFwd]; exact Nat.le_succ _, fun _ _ _ => rfl, Nat.le_refl _⟩

theorem TcpFrame.addChan (a : String) (fw ch : Option Nat) (n : NetSt) (x : Chan) :
    TcpFrame a fw ch n { n with chans := n.chans ++ [x] } :=
  ⟨fun _ _ => rfl, rfl, rfl, rfl, rfl, fun _ _ _ => rfl, Nat.le_refl _,
    fun c hc _ => by unfold NetSt.chan?; exact List.getElem?_append_left hc, by simp⟩

theorem TcpFrame.countersOnly {n : NetSt} {ch : Option Nat} {cs : List Chan} (a : String) (fw : Option Nat)
    (hb : CountersOnly n ch cs) : TcpFrame a fw ch n { n with chans := cs } :=
  ⟨fun _ _ => rfl, rfl, rfl, rfl, rfl, fun _ _ _ => rfl, Nat.le_refl _, fun c _ hne => hb.other c hne,
    Nat.le_of_eq hb.len.symm⟩

theorem TcpFrame.released (a : String) (b : Ep) (fw ch : Option Nat) (n : NetSt) :
    TcpFrame a fw ch n (n.released a b fw) := by
  refine ⟨fun _ _ => rfl, rfl, rfl, rfl, ?_, fun g _ hne => ?_, Nat.le_of_eq (released_fwds_length ..).symm,
    fun _ _ _ => rfl, Nat.le_refl _⟩
  · unfold NetSt.released; dsimp only; split
    · rfl
    · exact simUnbind_filter _ _ _
  · rw [fwdTarget_released, if_neg (fun e => hne e.symm)]

end SimVerif
