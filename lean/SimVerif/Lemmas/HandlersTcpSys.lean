/-
  The invariant of the open system "all TCP sockets and acceptors of a network state"
  (SimVerif/HandlerSys.lean): handler ids in slots + ids bound into connect timers + ids of
  the completions produced so far are a permutation of the ids given to initiating calls; every
  label conserves them and keeps the wire valid (`label_step`, read off the summaries `Act`).
-/
import SimVerif.Lemmas.HandlersTcpFns

namespace SimVerif

structure h4_TInv (s : HdS) : Prop where
  wf   : TWf s.n
  perm : (allTcpIds s.n ++ s.parked ++ s.ids).Perm s.started
  conns : ConnsOk s.n

namespace HL

theorem wmid_step (tp : TParams) (name : String) (mid : List WMid) (n : NetSt) :
    NStep n (mid.foldl (WMid.apply tp name) n) name (fun s s' => s'.sendH = s.sendH) := by
  induction mid generalizing n with
  | nil => exact .refl fun _ => rfl
  | cons w rest ih =>
    refine NStep.trans (?_ : NStep n (WMid.apply tp name n w) name (fun s s' => s'.sendH = s.sendH)) (ih _)
      (fun _ _ _ h1 h2 => h2.trans h1)
    cases w with
    | seg now hops sg =>
      exact (tcpSendSeg_step n now name hops sg).trans (.refl fun _ => rfl) (by rintro a b _ h1 rfl; rw [h1])
    | drop p =>
      exact (tcpPacketDropped_step n name tp p).trans (.refl fun _ => rfl) (by rintro a b _ h1 rfl; rw [h1])

/-- the loop conserves handler ids and keeps accept queues valid; its wire part needs the channel
    ids of the tail-dropped packets valid -/
theorem wmid_parts (tp : TParams) (name : String) (mid : List WMid) (n : NetSt) :
    (ConnsOk n → TCons n (mid.foldl (WMid.apply tp name) n) [] [] ∧ ConnsOk (mid.foldl (WMid.apply tp name) n))
    ∧ ((∀ p, WMid.drop p ∈ mid → ∀ c, p.chan = some c → c < n.chans.length) →
        WStep n (mid.foldl (WMid.apply tp name) n) []) := by
  induction mid generalizing n with
  | nil => exact ⟨fun hc => ⟨TCons.refl n, hc⟩, fun _ => WStep.refl n⟩
  | cons w rest ih =>
    simp only [List.foldl_cons]
    have h1 : (ConnsOk n → TCons n (WMid.apply tp name n w) [] [] ∧ ConnsOk (WMid.apply tp name n w))
        ∧ ((∀ p, w = .drop p → ∀ c, p.chan = some c → c < n.chans.length) → WStep n (WMid.apply tp name n w) []) := by
      cases w with
      | seg now hops sg =>
        -- the loop drops the effects of the segment; they carry no completion
        have h := (viaSend_sendSeg n now name hops sg).act
        have he := effIds_silent (viaSend_sendSeg n now name hops sg).silent
        exact ⟨fun hc => ⟨((h.ids trivial hc).1).congr_perm (.of_eq he.symm) (.refl _), (h.ids trivial hc).2⟩,
          fun _ => ⟨h.wire.len, h.wire.resend, nofun⟩⟩
      | drop p =>
        exact ⟨(tcpPacketDropped_parts tp n name p).1, fun hp => (tcpPacketDropped_parts tp n name p).2 (hp p rfl)⟩
    refine ⟨fun hc => ?_, fun hp => ?_⟩
    · obtain ⟨c1, k1⟩ := h1.1 hc
      obtain ⟨c2, k2⟩ := (ih _).1 k1
      exact ⟨c1.trans c2, k2⟩
    · have w1 := h1.2 (fun p e => hp p (e ▸ List.mem_cons_self))
      exact w1.trans ((ih _).2 fun p hpm c hc =>
        Nat.lt_of_lt_of_le (hp p (List.mem_cons_of_mem _ hpm) c hc) w1.len)

theorem runWrite_eff (tp : TParams) (n : NetSt) (name : String) (h? : Option Nat) (mid : List WMid)
    (r : Except Ec Nat) :
    (h4_HLbl.runWrite name h? mid r).eff tp n = (n, [])
    ∨ ∃ t op, n.tcp? name = some t ∧ t.sendH = some op
        ∧ (h4_HLbl.runWrite name h? mid r).eff tp n
            = (mid.foldl (WMid.apply tp name) (n.setTcp name { t with sendH := none })).tcpWriteFinish name op r := by
  simp only [h4_HLbl.eff]
  cases ht : n.tcp? name with
  | none => exact Or.inl rfl
  | some t =>
    dsimp only
    cases hop : t.sendH with
    | none => exact Or.inl rfl
    | some op =>
      cases h? with
      | none => exact Or.inr ⟨t, op, rfl, hop, by simp⟩
      | some h =>
        dsimp only
        split
        · exact Or.inl rfl
        · exact Or.inr ⟨t, op, rfl, hop, rfl⟩

/-- taking the write out of its slot, accounted for as if it were posted: `tcpWriteFinish` brings
    the id in again -/
theorem act_takeWrite (n : NetSt) (name : String) (t : TcpSock) (op : WriteOp) (ht : n.tcp? name = some t)
    (hop : t.sendH = some op) :
    Act True none n (n.setTcp name { t with sendH := none }) [.post { h := op.h, ec := .ok }] [] :=
  .setTcp ht (sstep_setSendH t none (.one _) (by rw [hop]; exact .refl _))

theorem runWrite_parts (tp : TParams) (n : NetSt) (name : String) (h? : Option Nat) (mid : List WMid)
    (r : Except Ec Nat) :
    noInvoke ((h4_HLbl.runWrite name h? mid r).eff tp n).2
    ∧ (ConnsOk n → TCons n ((h4_HLbl.runWrite name h? mid r).eff tp n).1 ((h4_HLbl.runWrite name h? mid r).eff tp n).2 []
      ∧ ConnsOk ((h4_HLbl.runWrite name h? mid r).eff tp n).1)
    ∧ ((∀ p, WMid.drop p ∈ mid → ∀ c, p.chan = some c → c < n.chans.length) →
        WStep n ((h4_HLbl.runWrite name h? mid r).eff tp n).1 ((h4_HLbl.runWrite name h? mid r).eff tp n).2) := by
  rcases runWrite_eff tp n name h? mid r with e | ⟨t, op, ht, hop, e⟩ <;> rw [e]
  · exact ⟨noInvoke_nil, fun hc => ⟨TCons.refl n, hc⟩, fun _ => WStep.refl n⟩
  · have h1 := act_takeWrite n name t op ht hop
    obtain ⟨m1, m2⟩ := wmid_parts tp name mid (n.setTcp name { t with sendH := none })
    obtain ⟨t2, ht2, e2⟩ := (wmid_step tp name mid _).self { t with sendH := none } (tcp?_setTcp_same _ _ _)
    have h3 := own_tcpWriteFinish (mid.foldl (WMid.apply tp name) (n.setTcp name { t with sendH := none })) name op r
    refine ⟨h3.noInvoke, fun hc => ?_, fun hmid => ((h1.wire.trans (m2 hmid)).trans h3.wire).congr (by simp [wireOf])⟩
    obtain ⟨c1, k1⟩ := h1.ids trivial hc
    obtain ⟨h2, k2⟩ := m1 k1
    obtain ⟨c3, k3⟩ := h3.ids ⟨t2, ht2, by rw [e2]⟩ k2
    have h4 := (c1.trans h2).trans c3
    refine ⟨⟨h4.wf, fun hw z => ?_⟩, k3⟩
    have := h4.cnt hw z
    simp only [effIds_append, effIds, List.count_append, List.count_cons, List.count_nil,
      List.nil_append, List.append_nil] at this ⊢
    omega

theorem parkedOf_eq (l : List NEff) : parkedOf l = parkedOf l := rfl

/-- **Every label is a call the summaries `Act` describe.** Never inline: every label but the connect
    timer's callback, which invokes. Under its precondition a label is a step of the object table (the id and wire
    parts of `Act`). Handler ids and accept queues need
    nothing of the packets the environment reports as dropped (label `.dropped`, the tail-drops
    inside a write); the wire part needs their channel ids valid, stated as the environment's
    promise `HTS.okEnv w l` for a list `w` of valid ids. `new` are the handler ids the label brings
    into slots and completions; the rest of its new id is bound into a connect timer. -/
theorem label_step (tp : TParams) (s : HdS) (l : h4_HLbl) :
    ((∀ h, l ≠ .refusedFired h) → noInvoke (l.eff tp s.n).2)
    ∧ (HTS.ok s l → ∃ new, ((ConnsOk s.n → TCons s.n (l.eff tp s.n).1 (l.eff tp s.n).2 new ∧ ConnsOk (l.eff tp s.n).1)
        ∧ ∀ w, (∀ c ∈ w, c < s.n.chans.length) → HTS.okEnv w l →
            WStep s.n (l.eff tp s.n).1 (l.eff tp s.n).2)
      ∧ (new ++ (HTS.step tp s l).parked).Perm (l.newId?.toList ++ s.parked)) := by
  -- a label that is a call of one model function: all three parts are read off its summary. `O` stands for the
  -- label's precondition, `X new` for the account of its new ids, `Q w` for the promise `HTS.okEnv w l` of the
  -- environment, which a label that has a summary does not need
  have call : ∀ {P t n' e new} {R O : Prop} {Q X : List Nat → Prop}, Act P t s.n n' e new → (O → P) → X new →
      (R → noInvoke e) ∧ (O → ∃ new, ((ConnsOk s.n → TCons s.n n' e new ∧ ConnsOk n')
        ∧ ∀ w, (∀ c ∈ w, c < s.n.chans.length) → Q w → WStep s.n n' e) ∧ X new) :=
    fun h hp hx => ⟨fun _ => h.noInvoke, fun o => ⟨_, ⟨h.ids (hp o), fun _ _ _ => h.wire⟩, hx⟩⟩
  cases l with
  | newSock name node isAcc =>
    refine call (t := none) (.create id ?_ (Or.inl rfl) ?_ rfl) id (List.Perm.refl _)
    · cases isAcc <;> rfl
    · cases isAcc <;> rfl
  | connect now name target h =>
    refine ⟨fun _ => (tcpConnect_parts _ _ _ _ _).1, fun ⟨s0, hs0, hpre⟩ => ?_⟩
    obtain ⟨new, hc, hp⟩ := own_tcpConnect s.n now name target h s0 hs0
    refine (call (R := True) hc.toAct id ?_).2 hpre
    simp only [HTS.step, h4_HLbl.newId?, Option.toList_some, h4_HLbl.eff]
    perm_omega hp
  | read name op => exact call (own_tcpAsyncRead s.n name op).toAct id (List.Perm.refl _)
  | waitRead name h => exact call (own_tcpWaitRead s.n name h).toAct id (List.Perm.refl _)
  | write name op => exact call (own_tcpAsyncWrite s.n name op).toAct id (List.Perm.refl _)
  | runWrite name h? mid r =>
    obtain ⟨a, b, c⟩ := runWrite_parts tp s.n name h? mid r
    exact ⟨fun _ => a, fun _ => ⟨[], ⟨b, fun w hw henv => c fun p hp c hc => hw c (henv p hp c hc)⟩, List.Perm.refl _⟩⟩
  | readNb name caps => exact call (own_tcpReadNb s.n name caps).toAct id (List.Perm.refl _)
  | cancel name => exact call (own_tcpCancel s.n name).toAct id (List.Perm.refl _)
  | close now name => exact call (act_tcpClose s.n now name) id (List.Perm.refl _)
  | reopen now name v4 => exact call (act_tcpOpen s.n now name v4) id (List.Perm.refl _)
  | bind name ep => exact call (own_tcpBind s.n name ep).toAct id (List.Perm.refl _)
  | accept now name op => exact call (act_accAsyncAccept s.n now name op) id (by cases op <;> exact List.Perm.refl _)
  | listen name qs => exact call (own_accListen s.n name qs).toAct id (List.Perm.refl _)
  | accCancel name => exact call (own_accCancel s.n name).toAct id (List.Perm.refl _)
  | accClose now name => exact call (act_accClose s.n now name) id (List.Perm.refl _)
  | incoming now name p =>
    simp only [h4_HLbl.eff]
    split
    · exact call (t := none) (.refl _) (fun _ => trivial) (List.Perm.refl _)
    · split
      · exact call (act_accIncoming s.n now name p) id (List.Perm.refl _)
      · exact call (own_tcpIncoming tp s.n now name p).toAct (fun _ => trivial) (List.Perm.refl _)
  | dropped name p =>
    exact ⟨fun _ => noInvoke_nil, fun _ => ⟨[], ⟨(tcpPacketDropped_parts tp s.n name p).1, fun w hw henv =>
      (tcpPacketDropped_parts tp s.n name p).2 (fun c hc => hw c (henv c hc))⟩, List.Perm.refl _⟩⟩
  | resendOne now name =>
    simp only [h4_HLbl.eff]
    split
    · rename_i r hr; exact call (viaSend_resendOne s.n now name r hr).act id (List.Perm.refl _)
    · exact call (t := none) (.refl _) (fun _ => trivial) (List.Perm.refl _)
  | ackPost name wb acked => exact call (own_tcpAckPost tp s.n name wb acked).toAct id (List.Perm.refl _)
  | refusedFired h =>
    refine ⟨fun hl => absurd rfl (hl h), fun hok => ⟨[h], ⟨fun hc => ⟨⟨id, fun _ z => by simp [h4_HLbl.eff, effIds]⟩, hc⟩,
      fun _ _ _ => (WStep.refl _).congr rfl⟩, ?_⟩⟩
    simp only [HTS.step, h4_HLbl.newId?, Option.toList_none, List.nil_append]
    exact (List.perm_cons_erase hok).symm

theorem label_core (tp : TParams) (s : HdS) (l : h4_HLbl) (hok : HTS.ok s l) (hv : ConnsOk s.n) :
    ∃ new, TCons s.n (l.eff tp s.n).1 (l.eff tp s.n).2 new ∧ ConnsOk (l.eff tp s.n).1
      ∧ (new ++ (HTS.step tp s l).parked).Perm (l.newId?.toList ++ s.parked) :=
  have ⟨new, ⟨h, _⟩, hp⟩ := (label_step tp s l).2 hok
  ⟨new, (h hv).1, (h hv).2, hp⟩

theorem cok_label (tp : TParams) (s : HdS) (l : h4_HLbl) (hok : HTS.ok s l) (h : ConnsOk s.n) :
    ConnsOk (l.eff tp s.n).1 :=
  have ⟨_, _, hk, _⟩ := label_core tp s l hok h
  hk

end HL

open HL

theorem h4_TInv.step (tp : TParams) (s : HdS) (l : h4_HLbl) (hI : h4_TInv s) (hok : HTS.ok s l) : h4_TInv (HTS.step tp s l) := by
  obtain ⟨new, hc, hk, hp⟩ := label_core tp s l hok hI.conns
  refine ⟨hc.wf hI.wf, ?_, hk⟩
  have h1 := hI.perm
  refine List.perm_iff_count.mpr (fun z => ?_)
  have h2 := hc.cnt hI.wf z
  have h3 := List.perm_iff_count.mp h1 z
  have h4 := List.perm_iff_count.mp hp z
  have h5 : (HTS.step tp s l).ids = s.ids ++ effIds (l.eff tp s.n).2 := by
    simp [HTS.step, HdS.ids, logOf_ids]
  have h6 : (HTS.step tp s l).started = s.started ++ l.newId?.toList := rfl
  have h7 : (HTS.step tp s l).n = (l.eff tp s.n).1 := rfl
  rw [h5, h6, h7]
  simp only [List.count_append] at h2 h3 h4 ⊢
  omega

theorem h4_TInv.run (tp : TParams) (ls : List h4_HLbl) (s : HdS) (hI : h4_TInv s) (hok : HTS.okRun tp s ls) :
    h4_TInv (HTS.run tp s ls) := by
  induction ls generalizing s with
  | nil => exact hI
  | cons l rest ih => exact ih _ (hI.step tp s l hok.1) hok.2

theorem HTS.run_started (tp : TParams) (ls : List h4_HLbl) (s : HdS) :
    (HTS.run tp s ls).started = s.started ++ ls.filterMap h4_HLbl.newId? := by
  induction ls generalizing s with
  | nil => simp [HTS.run]
  | cons l rest ih =>
    have := ih (HTS.step tp s l)
    unfold HTS.run at this ⊢
    rw [List.foldl_cons, this]
    have h6 : (HTS.step tp s l).started = s.started ++ l.newId?.toList := rfl
    rw [h6]
    cases hl : l.newId? <;> simp [hl]

def accConnsOkb (n : NetSt) (name : String) : Bool :=
  match n.tcp? name with
  | none => true
  | some s =>
    match s.acc with
    | none => true
    | some a => a.conns.all (fun c => decide (c < n.chans.length))

theorem accConnsOkb_sound {n : NetSt} {name : String} (h : accConnsOkb n name = true) : accConnsOk n name := by
  intro s a hs ha c hc
  unfold accConnsOkb at h
  rw [hs] at h; dsimp only at h; rw [ha] at h; dsimp only at h
  rw [List.all_eq_true] at h
  simpa using h c hc

/-- decidable form of `ConnsOk` (for concrete initial tables) -/
def ConnsOkb (n : NetSt) : Bool := n.tcps.all (fun e => accConnsOkb n e.1)

theorem ConnsOkb_sound {n : NetSt} (h : ConnsOkb n = true) : ConnsOk n := by
  refine ⟨fun name s a hs ha => ?_⟩
  unfold ConnsOkb at h
  rw [List.all_eq_true] at h
  exact accConnsOkb_sound (h (name, s) (mem_of_lookup hs)) s a hs ha

def HTS.okb (s : HdS) : h4_HLbl → Bool
  | .newSock name _ _ => (s.n.tcp? name).isNone
  | .connect _ name _ _ =>
    (match s.n.tcp? name with | some s0 => !s0.isOpen || s0.connectH.isNone | none => false)
  | .read name _ => (s.n.tcp? name).isSome
  | .waitRead name _ => (s.n.tcp? name).isSome
  | .write name _ => (s.n.tcp? name).isSome
  | .accept _ name op =>
    (match s.n.tcp? name with | some s0 => s0.acc.isSome | none => false)
      && (match op with | .fresh _ nn => (s.n.tcp? nn).isNone | .into _ _ _ => true)
  | .incoming _ _ p => (match p.chan with | some c => decide (c < s.n.chans.length) | none => true)
  | .refusedFired h => s.parked.contains h
  | _ => true

theorem HTS.okb_sound {s : HdS} {l : h4_HLbl} (h : HTS.okb s l = true) : HTS.ok s l := by
  cases l <;> simp only [HTS.okb, HTS.ok] at h ⊢ <;> (try trivial) <;> (try exact h)
  case newSock name node isAcc => simpa using h
  case connect now name target hd =>
    cases hs : s.n.tcp? name with
    | none => rw [hs] at h; simp at h
    | some s0 =>
      rw [hs] at h
      refine ⟨s0, rfl, fun ho => ?_⟩
      simpa [ho] using h
  case accept now name op =>
    simp only [Bool.and_eq_true] at h
    obtain ⟨h1, h2⟩ := h
    refine ⟨?_, ?_⟩
    · cases hs : s.n.tcp? name with
      | none => rw [hs] at h1; simp at h1
      | some s0 => rw [hs] at h1; exact ⟨s0, rfl, h1⟩
    · intro hd nn e; subst e; simpa using h2
  case incoming now name p =>
    intro c hc
    rw [hc] at h; simpa using h
  case refusedFired hd => simpa using h

def HTS.okRunb (tp : TParams) : HdS → List h4_HLbl → Bool
  | _, [] => true
  | s, l :: rest => HTS.okb s l && HTS.okRunb tp (HTS.step tp s l) rest

theorem HTS.okRunb_sound (tp : TParams) (ls : List h4_HLbl) (s : HdS) (h : HTS.okRunb tp s ls = true) :
    HTS.okRun tp s ls := by
  induction ls generalizing s with
  | nil => trivial
  | cons l rest ih =>
    simp only [HTS.okRunb, Bool.and_eq_true] at h
    exact ⟨HTS.okb_sound h.1, ih _ h.2⟩

def TWfb (n : NetSt) : Bool :=
  decide (n.tcps.map (·.1)).Nodup && n.tcps.all (fun e => e.2.recvH.isNone || e.2.waitRecvH.isNone)

theorem TWfb_sound {n : NetSt} (h : TWfb n = true) : TWf n := by
  simp only [TWfb, Bool.and_eq_true, decide_eq_true_eq, List.all_eq_true] at h
  refine ⟨h.1, fun name s hs => ?_⟩
  have := h.2 (name, s) (mem_of_lookup hs)
  simp only [Bool.or_eq_true, Option.isNone_iff_eq_none] at this
  exact this

end SimVerif
