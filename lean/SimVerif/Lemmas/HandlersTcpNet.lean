/-
  Conservation of handler ids over ALL TCP sockets and acceptors of a network state: the
  relation `TCons n n' effs new` ("ids in all slots of n' + ids of the completions in effs =
  ids in all slots of n + new, and well-formedness is kept") and its closure properties.
-/
import SimVerif.Lemmas.HandlersTcp

namespace SimVerif

def allTcpIds (n : NetSt) : List Nat := (n.tcps.map (fun e => e.2.slotIds)).flatten

structure TWf (n : NetSt) : Prop where
  keys : (n.tcps.map (·.1)).Nodup
  excl : ∀ name s, n.tcp? name = some s → s.recvExcl

structure TCons (n n' : NetSt) (effs : List NEff) (new : List Nat) : Prop where
  wf  : TWf n → TWf n'
  cnt : TWf n → ∀ z, (allTcpIds n').count z + (effIds effs).count z = (allTcpIds n).count z + new.count z

theorem tcp?_congr {n n' : NetSt} (h : n'.tcps = n.tcps) (k : String) : n'.tcp? k = n.tcp? k := by
  unfold NetSt.tcp?; rw [h]

namespace HL

theorem allTcpIds_setTcp_present (n : NetSt) (a : String) (s s' : TcpSock) (hw : (n.tcps.map (·.1)).Nodup)
    (h : n.tcp? a = some s) (z : Nat) :
    (allTcpIds (n.setTcp a s')).count z + s.slotIds.count z = (allTcpIds n).count z + s'.slotIds.count z :=
  count_setAssoc_present TcpSock.slotIds n.tcps a s s' hw h z

theorem allTcpIds_setTcp_absent (n : NetSt) (a : String) (s' : TcpSock) (h : n.tcp? a = none) :
    allTcpIds (n.setTcp a s') = allTcpIds n ++ s'.slotIds := by
  unfold allTcpIds NetSt.setTcp
  dsimp only
  rw [setAssoc_absent _ _ _ h]
  simp

theorem TWf_setTcp (n : NetSt) (a : String) (s' : TcpSock) (hw : TWf n) (hx : s'.recvExcl) : TWf (n.setTcp a s') := by
  constructor
  · cases h : n.tcp? a with
    | some s => exact (setAssoc_keys_present n.tcps a s' (by unfold NetSt.tcp? at h; simp [h])) ▸ hw.keys
    | none =>
      unfold NetSt.setTcp; dsimp only
      rw [setAssoc_absent _ _ _ h, List.map_append]
      rw [List.nodup_append]
      refine ⟨hw.keys, by simp, ?_⟩
      rintro x hx _ hy rfl
      rw [List.map_cons, List.map_nil, List.mem_singleton] at hy
      obtain ⟨e, he, rfl⟩ := List.mem_map.mp hx
      simpa [hy] using List.lookup_eq_none_iff.mp h e he
  · intro b t hb
    by_cases hba : b = a
    · subst hba; rw [tcp?_setTcp_same] at hb; cases hb; exact hx
    · rw [tcp?_setTcp_other _ _ _ _ hba] at hb; exact hw.excl b t hb

end HL

open HL

theorem TCons.refl (n : NetSt) : TCons n n [] [] := ⟨id, fun _ _ => rfl⟩

theorem TCons.of_tcps_eq {n n' : NetSt} {effs : List NEff} (h : n'.tcps = n.tcps) (he : effIds effs = []) :
    TCons n n' effs [] := by
  constructor
  · intro hw
    exact ⟨by rw [h]; exact hw.keys, fun b t hb => hw.excl b t (tcp?_congr h b ▸ hb)⟩
  · intro _ z; unfold allTcpIds; rw [h, he]

theorem TCons.trans {n n1 n2 : NetSt} {e1 e2 : List NEff} {new1 new2 : List Nat}
    (h1 : TCons n n1 e1 new1) (h2 : TCons n1 n2 e2 new2) : TCons n n2 (e1 ++ e2) (new1 ++ new2) := by
  constructor
  · exact fun hw => h2.wf (h1.wf hw)
  · intro hw z
    have a := h1.cnt hw z
    have b := h2.cnt (h1.wf hw) z
    rw [effIds_append, List.count_append, List.count_append]
    omega

theorem TCons.setTcp_present {n : NetSt} {a : String} {s s' : TcpSock} {effs : List NEff} {new : List Nat}
    (h : n.tcp? a = some s)
    (hs : s.recvExcl → (s'.slotIds ++ effIds effs).Perm (s.slotIds ++ new) ∧ s'.recvExcl) :
    TCons n (n.setTcp a s') effs new := by
  constructor
  · intro hw
    exact TWf_setTcp n a s' hw (hs (hw.excl a s h)).2
  · intro hw z
    have h1 := allTcpIds_setTcp_present n a s s' hw.keys h z
    have h2 := List.perm_iff_count.mp (hs (hw.excl a s h)).1 z
    simp only [List.count_append] at h2
    omega

theorem TCons.setTcp_absent {n : NetSt} {a : String} {s' : TcpSock} (h : n.tcp? a = none)
    (hs : s'.slotIds = []) (hx : s'.recvExcl) : TCons n (n.setTcp a s') [] [] := by
  constructor
  · exact fun hw => TWf_setTcp n a s' hw hx
  · intro _ z
    rw [allTcpIds_setTcp_absent n a s' h, hs]; simp

theorem TCons.congr_perm {n n' : NetSt} {e e' : List NEff} {new new' : List Nat} (h : TCons n n' e new)
    (he : (effIds e').Perm (effIds e)) (hn : new'.Perm new) : TCons n n' e' new' :=
  ⟨h.wf, fun hw z => by rw [he.count_eq z, hn.count_eq z]; exact h.cnt hw z⟩

end SimVerif
