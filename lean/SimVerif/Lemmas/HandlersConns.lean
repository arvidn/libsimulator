/-
  The invariants of the table of TCP objects that speak of channel ids.

  `ConnsOk n` : every connection queued at any acceptor of `n` is an index into `n.chans` ("accept
  queues hold valid channel ids" as an INVARIANT of the open system of SimVerif/HandlerSys.lean,
  not a side condition on its labels). A channel id enters an accept queue only
  in `accIncoming` (the SYN's `chan` field, for which the label keeps a side condition on the
  packet the environment hands in); `internalConnect` allocates ids as `n.chans.length` before
  growing the table; no function shrinks the table; every other function copies, shortens or
  empties the queues.

  `ResendOk n` : packets queued for retransmission carry no channel id or a valid one; `WStep`
  adds that every id a step puts on the wire is valid.

  The summary of a model function (`Act`, Lemmas/Act.lean) bundles handler-id conservation
  (`TCons`), `ConnsOk` and `WStep`.
-/
import SimVerif.Lemmas.HandlersTcpNet

namespace SimVerif

/-- every acceptor's queued connections are valid channel ids (the C++ queue holds
    `shared_ptr<channel>`) -/
structure ConnsOk (n : NetSt) : Prop where
  ok : ∀ name, accConnsOk n name

structure ResendOk (n : NetSt) : Prop where
  ok : ∀ name t, n.tcp? name = some t → ∀ p ∈ t.resend, ∀ c, p.chan = some c → c < n.chans.length

structure WStep (n n' : NetSt) (effs : List NEff) : Prop where
  len    : n.chans.length ≤ n'.chans.length
  resend : ResendOk n → ResendOk n'
  wire   : ResendOk n → ∀ c ∈ wireOf effs, c < n'.chans.length

open HL

theorem ConnsOk.of_tcps {n n' : NetSt} (h : ConnsOk n) (ht : n'.tcps = n.tcps)
    (hl : n.chans.length ≤ n'.chans.length) : ConnsOk n' := by
  refine ⟨fun b s a hs ha c hc => ?_⟩
  have hs' : n.tcp? b = some s := tcp?_congr ht b ▸ hs
  exact Nat.lt_of_lt_of_le (h.ok b s a hs' ha c hc) hl

theorem ConnsOk.setTcp {n : NetSt} (h : ConnsOk n) (a : String) (s' : TcpSock)
    (hs : ∀ c ∈ s'.conns, c < n.chans.length) : ConnsOk (n.setTcp a s') := by
  refine ⟨fun b t acc hb hacc c hc => ?_⟩
  by_cases hba : b = a
  · subst hba
    rw [tcp?_setTcp_same] at hb; cases hb
    exact hs c (by unfold TcpSock.conns; rw [hacc]; exact hc)
  · rw [tcp?_setTcp_other _ _ _ _ hba] at hb
    exact h.ok b t acc hb hacc c hc

theorem ConnsOk.conns {n : NetSt} (h : ConnsOk n) {a : String} {s : TcpSock} (hs : n.tcp? a = some s) :
    ∀ c ∈ s.conns, c < n.chans.length := by
  intro c hc
  unfold TcpSock.conns at hc
  cases hsa : s.acc with
  | none => rw [hsa] at hc; cases hc
  | some a0 => rw [hsa] at hc; exact h.ok a s a0 hs hsa c hc

@[simp] theorem wireOf_nil : wireOf [] = [] := rfl

theorem wireOf_append (a b : List NEff) : wireOf (a ++ b) = wireOf a ++ wireOf b := by
  induction a with
  | nil => rfl
  | cons e rest ih => cases e <;> simp [wireOf, ih]

theorem wireOf_silent_free {l : List NEff} (h : ∀ e ∈ l, ∀ p, e = .forward p → p.chan = none) : wireOf l = [] := by
  induction l with
  | nil => rfl
  | cons e rest ih =>
    have hr := ih (fun e he => h e (List.mem_cons_of_mem _ he))
    cases e with
    | forward p => simp [wireOf, hr, h (.forward p) List.mem_cons_self p rfl]
    | _ => simp [wireOf, hr]

theorem postsOnly.wireOf {l : List NEff} (h : postsOnly l) : wireOf l = [] :=
  wireOf_silent_free fun e he _ hp => nomatch hp ▸ h e he

theorem WStep.refl (n : NetSt) : WStep n n [] := ⟨Nat.le_refl _, id, fun _ c hc => by cases hc⟩

theorem WStep.trans {n n1 n2 : NetSt} {e1 e2 : List NEff} (h1 : WStep n n1 e1) (h2 : WStep n1 n2 e2) :
    WStep n n2 (e1 ++ e2) := by
  refine ⟨Nat.le_trans h1.len h2.len, fun h => h2.resend (h1.resend h), fun h c hc => ?_⟩
  rw [wireOf_append, List.mem_append] at hc
  rcases hc with hc | hc
  · exact Nat.lt_of_lt_of_le (h1.wire h c hc) h2.len
  · exact h2.wire (h1.resend h) c hc

theorem WStep.congr {n n' : NetSt} {e e' : List NEff} (h : WStep n n' e) (he : wireOf e' = wireOf e) :
    WStep n n' e' := ⟨h.len, h.resend, fun hr c hc => h.wire hr c (by rw [← he]; exact hc)⟩

theorem WStep.add_quiet {n n' : NetSt} {e : List NEff} (h : WStep n n' e) (e0 e1 : List NEff)
    (h0 : wireOf e0 = []) (h1 : wireOf e1 = []) : WStep n n' (e0 ++ e ++ e1) :=
  h.congr (by simp [wireOf_append, h0, h1])

theorem WStep.of_tcps {n n' : NetSt} (ht : n'.tcps = n.tcps) (hl : n.chans.length ≤ n'.chans.length) :
    WStep n n' [] := by
  refine ⟨hl, fun h => ⟨fun b t hb p hp c hc => ?_⟩, fun _ c hc => by cases hc⟩
  have hb' : n.tcp? b = some t := tcp?_congr ht b ▸ hb
  exact Nat.lt_of_lt_of_le (h.ok b t hb' p hp c hc) hl

theorem WStep.setTcp {n n1 : NetSt} (a : String) (s' : TcpSock) {effs : List NEff}
    (hre : ResendOk n → ∀ p ∈ s'.resend, ∀ c, p.chan = some c → c < n.chans.length)
    (hw : wireOf effs = []) (ht : n1.tcps = n.tcps := by rfl)
    (hl : n.chans.length ≤ n1.chans.length := by exact Nat.le_refl _) : WStep n (n1.setTcp a s') effs := by
  refine ⟨hl, fun h => ⟨fun b t hb p hp c hc => Nat.lt_of_lt_of_le ?_ hl⟩, fun _ c hc => by rw [hw] at hc; cases hc⟩
  by_cases hba : b = a
  · subst hba
    rw [tcp?_setTcp_same] at hb; cases hb
    exact hre h p hp c hc
  · rw [tcp?_setTcp_other _ _ _ _ hba] at hb
    exact h.ok b t (tcp?_congr ht b ▸ hb) p hp c hc

end SimVerif
