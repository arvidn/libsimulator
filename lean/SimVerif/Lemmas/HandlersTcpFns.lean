/-
  The remaining TCP / acceptor functions of SimVerif/Tcp.lean, summarised (`Act` / `Own`,
  Lemmas/Act.lean; `send_packet`, `close`, `open`, `async_connect`, `incoming_packet` are in
  Lemmas/ActFns.lean): one walk per function, along its equation in Lemmas/TcpEq.lean;
  `acceptor::incoming_packet` and `acceptor::close` along their definitions (a match each, and the
  effects of the exact equation of `close` are not in the order of a composition).
-/
import SimVerif.Lemmas.ActFns
import SimVerif.Lemmas.NetTcp

namespace SimVerif

open HL

theorem own_tcpAckPost (tp : TParams) (n : NetSt) (a : String) (wb : Bool) (acked : Nat) :
    Own a none none True none n (n.tcpAckPost tp a wb acked).1 [] [] := by
  cases hs : n.tcp? a with
  | none => rw [tcpAckPost_none tp n a wb acked hs]; exact .refl ..
  | some s => rw [tcpAckPost_eq hs]; exact Own.setTcp hs .keep

/-- `packet_dropped(p)` touches neither handler slots nor accept queues; it queues the packet the
    environment reports for retransmission, so the wire part needs its channel field valid -/
theorem tcpPacketDropped_parts (tp : TParams) (n : NetSt) (name : String) (p : Pkt) :
    (ConnsOk n → TCons n (n.tcpPacketDropped tp name p) [] [] ∧ ConnsOk (n.tcpPacketDropped tp name p))
    ∧ ((∀ c, p.chan = some c → c < n.chans.length) → WStep n (n.tcpPacketDropped tp name p) []) := by
  cases hs : n.tcp? name with
  | none =>
    rw [tcpPacketDropped_none n name tp p hs]
    exact ⟨fun hc => ⟨TCons.refl n, hc⟩, fun _ => WStep.refl n⟩
  | some s =>
    rcases tcpPacketDropped_cases n name tp p s hs with ⟨-, e⟩ | ⟨ch, s', -, e, h'⟩ <;> rw [e]
    · exact ⟨fun hc => ⟨TCons.refl n, hc⟩, fun _ => WStep.refl n⟩
    · refine ⟨fun hc => ⟨TCons.setTcp_present hs (ids_keep (by rw [h']) (by rw [h']) (by rw [h']) (by rw [h'])
          (acceptOp_congr (by rw [h']))),
        hc.setTcp name s' (by rw [conns_congr (s := s) (by rw [h'])]; exact hc.conns hs)⟩,
        fun hp => WStep.setTcp name s' (fun hr x hx c hc => ?_) rfl⟩
      rw [h', List.mem_append, List.mem_singleton] at hx
      rcases hx with hx | rfl
      · exact hr.ok name s hs x hx c hc
      · exact hp c hc

/-- `async_write_some_impl` after the loop: the write, taken out of its slot before, is parked
    again or completed with one post -/
theorem own_tcpWriteFinish (n : NetSt) (a : String) (op : WriteOp) (r : Except Ec Nat) :
    Own a none none (∃ s, n.tcp? a = some s ∧ s.sendH = none) none n (n.tcpWriteFinish a op r).1
      (n.tcpWriteFinish a op r).2 [op.h] := by
  cases hs : n.tcp? a with
  | none => rw [tcpWriteFinish_none n a op r hs]; exact (Own.refl ..).excluded fun ⟨_, h, _⟩ => nomatch h
  | some s =>
    have hf : (∃ s', some s = some s' ∧ s'.sendH = none) → s.sendH = none := fun ⟨_, h, hf⟩ => by cases h; exact hf
    rcases tcpWriteFinish_eq n a op r s hs with ⟨-, e⟩ | ⟨c, e, hc⟩ <;> rw [e]
    · exact Own.setTcpIf hs (fun hp => (sstep_setSendH s _ .nil (by rw [hf hp]; exact .refl _)).ids)
        (fun _ _ h => .inl h) (fun _ h => h) .nil
    · exact Own.setTcpIf hs (fun hp => (sstep_setSendH s none (.one _) (by rw [hf hp]; simp [effIds, hc])).ids)
        (fun _ _ h => .inl h) (fun _ h => h) (.one _)

theorem own_tcpBind (n : NetSt) (a : String) (ep : Ep) : Own a none none True none n (n.tcpBind a ep).1 [] [] := by
  rcases tcpBind_cases n a ep with ⟨e, -, he⟩ | ⟨s, ep1, hpre⟩
  · rw [he]; exact .refl ..
  · rw [tcpBind_pre n a ep s ep1 hpre]; exact own_tcpBound n a s ep1 hpre.1

theorem own_tcpCancel (n : NetSt) (a : String) : Own a none none True none n (n.tcpCancel a).1 (n.tcpCancel a).2 [] := by
  cases hs : n.tcp? a with
  | none => unfold NetSt.tcpCancel; rw [hs]; exact .refl ..
  | some s => rw [tcpCancel_eq n a s hs]; exact Own.setTcp hs (sstep_cancel s)

theorem own_tcpAsyncRead (n : NetSt) (a : String) (op : ReadOp) :
    Own a none none (n.tcp? a).isSome none n (n.tcpAsyncRead a op).1 (n.tcpAsyncRead a op).2 [op.h] := by
  cases hs : n.tcp? a with
  | none => unfold NetSt.tcpAsyncRead; rw [hs]; exact (Own.refl ..).excluded nofun
  | some s => rw [tcpAsyncRead_eq hs]; exact Own.setTcp hs ((sstep_abortRecv s).trans (sstep_asyncReadImpl _ op rfl rfl))

theorem own_tcpWaitRead (n : NetSt) (a : String) (h : Nat) :
    Own a none none (n.tcp? a).isSome none n (n.tcpWaitRead a h).1 (n.tcpWaitRead a h).2 [h] := by
  cases hs : n.tcp? a with
  | none => unfold NetSt.tcpWaitRead; rw [hs]; exact (Own.refl ..).excluded nofun
  | some s => rw [tcpWaitRead_eq hs]; exact Own.setTcp hs ((sstep_abortRecv s).trans (sstep_asyncWaitReadImpl _ h rfl rfl))

theorem own_tcpReadNb (n : NetSt) (a : String) (caps : List Nat) :
    Own a none none True none n (n.tcpReadNb a caps).1 [] [] := by
  cases hs : n.tcp? a with
  | none => unfold NetSt.tcpReadNb; rw [hs]; exact .refl ..
  | some s => rw [tcpReadNb_eq hs]; exact Own.setTcp hs (sstep_readSome s s.chan.isSome caps)

theorem own_tcpAsyncWrite (n : NetSt) (a : String) (op : WriteOp) :
    Own a none none (n.tcp? a).isSome none n (n.tcpAsyncWrite a op).1 (n.tcpAsyncWrite a op).2 [op.h] := by
  cases hs : n.tcp? a with
  | none => rw [tcpAsyncWrite_none n a op hs]; exact (Own.refl ..).excluded nofun
  | some s =>
    rw [tcpAsyncWrite_exact hs]
    exact (Own.setTcp hs (sstep_setSendH s (some op) (aborts_tcpAbortSendEffs s).posts
      (by rw [effIds_tcpAbortSendEffs]; exact List.perm_append_comm))).trans
      (.emit _ (q := [.tcpWrite a op.h]) rfl ⟨rfl, rfl, rfl⟩)

theorem own_accCancel (n : NetSt) (a : String) : Own a none none True none n (n.accCancel a).1 (n.accCancel a).2 [] := by
  cases hs : n.tcp? a with
  | none => unfold NetSt.accCancel; rw [hs]; exact .refl ..
  | some s => rw [accCancel_eq n a s hs]; exact Own.setTcp hs (sstep_abortAccept s)

theorem own_accListen (n : NetSt) (a : String) (qs : Int) : Own a none none True none n (n.accListen a qs).1 [] [] := by
  cases hs : n.tcp? a with
  | none => unfold NetSt.accListen; rw [hs]; exact .refl ..
  | some s =>
    rcases accListen_cases hs qs with e | ⟨x, -, -, ha, e⟩ <;> rw [e]
    · exact .refl ..
    · exact Own.setTcp hs (.keep (acceptOp := by simp [TcpSock.acceptOp, ha]) (conns := by simp [TcpSock.conns, ha]))

theorem act_tcpAttach (n : NetSt) (now : Int) (peer : String) (bindEp : Ep) (cid : Nat) :
    Act True (some now) n (n.tcpAttach now peer bindEp cid).1 (n.tcpAttach now peer bindEp cid).2 [] := by
  cases hp : n.tcp? peer with
  | none => rw [tcpAttach_none n now peer bindEp cid hp]; exact .refl n
  | some p0 =>
    obtain ⟨cs, hb, e⟩ := tcpAttach_exact n now peer bindEp cid p0 hp
    obtain ⟨h1, h2, h3, -⟩ := effs_tcpCloseEof n now peer p0
    -- whatever `open()` and the attachment make of the object: the four slots empty, nothing to retransmit
    have h4 : ∀ t' : TcpSock, t'.recvH = none → t'.waitRecvH = none → t'.sendH = none → t'.connectH = none →
        t'.acc = p0.acc → t'.resend = [] → SStep p0 t' (tcpCancelEffs p0 ++ []) ([] ++ []) :=
      fun t' a1 a2 a3 a4 a5 a6 => (sstep_close p0).trans (.keep a1 a2 a3 a4 (acceptOp_congr a5)
        (by rw [conns_congr a5]; exact fun _ h => h) (by rw [a6]; exact fun _ h => nomatch h))
    rw [e, ← List.append_nil (tcpCancelEffs p0)]
    refine (Own.countersOnly (t := some now) peer none hb h1 h2 h3).toAct.trans ?_
    cases cs[cid]? with
    | none => exact Act.setTcp (n := { n with chans := cs }) hp (h4 _ rfl rfl rfl rfl rfl rfl)
    | some ch =>
      exact Act.setTcp (n := { n with chans := cs }) hp (h4 _ rfl rfl rfl rfl rfl rfl)
        (hl := Nat.le_of_eq (Hs.setChan_length _ _ _).symm)

theorem act_rsts (n m : NetSt) (l : List Nat) (src : String) : Act True none n n (rstEffs m l src) [] := by
  unfold rstEffs
  induction l with
  | nil => exact .refl n
  | cons c rest ih =>
    rw [List.filterMap_cons]
    cases m.chan? c with
    | none => exact ih
    | some ch => exact (Act.direct0 n _ (.inr (.inr (.inr ⟨rfl, rfl⟩))) rfl).trans ih

theorem silent_rsts (n : NetSt) (l : List Nat) (src : String) : silent (rstEffs n l src) := by
  unfold rstEffs
  induction l with
  | nil => simp
  | cons c rest ih =>
    simp only [List.filterMap_cons]
    cases n.chan? c <;> simp [ih, NEff.isSilent]

theorem act_accResetClosed (n : NetSt) (name : String) (s0 : TcpSock) (a0 : AccState)
    (hs : n.tcp? name = some s0) (ha : s0.acc = some a0) :
    Act True none n (accResetClosed n name s0 a0).1 (accResetClosed n name s0 a0).2 [] := by
  unfold accResetClosed
  split
  · dsimp only
    exact (act_rsts n n a0.conns s0.bound.toString).trans
      (.setTcp hs ((SStep.keep (s' := { s0 with acc := some { a0 with conns := [] } })
        (acceptOp := by simp [TcpSock.acceptOp, ha]) (conns := fun _ h => nomatch h)).trans (sstep_abortAccept _)))
  · exact .refl n

/-- `check_accept_queue()` hands the oldest queued connection to the outstanding accept: the accept
    leaves its slot and is posted, the SYN-ACK, which goes out directly, carries the connection's
    channel id, which the function has just looked up in the channel table. (A queued id outside
    the table would lose the handler: this is where `ConnsOk` is needed.) -/
theorem act_accTryAccept (n : NetSt) (now : Int) (name : String) :
    Act True (some now) n (accTryAccept n now name).1 (accTryAccept n now name).2 [] := by
  cases hs : n.tcp? name with
  | none => unfold accTryAccept; rw [hs]; exact .refl n
  | some s =>
    cases ha : s.acc with
    | none => unfold accTryAccept; rw [hs]; dsimp only; rw [ha]; exact .refl n
    | some a =>
      cases hop : a.acceptOp with
      | none => rw [accTryAccept_idle hs ha now (.inl hop)]; exact .refl n
      | some op =>
        cases hcn : a.conns with
        | nil => rw [accTryAccept_idle hs ha now (.inr hcn)]; exact .refl n
        | cons c rest =>
          rw [accTryAccept_pop hs ha now hop hcn]
          unfold accHandOver; dsimp only
          -- the accept leaves its slot and is posted
          have h1 : ∀ d : Compl, d.h = op.h → Act True (some now) n
              (n.setTcp name { s with acc := some { a with conns := rest, acceptOp := none } }) [.post d] [] :=
            fun d hd => .setTcp hs ⟨fun hx => ⟨ids_acceptOp (by simp [TcpSock.acceptOp, ha, hop, effIds, hd]), hx⟩,
              fun x hx => by
                unfold TcpSock.conns; rw [ha]
                simp only [Option.map_some, Option.getD_some, hcn]
                exact List.mem_cons_of_mem _ hx,
              fun _ h => h, .one _⟩
          generalize hx : NetSt.tcpAttach _ now _ s.bound c = x
          have hat : Act True (some now) _ x.1 x.2 [] := hx ▸ act_tcpAttach ..
          have h12 := (h1 { h := op.h, ec := .ok } rfl).trans hat
          cases hch : x.1.chan? c with
          | none =>
            refine ⟨fun _ hc => absurd hch ?_, ⟨h12.wire.len, h12.wire.resend, h12.wire.wire⟩, hat.noInvoke, hat.cfg, hat.shape⟩
            have : c < x.1.chans.length :=
              Nat.lt_of_lt_of_le (hc.ok name s a hs ha c (by rw [hcn]; exact List.mem_cons_self)) h12.wire.len
            rw [← chan?_isSome_iff] at this
            intro e; rw [e] at this; cases this
          | some ch =>
            dsimp only
            -- the SYN-ACK carries `c`, which has just been found in the table
            have hsyn : ∀ p : Pkt, p.ty = .synack → p.chan = some c → Act True (some now) x.1 x.1 [.forward p] [] :=
              fun p ht hp => .direct x.1 p (.inr (.inl ht)) (fun _ d hd =>
                (chan?_isSome_iff x.1 d).mp (by rw [← Option.some.inj (hp.symm.trans hd), hch]; rfl))
            exact Act.post_last ((h1 _ rfl).trans (hat.trans (hsyn _ rfl rfl)))
              (hat.shape.append (CapBlocks.direct _ _ (.inr (.inl rfl)) (Quiet.capBlocks ⟨rfl, rfl, rfl⟩)))
              (he := (List.append_assoc x.2 [_] [_]).symm)

theorem act_accCheckQueue (n : NetSt) (now : Int) (name : String) :
    Act True (some now) n (n.accCheckQueue now name).1 (n.accCheckQueue now name).2 [] := by
  rw [accCheckQueue_eq]
  cases hs : n.tcp? name with
  | none => exact .refl n
  | some s0 =>
    dsimp only
    cases ha : s0.acc with
    | none => exact .refl n
    | some a0 => exact (act_accResetClosed n name s0 a0 hs ha).widen.trans (act_accTryAccept _ now name)

/-- **`acceptor::incoming_packet`**: the only place where a channel id enters an accept queue — the
    SYN's `chan` field; the side condition is on the packet handed in only -/
theorem act_accIncoming (n : NetSt) (now : Int) (name : String) (p : Pkt) :
    Act (∀ c, p.chan = some c → c < n.chans.length) (some now) n (n.accIncoming now name p).1
      (n.accIncoming now name p).2 [] := by
  unfold NetSt.accIncoming
  split
  · rename_i s c hs hty hch
    split
    · rename_i a ha
      exact (Act.setTcpIf (s' := { s with acc := some { a with conns := a.conns ++ [c] } }) hs
        (fun _ => ids_keep (acceptOp := by simp [TcpSock.acceptOp, ha]))
        (fun hp x hx => by
          have hx : x ∈ a.conns ++ [c] := by simpa [TcpSock.conns] using hx
          rcases List.mem_append.mp hx with hx | hx
          · exact .inl (by simpa [TcpSock.conns, ha] using hx)
          · rw [List.mem_singleton] at hx; subst hx; exact .inr (hp x hch))
        (fun _ h => h) .nil).trans (act_accCheckQueue _ now name).weaken
    · exact .refl n
  · rename_i s hs hty
    exact .setTcp hs (sstep_abortAccept s)
  · exact .refl n

/-- the preparation of `async_accept` is a call on the accept's own socket `op.peer` (closed first, or
    created): no other object is touched -/
theorem own_accAcceptPrep (n : NetSt) (now : Int) (name : String) (op : AcceptOp) :
    (∃ fw ch, Own op.peer fw ch (AcceptPre n name op) (some now) n (accAcceptPrep n now name op).1
      (accAcceptPrep n now name op).2 [])
    ∧ (AcceptPre n name op →
        ∃ s', (accAcceptPrep n now name op).1.tcp? name = some s' ∧ s'.acc.isSome) := by
  unfold accAcceptPrep
  cases op with
  | into h peer we =>
    dsimp only
    cases hp : n.tcp? peer with
    | none => exact ⟨⟨none, none, .refl ..⟩, fun hP => hP.1⟩
    | some p =>
      dsimp only
      split
      · refine ⟨⟨_, _, (own_tcpClose n now peer p hp).weaken⟩, fun hP => ?_⟩
        obtain ⟨⟨s, hs, ha⟩, -⟩ := hP
        by_cases hn : name = peer
        · subst hn; cases hs.symm.trans hp
          exact ⟨_, (tcpClose_some n now name p hp).2, ha⟩
        · exact ⟨s, by rw [(own_tcpClose n now peer p hp).frame.tcp name hn]; exact hs, ha⟩
      · exact ⟨⟨none, none, .refl ..⟩, fun hP => hP.1⟩
  | fresh h nn =>
    dsimp only
    cases hs : n.tcp? name with
    | none => exact ⟨⟨none, none, .refl ..⟩, fun hP => by obtain ⟨⟨_, h, _⟩, -⟩ := hP; rw [hs] at h; cases h⟩
    | some s =>
      dsimp only
      refine ⟨⟨none, none, .create (fun hP => hP.2 h nn rfl) rfl (Or.inl rfl) rfl rfl, (TcpFrame.refl ..).setTcp _⟩,
        fun hP => ?_⟩
      obtain ⟨⟨s1, hs1, ha⟩, hf⟩ := hP
      refine ⟨s1, ?_, ha⟩
      have hne : name ≠ nn := by intro e; subst e; rw [hf h name rfl] at hs1; cases hs1
      rw [tcp?_setTcp_other _ _ _ _ hne]; exact hs1

theorem act_accAsyncAccept (n : NetSt) (now : Int) (name : String) (op : AcceptOp) :
    Act (AcceptPre n name op) (some now) n (n.accAsyncAccept now name op).1 (n.accAsyncAccept now name op).2
      [op.h] := by
  rw [accAsyncAccept_eq]
  obtain ⟨⟨_, _, ⟨h0, -⟩⟩, hex⟩ := own_accAcceptPrep n now name op
  cases hs' : (accAcceptPrep n now name op).1.tcp? name with
  | none => exact h0.excluded (fun hP => by obtain ⟨_, h, _⟩ := hex hP; rw [hs'] at h; cases h)
  | some s' =>
    dsimp only
    obtain ⟨f6, _⟩ := tcp_abortAccept_frame s'
    obtain ⟨-, g1, g2, g3, g4⟩ := tcp_abortAccept_slots s'
    have hab := sstep_abortAccept s'
    cases ha2 : s'.abortAccept.1.acc with
    | none =>
      -- not an acceptor: excluded; the model emits the (empty) abort without storing the object
      refine ⟨fun hP => ?_, h0.wire.congr (by rw [wireOf_append, hab.posts.postsOnly.wireOf, List.append_nil]),
        (noInvoke_append _ _).mpr ⟨h0.noInvoke, hab.posts.noInvoke⟩, h0.cfg, h0.shape.append hab.posts.quiet.capAt⟩
      obtain ⟨_, h, ha⟩ := hex hP
      rw [hs'] at h; cases h
      rw [← f6, ha2] at ha; simp at ha
    | some a =>
      dsimp only
      -- the old accept is aborted, the new one parked
      have h1 : SStep s' { s'.abortAccept.1 with acc := some { a with acceptOp := some op } } s'.abortAccept.2 [op.h] := by
        refine ⟨fun hx => ⟨?_, (hab.ids hx).2⟩, fun c hc => hab.conns c ?_, hab.resend, hab.posts⟩
        · -- the accept slot: `op` goes in, the ids of the aborted accept come out
          refine ids_acceptOp ?_ g1 g2 g3 g4
          rw [TcpSock.abortAccept_effs, effIds_tcpAbortAcceptEffs]
          exact List.perm_append_comm (l₁ := [op.h])
        · unfold TcpSock.conns at hc ⊢; rw [ha2]; exact hc
      exact h0.trans ((Act.setTcp hs' h1).trans (act_accCheckQueue _ now name).weaken)
        (he := List.append_assoc _ _ _)

theorem act_accClose (n : NetSt) (now : Int) (name : String) :
    Act True (some now) n (n.accClose now name).1 (n.accClose now name).2 [] := by
  unfold NetSt.accClose
  cases hs : n.tcp? name with
  | none => exact .refl n
  | some s =>
    dsimp only
    have h1 : SStep s (match s.acc with
        | some a => ({ s with acc := some { a with queueLimit := -1 } } : TcpSock)
        | none => s) [] [] := by
      cases ha : s.acc with
      | none => exact .keep
      | some a => exact .keep (acceptOp := by simp [TcpSock.acceptOp, ha]) (conns := by simp [TcpSock.conns, ha])
    exact (Act.setTcp hs (h1.trans (sstep_abortAccept _))).trans
      ((act_tcpClose _ now name).trans (act_accCheckQueue _ now name)) (he := List.append_assoc _ _ _)

theorem accClose_posts (n : NetSt) (now : Int) (name : String) (s : TcpSock) (a : AccState)
    (hs : n.tcp? name = some s) (ha : s.acc = some a) :
    h4_postsOf (n.accClose now name).2 = h4_postsOf (tcpAbortAcceptEffs s) ++ h4_postsOf (tcpCancelEffs s)
    ∧ (n.accClose now name).1.tcp? name
        = some { s.afterClose with acc := some { queueLimit := -1, conns := [], acceptOp := none } } := by
  obtain ⟨cs, -, e⟩ := accClose_exact n now name s hs
  rw [e, ha]
  refine ⟨?_, tcp?_setTcp_same _ _ _⟩
  dsimp only
  rw [postsOf_append, postsOf_append, postsOf_append, postsOf_silent (effs_tcpCloseEof _ _ _ _).1,
    postsOf_silent (silent_rsts n _ _), List.nil_append, List.append_nil]

end SimVerif
