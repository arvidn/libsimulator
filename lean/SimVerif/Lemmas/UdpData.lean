/-
  SimVerif.Lemmas.UdpData — the UDP data path in the open system `NS` (SimVerif/NetSys.lean): the
  system invariant `DInv` (every socket satisfies `UdpSock.DOk` of Lemmas/UdpSock.lean, the ghost
  logs account for every accepted datagram once, in order); `DOp`, the shapes a step has on the
  data side, with `NS.step_dop` (which shape each label has) — `DInv.step`, the growth of the logs
  and "the socket object stays" are read off the shapes; an attached forwarder keeps reaching its
  socket (`fwd_kept_step`).
-/
import SimVerif.Lemmas.NetRun

namespace SimVerif

theorem UdpSock.DOk.movedFrom (u : UdpSock) : u.movedFrom.DOk := by
  constructor <;> simp [UdpSock.movedFrom]

theorem udpMove_tcps (n : NetSt) (src dst : String) : (n.udpMove src dst).tcps = n.tcps := by
  cases h : n.udp? src with
  | none => rw [udpMove_none n src dst h]
  | some u => rw [udpMove_some n src dst u h]; rfl

theorem udpMove_fwdTarget (n : NetSt) (src dst : String) (u : UdpSock) (h : n.udp? src = some u) (g : Nat)
    (hlt : ∀ f, u.fwd = some f → f < n.fwds.length) :
    (n.udpMove src dst).fwdTarget g = if u.fwd = some g then some dst else n.fwdTarget g := by
  rw [show (n.udpMove src dst).fwdTarget g = _ from congrFun (congrArg RV.ft (udpMove_rv n src dst u h).1) g]
  show (if u.fwd = some g ∧ g < n.fwds.length then some dst else n.fwdTarget g) = _
  by_cases hg : u.fwd = some g
  · rw [if_pos hg, if_pos ⟨hg, hlt g hg⟩]
  · rw [if_neg hg, if_neg (fun c => hg c.1)]

/-- The data invariant of the open system: every UDP socket object satisfies the per-socket
    invariant (`account`, `closed_empty`, `hand`, `pend` are `UdpSock.DOk` clause by clause) and
    the ghost logs account for every accepted datagram exactly once, in arrival order (`fifo`). -/
structure DInv (s : NS) : Prop where
  account : ∀ name u, s.n.udp? name = some u → u.isOpen = true → u.queueSize = paySum u.queue
  closed_empty : ∀ name u, s.n.udp? name = some u → u.isOpen = false → u.queue = []
  hand : ∀ name u, s.n.udp? name = some u →
    (u.recvH.isSome = true → u.recvNull = false) ∧ (u.waitRecvH.isSome = true → u.recvNull = true)
  pend : ∀ name u, s.n.udp? name = some u → (u.recvH.isSome = true ∨ u.waitRecvH.isSome = true) →
    u.queue = [] ∧ u.isOpen = true ∧ u.bound.isDefault = false
  fifo : ∀ name, s.acc name = (s.out name).map Prod.fst ++ s.n.uqueue name

theorem DInv.dok {s : NS} (h : DInv s) {name : String} {u : UdpSock} (hu : s.n.udp? name = some u) : u.DOk :=
  ⟨h.account name u hu, h.closed_empty name u hu, (h.hand name u hu).1, (h.hand name u hu).2, h.pend name u hu⟩

theorem DInv.of_dok {s : NS} (hd : ∀ name u, s.n.udp? name = some u → u.DOk)
    (hf : ∀ name, s.acc name = (s.out name).map Prod.fst ++ s.n.uqueue name) : DInv s :=
  ⟨fun x u hu => (hd x u hu).acct, fun x u hu => (hd x u hu).cle, fun x u hu => ⟨(hd x u hu).h1, (hd x u hu).h2⟩,
   fun x u hu => (hd x u hu).pend, hf⟩

theorem DInv.init (c : NetCfg) : DInv (NS.init c) := by
  apply DInv.of_dok
  · intro name u hu; simp [NS.init, NetSt.udp?] at hu
  · intro name; simp [NS.init, NetSt.uqueue, NetSt.udp?]

theorem uqueue_of_udp? {n n' : NetSt} {x : String} (h : n'.udp? x = n.udp? x) : n'.uqueue x = n.uqueue x := by
  unfold NetSt.uqueue; rw [h]

theorem uqueue_some {n : NetSt} {x : String} {u : UdpSock} (h : n.udp? x = some u) : n.uqueue x = u.queue := by
  unfold NetSt.uqueue; rw [h]; rfl

theorem uqueue_none {n : NetSt} {x : String} (h : n.udp? x = none) : n.uqueue x = [] := by
  unfold NetSt.uqueue; rw [h]; rfl

theorem NetSt.udpSame.uqueue {n n' : NetSt} (h : n.udpSame n') (x : String) : n'.uqueue x = n.uqueue x := by
  rcases h x with ⟨a, b⟩ | ⟨u, u', a, b, c⟩
  · rw [uqueue_none a, uqueue_none b]
  · rw [uqueue_some a, uqueue_some b]; exact c.1

theorem DInv.ctl {s : NS} (h : DInv s) (s' : NS) (ha : s'.acc = s.acc) (ho : s'.out = s.out)
    (hs : s.n.udpSame s'.n) : DInv s' := by
  apply DInv.of_dok
  · intro x u' hu'
    rcases hs x with ⟨a, b⟩ | ⟨u, u2, a, b, c⟩
    · rw [b] at hu'; cases hu'
    · rw [b] at hu'; cases hu'
      exact (h.dok a).sameData c
  · intro x; rw [ha, ho, hs.uqueue]; exact h.fifo x

/-- a step that touches one socket and its logs only -/
theorem DInv.pointStep {s : NS} (h : DInv s) (name : String) (s' : NS)
    (hoth : ∀ x, x ≠ name → s'.n.udp? x = s.n.udp? x ∧ s'.acc x = s.acc x ∧ s'.out x = s.out x)
    (hd : ∀ u', s'.n.udp? name = some u' → u'.DOk)
    (hf : s'.acc name = (s'.out name).map Prod.fst ++ s'.n.uqueue name) : DInv s' := by
  apply DInv.of_dok
  · intro x u' hu'
    by_cases hx : x = name
    · subst hx; exact hd u' hu'
    · rw [(hoth x hx).1] at hu'; exact h.dok hu'
  · intro x
    by_cases hx : x = name
    · subst hx; exact hf
    · obtain ⟨a, b, c⟩ := hoth x hx
      rw [b, c, uqueue_of_udp? a]; exact h.fifo x

theorem DInv.readStep {s : NS} (h : DInv s) (name : String) (n' : NetSt)
    (hoth : ∀ x, x ≠ name → n'.udp? x = s.n.udp? x) (hd : ∀ u', n'.udp? name = some u' → u'.DOk)
    (hq : QTail (s.n.uqueue name) (n'.uqueue name)) : DInv (s.readStep name n') := by
  refine h.pointStep name _ (fun x hx => ⟨hoth x hx, rfl, setS_other _ _ _ _ hx⟩) hd ?_
  have e : (Prod.fst ∘ fun (x : Pkt) => (x, true)) = id := rfl
  simp only [NS.readStep, setS_same, List.map_append, List.map_map]
  rw [h.fifo name, e, List.map_id, List.append_assoc, hq.popped_append]

theorem DInv.discardStep {s : NS} (h : DInv s) (name : String) (n' : NetSt) (w : Option UdpSock)
    (hn : ∀ x, n'.udp? x = if x = name then w else s.n.udp? x)
    (hw : ∀ u', w = some u' → u'.DOk ∧ u'.queue = []) : DInv (s.discardStep name n') := by
  have hname : n'.udp? name = w := by rw [hn, if_pos rfl]
  refine h.pointStep name _ (fun x hx => ⟨(hn x).trans (if_neg hx), rfl, setS_other _ _ _ _ hx⟩)
    (fun u' hu' => (hw u' (hname.symm.trans hu')).1) ?_
  have e : (Prod.fst ∘ fun (x : Pkt) => (x, false)) = id := rfl
  have hq : n'.uqueue name = [] := by
    unfold NetSt.uqueue; rw [hname]
    cases w with
    | none => rfl
    | some u' => exact (hw u' rfl).2
  simp only [NS.discardStep, setS_same, List.map_append, List.map_map]
  rw [h.fifo name, e, List.map_id, hq, List.append_nil]

theorem mapUdp_at {n : NetSt} {name : String} {g : UdpSock → UdpSock} {P : UdpSock → Prop} {R : List Pkt → List Pkt → Prop}
    (hR : R [] []) (hg : ∀ u, n.udp? name = some u → P (g u) ∧ R u.queue (g u).queue) :
    (∀ u', (n.mapUdp name g).udp? name = some u' → P u') ∧ R (n.uqueue name) ((n.mapUdp name g).uqueue name) := by
  unfold NetSt.uqueue
  rw [udp?_mapUdp, if_pos rfl]
  cases hu : n.udp? name with
  | none => exact ⟨fun _ e => (by cases e), hR⟩
  | some u => exact ⟨fun u' e => by cases e; exact (hg u hu).1, (hg u hu).2⟩

theorem NS.discardStep_none (s : NS) (name : String) (n' : NetSt) (h : s.n.udp? name = none) :
    s.discardStep name n' = { s with n := n' } := by
  unfold NS.discardStep
  rw [uqueue_none h, List.map_nil, List.append_nil, setS_self]

theorem NS.deliverTo_other (s : NS) (name : String) (u : UdpSock) (p : Pkt) {x : String} (hx : x ≠ name) :
    (s.deliverTo name u p).n.udp? x = s.n.udp? x ∧ (s.deliverTo name u p).acc x = s.acc x
    ∧ (s.deliverTo name u p).out x = s.out x := by
  refine ⟨udp?_setUdp_other _ _ _ _ hx, ?_, setS_other _ _ _ _ hx⟩
  show (if _ then s.acc else _) x = _
  split
  · rfl
  · exact setS_other _ _ _ _ hx

theorem DInv.deliverTo {s : NS} (h : DInv s) {name : String} {u : UdpSock} (hu : s.n.udp? name = some u)
    (ho : u.isOpen = true) (p : Pkt) : DInv (s.deliverTo name u p) := by
  refine h.pointStep name _ (fun x hx => s.deliverTo_other name u p hx) (fun u' hu' => ?_) ?_
  · rw [show (s.deliverTo name u p).n.udp? name = _ from udp?_setUdp_same _ _ _] at hu'; cases hu'
    exact (h.dok hu).incoming p ho
  · show (if _ then s.acc else _) name = (setS s.out name _ name).map Prod.fst ++ _
    rw [uqueue_some (n := (s.deliverTo name u p).n) (u := (u.incoming p).1) (udp?_setUdp_same _ _ _), setS_same]
    have hfx := h.fifo name
    rw [uqueue_some hu] at hfx
    have e : (Prod.fst ∘ fun (x : Pkt) => (x, true)) = id := rfl
    rcases u.incoming_cases p with ⟨hc, ei⟩ | ⟨hc, _, hq⟩
    · simp only [hc, if_true, ei, popped_self, List.map_nil, List.append_nil]
      exact hfx
    · simp only [hc, if_false, setS_same, List.map_append, List.map_map, e, List.map_id]
      rw [List.append_assoc, hq.popped_append, hfx, List.append_assoc]

theorem DInv.deliver {s : NS} (h : DInv s) (hr : RegInv s) (f : Nat) (p : Pkt) : DInv (s.step (.deliver f p)) := by
  rcases NS.step_deliver s f p with e | ⟨name, u, hf, hu, e⟩ <;> rw [e]
  · exact h
  · exact h.deliverTo hu (hr.deliver_open hf hu).1 p

theorem DInv.moved {s : NS} (h : DInv s) {src dst : String} {u : UdpSock} (hu : s.n.udp? src = some u)
    (hfr : s.n.fresh dst = true) :
    DInv { s with n := s.n.udpMove src dst, acc := setS (setS s.acc dst (s.acc src)) src [],
                  out := setS (setS s.out dst (s.out src)) src [] } := by
  have hdn := ((fresh_iff _ _).mp hfr).1
  have hne : dst ≠ src := by intro e; rw [e, hu] at hdn; simp at hdn
  apply DInv.of_dok
  · intro x u' hu'
    have hu2 : (s.n.udpMove src dst).udp? x = some u' := hu'
    rw [udpMove_udp? s.n src dst x u hu] at hu2
    by_cases hx : x = src
    · simp [hx] at hu2; subst hu2; exact UdpSock.DOk.movedFrom u
    · by_cases hx2 : x = dst
      · simp [hx2, hne] at hu2; subst hu2; exact h.dok hu
      · simp [hx, hx2] at hu2; exact h.dok hu2
  · intro x
    show setS (setS s.acc dst (s.acc src)) src [] x
      = (setS (setS s.out dst (s.out src)) src [] x).map Prod.fst ++ (s.n.udpMove src dst).uqueue x
    by_cases hx : x = src
    · subst hx
      rw [uqueue_some (u := u.movedFrom) (by rw [udpMove_udp? s.n x dst x u hu]; simp)]
      simp [UdpSock.movedFrom]
    · by_cases hx2 : x = dst
      · subst hx2
        rw [uqueue_some (u := u) (by rw [udpMove_udp? s.n src x x u hu]; simp [hx])]
        simp only [setS_other _ _ _ _ hx, setS_same]
        have := h.fifo src
        rw [uqueue_some hu] at this; exact this
      · rw [uqueue_of_udp? (n := s.n) (by rw [udpMove_udp? s.n src dst x u hu]; simp [hx, hx2])]
        simp only [setS_other _ _ _ _ hx, setS_other _ _ _ _ hx2]
        exact h.fifo x

def NLbl.detaches (l : NLbl) (name : String) : Bool :=
  match l with
  | .uClose x | .uDestroy x | .uOpen x _ => x == name
  | .uMove src _ => src == name
  | _ => false

/-- The shapes a step of `NS` has on the data side. `ctl`: the control-path and TCP labels. `read`: a
    receive / wait / cancel / set-DF call on `name`. `replace`: a constructor, close, the destructor,
    `open` — what was queued is logged as discarded. `deliver`: a datagram reaches `name` through
    forwarder `f`. `move`: move construction. -/
inductive DOp (s : NS) : NLbl → NS → Prop
  | ctl {l s'} : s.n.udpSame s'.n → s'.acc = s.acc → s'.out = s.out → DOp s l s'
  | read {l} (name : String) (g : UdpSock → UdpSock) : UdpSock.DataCall g → DOp s l (s.readStep name (s.n.mapUdp name g))
  | replace {l} (name : String) (n' : NetSt) (w : Option UdpSock) : (l.detaches name = true ∨ s.n.udp? name = none) →
      (∀ x, n'.udp? x = if x = name then w else s.n.udp? x) → (∀ u', w = some u' → u'.DOk ∧ u'.queue = []) →
      DOp s l (s.discardStep name n')
  | deliver {l} (f : Nat) (name : String) (u : UdpSock) (p : Pkt) : s.n.fwdTarget f = some name →
      s.n.udp? name = some u → DOp s l (s.deliverTo name u p)
  | move (src dst : String) (u : UdpSock) : s.n.udp? src = some u → s.n.fresh dst = true →
      DOp s (.uMove src dst) { s with n := s.n.udpMove src dst, acc := setS (setS s.acc dst (s.acc src)) src [],
                                       out := setS (setS s.out dst (s.out src)) src [] }

theorem DOp.refl (s : NS) (l : NLbl) : DOp s l s := .ctl (.refl _) rfl rfl

/-- `k`: the forwarder id `open` allocates -/
def NLbl.closeTo (l : NLbl) (k : Nat) (u : UdpSock) : Option UdpSock :=
  match l with
  | .uDestroy _ => none
  | .uOpen _ v4 => some (u.opened v4 k)
  | _ => some u.closed

theorem NLbl.closeTo_some {l : NLbl} {k : Nat} {u u' : UdpSock} (h : l.closeTo k u = some u') :
    u'.DOk ∧ u'.queue = [] ∧ u'.queueSize = 0 ∧ (u' = u.closed ∨ ∃ v4, u' = u.opened v4 k) := by
  unfold NLbl.closeTo at h
  split at h <;> cases h
  · exact ⟨.opened u _ k, rfl, rfl, .inr ⟨_, rfl⟩⟩
  · exact ⟨.closed u, rfl, rfl, .inl rfl⟩

theorem NS.step_closes (s : NS) (name : String) (l : NLbl)
    (hl : l = .uClose name ∨ l = .uDestroy name ∨ ∃ v4, l = .uOpen name v4) :
    s.step l = s.discardStep name (s.step l).n
    ∧ ∀ x, (s.step l).n.udp? x
        = if x = name then (s.n.udp? name).bind (l.closeTo s.n.fwds.length) else s.n.udp? x := by
  rcases hl with rfl | rfl | ⟨v4, rfl⟩ <;> refine ⟨rfl, fun x => ?_⟩
  · exact (udpClose_udp? s.n name x).trans (by cases s.n.udp? name <;> rfl)
  · exact (udpDestroy_udp? s.n name x).trans (by cases s.n.udp? name <;> rfl)
  · exact (udpOpen_udp? s.n name x v4).trans (by cases s.n.udp? name <;> rfl)

theorem NS.step_dop (s : NS) (l : NLbl) : DOp s l (s.step l) := by
  cases ht : l.isUdp with
  | false =>
    obtain ⟨hf, ha, ho⟩ := NS.step_nonUdp s l ht
    exact .ctl (.of_udps hf.udps) ha ho
  | true => ?_
  have closes : ∀ name, (l = .uClose name ∨ l = .uDestroy name ∨ ∃ v4, l = .uOpen name v4) → DOp s l (s.step l) :=
    fun name hl => by
      obtain ⟨e, hn⟩ := NS.step_closes s name l hl
      rw [e]
      refine .replace name _ _ (.inl (by rcases hl with rfl | rfl | ⟨v4, rfl⟩ <;> simp [NLbl.detaches])) hn fun u' hu' => ?_
      obtain ⟨u, -, hu⟩ := Option.bind_eq_some_iff.mp hu'
      exact ⟨(NLbl.closeTo_some hu).1, (NLbl.closeTo_some hu).2.1⟩
  have reads : ∀ name, l.dataCall = some name → DOp s l (s.step l) := fun name hl => by
    obtain ⟨g, hg, e⟩ := NS.step_dataCall s l name hl
    rw [e]; exact .read name g hg
  cases l <;> try (exact Bool.noConfusion ht)
  case uNew name node =>
    simp only [NS.step]
    split
    · rename_i hfr
      have hn := ((fresh_iff _ _).mp hfr).1
      rw [← NS.discardStep_none s name _ hn]
      exact .replace name _ (some { node := node }) (.inr hn) (fun x => udp?_setUdp _ _ _ _)
        fun _ e => by cases e; exact ⟨.fresh node, rfl⟩
    · exact .refl s _
  case uOpen name v4 => exact closes name (.inr (.inr ⟨v4, rfl⟩))
  case uBind name ep => exact .ctl (udpBind_rstep s.n name ep).2.2.same rfl rfl
  case uClose name => exact closes name (.inl rfl)
  case uDestroy name => exact closes name (.inr (.inl rfl))
  case uMove src dst =>
    rcases NS.uMove_cases s src dst with ⟨u, hu, hfr, e⟩ | e <;> rw [e]
    · exact .move src dst u hu hfr
    · exact .refl s _
  case uSendTo now name dst payload => exact .ctl (udpSendTo_rstep s.n now name dst payload).2.2.same rfl rfl
  case uRecv name op => exact reads name rfl
  case uRecvNb name caps => exact reads name rfl
  case uWaitRead name hh => exact reads name rfl
  case uWaitWrite now name hh => exact reads name rfl
  case uSendWaitFired name ab =>
    show DOp s _ { s with n := (s.n.udpSendWaitFired name ab).1 }
    rcases udpSendWaitFired_fst s.n name ab with e | e <;> rw [e]
    · exact .refl s _
    · exact .ctl (.mapUdp _ _ _ fun u => ⟨rfl, rfl, rfl, rfl, rfl, rfl, rfl, rfl, fun _ => rfl⟩) rfl rfl
  case uCancel name => exact reads name rfl
  case uSetDf name df => exact reads name rfl
  case deliver f p =>
    rcases NS.step_deliver s f p with e | ⟨name, u, hf, hu, e⟩ <;> rw [e]
    · exact .refl s _
    · exact .deliver f name u p hf hu

theorem DOp.ok {s s' : NS} {l : NLbl} (h : DOp s l s') (hd : DInv s) (hr : RegInv s) : DInv s' := by
  cases h with
  | ctl hs ha ho => exact hd.ctl _ ha ho hs
  | read name g hg =>
    obtain ⟨h1, h2⟩ := mapUdp_at (R := QTail) (QTail.refl _) fun u hu => ⟨hg.2.1 u (hd.dok hu), hg.2.2 u⟩
    exact hd.readStep name _ (fun x hx => by rw [udp?_mapUdp, if_neg hx]) h1 h2
  | replace name n' w _ hn hw => exact hd.discardStep name n' w hn hw
  | deliver f name u p hf hu => exact hd.deliverTo hu (hr.deliver_open hf hu).1 p
  | move src dst u hu hf => exact hd.moved hu hf

theorem DInv.step {s : NS} (h : DInv s) (hr : RegInv s) (l : NLbl) : DInv (s.step l) := (NS.step_dop s l).ok h hr

theorem DInv.run (c : NetCfg) (hc : c.WF) (ls : List NLbl) : DInv ((NS.init c).run ls) := by
  suffices H : ∀ (s : NS), DInv s → RegInv s → DInv (s.run ls) from H _ (DInv.init c) (RegInv.init c hc)
  induction ls with
  | nil => intro s h _; exact h
  | cons l ls ih => intro s h hr; exact ih (s.step l) (h.step hr l) (hr.step l)

def NetSt.keeps (n' : NetSt) (name : String) (u : UdpSock) : Prop :=
  ∃ u', n'.udp? name = some u' ∧ u'.fwd = u.fwd ∧ u'.isOpen = u.isOpen ∧ u'.node = u.node

theorem NetSt.keeps.of_udp? {n n' : NetSt} {name : String} {u : UdpSock} (hu : n.udp? name = some u)
    (h : n'.udp? name = n.udp? name) : n'.keeps name u := ⟨u, by rw [h, hu], rfl, rfl, rfl⟩

theorem NetSt.keeps.of_udpSame {n n' : NetSt} {name : String} {u : UdpSock} (hu : n.udp? name = some u)
    (h : n.udpSame n') : n'.keeps name u := by
  rcases h name with ⟨a, _⟩ | ⟨v, v', a, b, c⟩
  · rw [hu] at a; simp at a
  · rw [hu] at a; simp at a; subst a
    exact ⟨v', b, c.2.2.2.2.2.2.1, c.2.2.1, c.2.2.2.2.2.2.2.1⟩

theorem NetSt.keeps.of_mapUdp {n : NetSt} {name x : String} {u : UdpSock} (hu : n.udp? name = some u)
    (g : UdpSock → UdpSock) (hg : ∀ v : UdpSock, v.sameCtl (g v)) : (n.mapUdp x g).keeps name u := by
  by_cases hx : name = x
  · subst hx
    exact ⟨g u, by rw [udp?_mapUdp]; simp [hu], (hg u).2.1, (hg u).1, (hg u).2.2.2.1⟩
  · exact NetSt.keeps.of_udp? hu (by rw [udp?_mapUdp]; simp [hx])

theorem DOp.keeps {s s' : NS} {l : NLbl} (h : DOp s l s') {name : String} {u : UdpSock}
    (hu : s.n.udp? name = some u) (hl : l.detaches name = false) : s'.n.keeps name u := by
  cases h with
  | ctl hs _ _ => exact .of_udpSame hu hs
  | read x g hg => exact .of_mapUdp hu g hg.1
  | replace x n' w hx hn _ =>
    refine .of_udp? hu ((hn name).trans (if_neg fun e => ?_))
    rcases hx with hx | hx
    · rw [e, hx] at hl; cases hl
    · rw [e, hx] at hu; cases hu
  | deliver f x v p _ hv =>
    rw [show (s.deliverTo x v p).n = s.n.mapUdp x fun u => (u.incoming p).1 by unfold NetSt.mapUdp; rw [hv]; rfl]
    exact .of_mapUdp hu _ (UdpSock.sameCtl_incoming · p)
  | move src dst v hv hf =>
    have h1 : name ≠ src := fun e => by simp [NLbl.detaches, e] at hl
    have h2 : name ≠ dst := fun e => by rw [e, ((fresh_iff _ _).mp hf).1] at hu; cases hu
    exact .of_udp? hu ((udpMove_udp? s.n src dst name v hv).trans (by rw [if_neg h1, if_neg h2]))

theorem NS.step_keeps (s : NS) (l : NLbl) (name : String) (u : UdpSock) (hu : s.n.udp? name = some u)
    (hl : l.detaches name = false) : (s.step l).n.keeps name u := (NS.step_dop s l).keeps hu hl

theorem fwd_kept_step {s : NS} (hr : RegInv s) {f : Nat} {name : String} {u : UdpSock}
    (hu : s.n.udp? name = some u) (hf : s.n.fwdTarget f = some name) (l : NLbl)
    (hl : l.detaches name = false) : (s.step l).n.fwdTarget f = some name := by
  obtain ⟨u', h1, h2, _, _⟩ := NS.step_keeps s l name u hu hl
  have := (hr.deliver_open hf hu).2
  exact ((hr.step l).udp_fwd h1 (by rw [h2, this])).2

/-- the logs only grow, except under move construction, which carries them to the new object -/
theorem DOp.logs {s s' : NS} {l : NLbl} (h : DOp s l s') (hm : ∀ a b, l ≠ .uMove a b) (x : String) :
    (∃ e, s'.acc x = s.acc x ++ e) ∧ (∃ e, s'.out x = s.out x ++ e) := by
  have triv : (∃ e, s.acc x = s.acc x ++ e) ∧ (∃ e, s.out x = s.out x ++ e) := ⟨⟨[], by simp⟩, ⟨[], by simp⟩⟩
  have app : ∀ {α : Type} (f : String → List α) (name : String) (ex : List α),
      ∃ e, setS f name (f name ++ ex) x = f x ++ e := fun f name ex => by
    by_cases hx : x = name
    · subst hx; exact ⟨ex, by simp⟩
    · exact ⟨[], by simp [setS_other _ _ _ _ hx]⟩
  cases h with
  | ctl _ ha ho => rw [ha, ho]; exact triv
  | read name g => exact ⟨triv.1, app s.out name _⟩
  | replace name n' w => exact ⟨triv.1, app s.out name _⟩
  | deliver f name u p =>
    refine ⟨?_, app s.out name _⟩
    show ∃ e, (if u.queueSize + p.size > 262144 then s.acc else _) x = _
    split
    · exact triv.1
    · exact app s.acc name _
  | move a b => exact absurd rfl (hm a b)

end SimVerif
