/-
  Order among queued timers: by expiry, and among equal expiries by arming order
  (`std::upper_bound` insertion is stable). `armSeq` is the ghost serial number `arm`
  assigns; `nextSeq` the ghost counter.
-/
import SimVerif.Lemmas.KernelInv

namespace SimVerif

def OrderedTq (k : K) : Prop :=
  k.tq.Pairwise (fun a b => a.1 < b.1 ∨ (a.1 = b.1 ∧ (k.timers a.2).armSeq < (k.timers b.2).armSeq))

structure OInv (k : K) : Prop where
  ordered : OrderedTq k
  seqLt   : ∀ e i, (e, i) ∈ k.tq → (k.timers i).armSeq < k.nextSeq

theorem OInv_init : OInv ({} : K) := ⟨List.Pairwise.nil, fun _ _ hm => by cases hm⟩

theorem OInv_of_sub (k k' : K) (hs : k'.tq.Sublist k.tq)
    (hseq : ∀ j, (k'.timers j).armSeq = (k.timers j).armSeq) (hn : k'.nextSeq = k.nextSeq)
    (ho : OInv k) : OInv k' := by
  refine ⟨?_, fun e i hm => by rw [hseq, hn]; exact ho.seqLt e i (hs.subset hm)⟩
  unfold OrderedTq; simp only [hseq]
  exact ho.ordered.sublist hs

theorem OInv_fire (k : K) (i : Nat) (ec : Ec) (ho : OInv k) : OInv (fire k i ec) := by
  rw [fire_eq]
  exact OInv_of_sub k _ (List.Sublist.refl _) (setF_proj TimerSt.armSeq _ _ _ rfl) rfl ho

theorem OInv_cancel (k : K) (i : Nat) (ho : OInv k) : OInv (cancel k i).1 := by
  rw [cancel_fst]; split
  · exact ho
  · exact OInv_of_sub k _ List.erase_sublist (setF_proj TimerSt.armSeq _ _ _ rfl) rfl ho

theorem OInv_setHandler (k : K) (i h : Nat) (ho : OInv k) : OInv (setHandler k i h) :=
  OInv_of_sub k _ (List.Sublist.refl _) (setF_proj TimerSt.armSeq _ _ _ rfl) rfl ho

/-- Arming a timer that is not in the queue: it gets the largest serial number and is
    inserted after every entry with the same expiry. -/
theorem OInv_arm (k : K) (i : Nat) (e : Int) (ho : OInv k) (hnotin : ∀ e', (e', i) ∉ k.tq) :
    OInv (arm k i e) := by
  have hoth : ∀ x ∈ k.tq, ((arm k i e).timers x.2).armSeq = (k.timers x.2).armSeq := fun x hx =>
    congrArg _ (setF_other _ _ _ _ fun h => hnotin x.1 (h ▸ hx))
  have hsame : ((arm k i e).timers i).armSeq = k.nextSeq := by simp [arm]
  constructor
  · refine pairwise_insertUB (ho.ordered.imp_of_mem fun ha hb h => ?_) (fun x y h => ?_)
      (fun x hx hle => ?_) (fun x _ hlt => .inl hlt)
    · rwa [hoth _ ha, hoth _ hb]
    · omega
    · have := ho.seqLt x.1 x.2 hx
      rw [hsame, hoth x hx]; dsimp only; omega
  · intro e' j hm
    show _ < k.nextSeq + 1
    rcases (mem_insertUB ..).mp hm with hm | hm
    · cases hm; omega
    · have := ho.seqLt e' j hm; have := hoth _ hm; dsimp only at this; omega

theorem OInv_of_eq (k k' : K) (ht : k'.tq = k.tq) (hm : k'.timers = k.timers)
    (hn : k'.nextSeq = k.nextSeq) (ho : OInv k) : OInv k' :=
  OInv_of_sub k k' (ht ▸ List.Sublist.refl _) (fun _ => by rw [hm]) hn ho

theorem KInv_OInv_step (k : K) (l : Lbl) (h : KInv k ∧ OInv k) :
    KInv (step repaired k l) ∧ OInv (step repaired k l) :=
  step_ind repaired (P := fun k => KInv k ∧ OInv k) k l h
    (hcancel := fun k i h => ⟨KInv_cancel k i h.1, OInv_cancel k i h.2⟩)
    (harm := fun k i e hexp h => ⟨KInv_arm k i e hexp h.1, OInv_arm k i e h.2 (h.1.not_mem_tq hexp)⟩)
    (hset := fun k' i a _ hne _ h => ⟨KInv_setHandler k' i a hne h.1, OInv_setHandler k' i a h.2⟩)
    (hnow := fun i a _ hexp hdue =>
      ⟨KInv_waitNow k i a hexp (hdue rfl) h.1, OInv_fire _ i .ok (OInv_setHandler k i a h.2)⟩)
    (hpost := fun k a h => ⟨KInv_post k a h.1, OInv_of_eq k _ rfl rfl rfl h.2⟩)
    (hexec := fun t rest _ hr => ⟨KInv_exec k h.1 hr, OInv_of_eq k _ rfl rfl rfl h.2⟩)
    (hstop := fun k b h => ⟨KInv_setStopped k b h.1, OInv_of_eq k _ rfl rfl rfl h.2⟩)
    (htick := fun e i rest _ hr htq =>
      ⟨KInv_tick repaired rfl k e i rest hr htq h.1, OInv_of_eq k _ rfl rfl rfl h.2⟩)
    (hpop := fun k e i rest htq hdue h => ⟨KInv_popFire k e i rest htq hdue h.1,
      OInv_fire _ i .ok (OInv_of_sub k _ (htq ▸ List.sublist_cons_self ..) (fun _ => rfl) rfl h.2)⟩)

theorem KInv_OInv_run (ls : List Lbl) (k : K) (h : KInv k ∧ OInv k) :
    KInv (runLbls repaired k ls) ∧ OInv (runLbls repaired k ls) :=
  List.foldlRecOn ls _ (motive := fun k => KInv k ∧ OInv k) h fun k h l _ =>
    KInv_OInv_step k l h

end SimVerif
