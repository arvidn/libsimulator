/-
  SimVerif.Lemmas.TcpBasic — effect lists of the open system (`s5_fwdsOf`, `postsOf` of what
  `send_packet` emits) and the reader's queue (`takeQueued`, the bytes it holds); first a lookup
  through `List.map` with one key replaced.
-/
import SimVerif.StreamSys
import SimVerif.Lemmas.TcpEq

namespace SimVerif

theorem s5_lookup_map_set {α : Type} (l : List (String × α)) (k k' : String) (v : α) :
    (l.map (fun e => if e.1 == k then (k, v) else e)).lookup k'
      = if k' = k then (l.lookup k).map (fun _ => v) else l.lookup k' := by
  rw [lookup_map_replace]; cases l.lookup k <;> rfl

theorem s5_fwdsOf_eq (l : List NEff) : s5_fwdsOf l = s5_forwards l := by
  induction l with
  | nil => rfl
  | cons e r ih => cases e <;> simp only [s5_fwdsOf, ih] <;> rfl

@[simp] theorem fwdsOf_nil : s5_fwdsOf [] = [] := rfl
@[simp] theorem s5_fwdsOf_append (a b : List NEff) : s5_fwdsOf (a ++ b) = s5_fwdsOf a ++ s5_fwdsOf b := by
  simp only [s5_fwdsOf_eq, s5_forwards_append]

@[simp] theorem fwdsOf_post (c : Compl) (r : List NEff) : s5_fwdsOf (.post c :: r) = s5_fwdsOf r := rfl
@[simp] theorem fwdsOf_forward (p : Pkt) (r : List NEff) : s5_fwdsOf (.forward p :: r) = p :: s5_fwdsOf r := rfl

theorem Posts.s5_fwdsOf {l : List NEff} (h : Posts l) : s5_fwdsOf l = [] := (s5_fwdsOf_eq l).trans h.fwds

theorem s5_fwdsOf_sendEffs (pcap : Bool) (now : Int) (src dst : Ep) (seq : Nat) (p : Pkt) :
    s5_fwdsOf (sendEffs pcap now src dst seq p) = [{ p with bc := seq }] := by
  cases pcap <;> rfl
theorem postsOf_sendEffs (pcap : Bool) (now : Int) (src dst : Ep) (seq : Nat) (p : Pkt) :
    postsOf (sendEffs pcap now src dst seq p) = [] := by
  cases pcap <;> rfl

def bytesOf (q : List Pkt) : List UInt8 := (q.map (·.payload)).flatten

@[simp] theorem bytesOf_nil : bytesOf [] = [] := rfl
@[simp] theorem bytesOf_cons (p : Pkt) (q : List Pkt) : bytesOf (p :: q) = p.payload ++ bytesOf q := by simp [bytesOf]
@[simp] theorem bytesOf_append (a b : List Pkt) : bytesOf (a ++ b) = bytesOf a ++ bytesOf b := by simp [bytesOf]

theorem takeQueued_zero (cap : Nat) (q : List Pkt) : takeQueued 0 cap q = ([], q) := by
  simp [takeQueued]
theorem takeQueued_cap0 (f : Nat) (q : List Pkt) : takeQueued f 0 q = ([], q) := by
  cases f <;> simp [takeQueued]
theorem takeQueued_nil (f cap : Nat) : takeQueued f cap [] = ([], []) := by
  cases f <;> cases cap <;> simp [takeQueued]
theorem takeQueued_cons (f cap : Nat) (p : Pkt) (rest : List Pkt) :
    takeQueued (f + 1) (cap + 1) (p :: rest) =
      if p.ty == .err then ([], p :: rest)
      else if p.payload.length ≤ cap + 1 then
        (p.payload ++ (takeQueued f (cap + 1 - p.payload.length) rest).1, (takeQueued f (cap + 1 - p.payload.length) rest).2)
      else (p.payload.take (cap + 1), { p with payload := p.payload.drop (cap + 1) } :: rest) := by
  simp [takeQueued]

def TqRel (q' q : List Pkt) : Prop :=
  (q'.map (·.id)).Sublist (q.map (·.id))
  ∧ ∀ p' ∈ q', ∃ p ∈ q, p'.id = p.id ∧ p'.ty = p.ty ∧ (p'.ty = .err → p'.payload = p.payload)

theorem TqRel.refl (q : List Pkt) : TqRel q q :=
  ⟨List.Sublist.refl _, fun p' hp => ⟨p', hp, rfl, rfl, fun _ => rfl⟩⟩

theorem takeQueued_spec : ∀ (f cap : Nat) (q : List Pkt),
    (takeQueued f cap q).1 ++ bytesOf (takeQueued f cap q).2 = bytesOf q
    ∧ TqRel (takeQueued f cap q).2 q := by
  intro f
  induction f with
  | zero => intro cap q; rw [takeQueued_zero]; exact ⟨by simp, TqRel.refl q⟩
  | succ f ih =>
    intro cap q
    cases cap with
    | zero => rw [takeQueued_cap0]; exact ⟨by simp, TqRel.refl q⟩
    | succ cap =>
      cases q with
      | nil => rw [takeQueued_nil]; exact ⟨by simp, TqRel.refl _⟩
      | cons p rest =>
        rw [takeQueued_cons]
        split
        · exact ⟨by simp, TqRel.refl _⟩
        · split
          · obtain ⟨h1, h2, h3⟩ := ih (cap + 1 - p.payload.length) rest
            refine ⟨?_, ?_, ?_⟩
            · simp [List.append_assoc, h1]
            · exact List.Sublist.trans h2 (by simp)
            · intro p' hp
              obtain ⟨x, hx, hh⟩ := h3 p' hp
              exact ⟨x, List.mem_cons_of_mem _ hx, hh⟩
          · rename_i hty _
            refine ⟨?_, ?_, ?_⟩
            · simp only [bytesOf_cons]; rw [← List.append_assoc, List.take_append_drop]
            · simp
            · intro p' hp
              simp only [List.mem_cons] at hp
              rcases hp with rfl | hp
              · refine ⟨p, by simp, rfl, rfl, ?_⟩
                intro he; simp at hty; exact absurd he hty
              · exact ⟨p', by simp [hp], rfl, rfl, fun _ => rfl⟩

/-- bytes queued before the first error packet -/
def availBytes (q : List Pkt) : List UInt8 := bytesOf (q.takeWhile (fun p => p.ty != .err))

theorem takeQueued_is_take : ∀ (f cap : Nat) (q : List Pkt), q.length < f →
    (takeQueued f cap q).1 = (availBytes q).take cap
    ∧ availBytes (takeQueued f cap q).2 = (availBytes q).drop cap
    ∧ (takeQueued f cap q).2.dropWhile (fun p => p.ty != .err) = q.dropWhile (fun p => p.ty != .err) := by
  intro f
  induction f with
  | zero => intro cap q h; omega
  | succ f ih =>
    intro cap q hlen
    cases cap with
    | zero => rw [takeQueued_cap0]; simp
    | succ cap =>
      cases q with
      | nil => rw [takeQueued_nil]; simp [availBytes]
      | cons p rest =>
        rw [takeQueued_cons]
        by_cases hty : (p.ty == .err) = true
        · have : (p.ty != .err) = false := by simp [bne, hty]
          simp [hty, availBytes, this]
        · have hne : (p.ty != .err) = true := by simp [bne, hty]
          simp only [hty, Bool.false_eq_true, if_false]
          by_cases hfit : p.payload.length ≤ cap + 1
          · simp only [hfit, if_true]
            obtain ⟨h1, h2, h3⟩ := ih (cap + 1 - p.payload.length) rest (by simp at hlen; omega)
            refine ⟨?_, ?_, ?_⟩
            · simp only [availBytes, List.takeWhile_cons, hne, if_true, bytesOf_cons]
              rw [h1, List.take_append]
              simp [availBytes, List.take_of_length_le hfit]
            · simp only [availBytes, List.takeWhile_cons, hne, if_true, bytesOf_cons] at h2 ⊢
              rw [h2, List.drop_append]
              simp [List.drop_of_length_le hfit]
            · simp only [List.dropWhile_cons, hne, if_true]; exact h3
          · simp only [hfit, if_false]
            have hgt : cap + 1 < p.payload.length := by omega
            refine ⟨?_, ?_, ?_⟩
            · simp only [availBytes, List.takeWhile_cons, hne, if_true, bytesOf_cons]
              rw [List.take_append_of_le_length (by omega)]
            · simp only [availBytes, List.takeWhile_cons, hne, if_true, bytesOf_cons]
              rw [List.drop_append_of_le_length (by omega)]
            · simp [hne]

end SimVerif
