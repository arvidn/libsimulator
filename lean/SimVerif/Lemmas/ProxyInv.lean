/-
  SimVerif.Lemmas.ProxyInv — the invariant of the open proxy system `PS` (SimVerif/HttpProxySys.lean)
  and its preservation by every event the environment may deliver.

  An event that keeps the session has a state equation `step_* : s.step lit e = { s with … }`; the
  invariant proof then re-proves only the clauses that record touches (`{ h with … }`), the
  origin-side ones (`SrvInv`) through one lemma per operation the callbacks are made of. An error
  completion ends in `close_connection()`, which leaves a state without connection (`PSInv_idle`).
  `on_read_request` is one induction over its loop (`loop_spec`).

  First the checked memory of the proxy model: what a buffer holds in its first `n` bytes (`view`),
  and how `memRead` / `memWrite` act on it.
-/
import SimVerif.Lemmas.ProxyScan

namespace SimVerif.HttpProxy

open SimVerif.Http

/-- the first `n` bytes of the array whose initialised prefix is `m` -/
def view (m : Bytes) (n : Nat) : Bytes := (padTo m n).take n

/-- the array after `d` was copied to offset `off` -/
def written (m : Bytes) (off : Nat) (d : Bytes) : Bytes :=
  (padTo m off).take off ++ d ++ m.drop (off + d.length)

theorem padTo_length (m : Bytes) (n : Nat) : (padTo m n).length = max m.length n := by
  rw [padTo, List.length_append, List.length_replicate]; omega

@[simp] theorem view_length (m : Bytes) (n : Nat) : (view m n).length = n := by
  rw [view, List.length_take, padTo_length]; omega

@[simp] theorem view_zero (m : Bytes) : view m 0 = [] := rfl

theorem memRead_ok (m : Bytes) (off n : Nat) (h : off + n ≤ BUF) :
    memRead m off n = .ok ((view m (off + n)).drop off) := by
  rw [memRead, if_pos h, view, List.drop_take, Nat.add_sub_cancel_left]

theorem memRead_zero (m : Bytes) (n : Nat) (h : n ≤ BUF) : memRead m 0 n = .ok (view m n) := by
  simpa using memRead_ok m 0 n (by simpa using h)

theorem memWrite_ok (m : Bytes) (off : Nat) (d : Bytes) (h : off + d.length ≤ BUF) :
    memWrite m off d = .ok (written m off d) := if_pos h

theorem memWrite_oob (m : Bytes) (off : Nat) (d : Bytes) (h : ¬ off + d.length ≤ BUF) :
    memWrite m off d = .error .oob := if_neg h

theorem view_append (a b : Bytes) : view (a ++ b) a.length = a := by
  rw [view, padTo, List.append_assoc, List.take_left' rfl]

theorem view_written (m : Bytes) (off : Nat) (d : Bytes) :
    view (written m off d) (off + d.length) = view m off ++ d := by
  have := view_append (view m off ++ d) (m.drop (off + d.length))
  rw [List.length_append, view_length] at this
  exact this

theorem view_written_zero (m d : Bytes) : view (written m 0 d) d.length = d := by
  simpa using view_written m 0 d

theorem view_take (m : Bytes) (a b : Nat) (h : a ≤ b) : (view m b).take a = view m a := by
  rw [view, List.take_take, Nat.min_eq_left h, view, padTo, padTo, List.take_append, List.take_append,
    List.take_replicate, List.take_replicate, Nat.min_self, Nat.min_eq_left (Nat.sub_le_sub_right h _)]

structure PSInv (s : PS) : Prop where
  no_ub     : s.ub = false
  nCin_le   : s.p.nCin ≤ BUF
  nSout_le  : s.p.nSout ≤ BUF
  read_at   : ∀ off cap ses, s.clientRead = some (off, cap, ses) →
                off = s.p.nCin ∧ cap = BUF - s.p.nCin ∧ s.p.nCin < BUF ∧ ses = s.p.session
  idle_zero : s.clientRead = none → s.p.nCin = 0
  acc_idle  : s.accepting = true → s.clientRead = none
  ses_res   : ∀ ses, s.resolving = some ses → ses = s.p.session
  ses_conn  : ∀ ses, s.connectingOp = some ses → ses = s.p.session
  ses_sw    : ∀ w ses, s.serverWrite = some (w, ses) → ses = s.p.session
  ses_sr    : ∀ ses, s.serverRead = some ses → ses = s.p.session
  ses_cw    : ∀ k ses, s.clientWrite = some (k, ses) → ses = s.p.session
  fifo      : s.toOrigin ++ view s.p.sout s.p.nSout = s.queued
  write_buf : ∀ w ses, s.serverWrite = some (w, ses) →
                s.p.writing = true ∧ w.length ≤ s.p.nSout ∧ w = (view s.p.sout s.p.nSout).take w.length
  scanned   : ∃ l, scan (s.fromClient.length + 1) s.fromClient = (l, some (view s.p.cin s.p.nCin)) ∧ s.queued = outs l
  relay     : s.toClient = s.fromOrigin
  live      : s.p.close = false → (s.accepting = true ∨ s.clientRead.isSome = true)
  stopped   : s.p.close = true → s.accepting = false

/-- the clauses of the invariant that speak about the origin side and the bookkeeping only: what still holds
    inside `on_read_request`'s loop (`LoopInv`), where the client-side clauses of `PSInv` do not -/
structure SrvInv (s : PS) : Prop where
  no_ub     : s.ub = false
  nSout_le  : s.p.nSout ≤ BUF
  ses_res   : ∀ ses, s.resolving = some ses → ses = s.p.session
  ses_conn  : ∀ ses, s.connectingOp = some ses → ses = s.p.session
  ses_sw    : ∀ w ses, s.serverWrite = some (w, ses) → ses = s.p.session
  ses_sr    : ∀ ses, s.serverRead = some ses → ses = s.p.session
  ses_cw    : ∀ k ses, s.clientWrite = some (k, ses) → ses = s.p.session
  fifo      : s.toOrigin ++ view s.p.sout s.p.nSout = s.queued
  write_buf : ∀ w ses, s.serverWrite = some (w, ses) →
                s.p.writing = true ∧ w.length ≤ s.p.nSout ∧ w = (view s.p.sout s.p.nSout).take w.length
  relay     : s.toClient = s.fromOrigin
  stopped   : s.p.close = true → s.accepting = false

theorem PSInv.srv {s : PS} (h : PSInv s) : SrvInv s :=
  ⟨h.no_ub, h.nSout_le, h.ses_res, h.ses_conn, h.ses_sw, h.ses_sr, h.ses_cw, h.fifo, h.write_buf, h.relay, h.stopped⟩

@[simp] theorem PS.acts_nil (s : PS) : s.acts [] = s := rfl
@[simp] theorem PS.acts_cons (s : PS) (a : Act) (l : List Act) : s.acts (a :: l) = (s.act a).acts l := rfl
theorem PS.acts_append (s : PS) (l1 l2 : List Act) : s.acts (l1 ++ l2) = (s.acts l1).acts l2 :=
  List.foldl_append ..

namespace PS

theorem act_setP (s : PS) (q : Px) (a : Act) : ({ s with p := q }).act a = { (s.act a) with p := q } := by
  cases a with
  | writeClient d k ses => cases k <;> rfl
  | _ => rfl

theorem acts_setP (s : PS) (q : Px) (l : List Act) : ({ s with p := q }).acts l = { (s.acts l) with p := q } := by
  induction l generalizing s with
  | nil => rfl
  | cons a l ih => simp only [acts_cons, act_setP, ih]

theorem apply_p (s : PS) (r : Px × List Act) : (s.apply r).p = r.1 := by
  simp [PS.apply, acts_setP]

end PS

theorem stale_false (p : Px) (ec : Ec) (h : ec ≠ .aborted) : stale p p.session ec = false := by
  simp [stale, h]

theorem apply_closeConnection (s : PS) (q : Px) :
    s.apply (closeConnection q) =
      { p := (closeConnection q).1, accepting := if q.close then s.accepting else true,
        sessions := s.sessions + 1, ub := s.ub } := by
  obtain ⟨_, _, _, _, _, _, _, _, c, _⟩ := q
  cases c <;> rfl

theorem wssb_eq (p : Px) (h : p.nSout ≤ BUF) :
    writeServerSendBuffer p =
      ({ p with writing := true }, if p.writing then [] else [.writeServer (view p.sout p.nSout) p.session]) := by
  obtain ⟨w, _, _, _, _, _, _, _, _, _⟩ := p
  cases w
  · simp only [writeServerSendBuffer, memRead_zero _ _ h]; rfl
  · rfl

theorem acts_kick (s : PS) (w : Bool) (v : Bytes) (ses : Nat) :
    s.acts (if w then [] else [.writeServer v ses]) = { s with serverWrite := if w then s.serverWrite else some (v, ses) } := by
  cases w <;> rfl

theorem apply_wssb (s : PS) (q : Px) (h : q.nSout ≤ BUF) :
    s.apply (writeServerSendBuffer q) =
      { s with p := { q with writing := true },
               serverWrite := if q.writing then s.serverWrite else some (view q.sout q.nSout, q.session) } := by
  rw [wssb_eq _ h]
  cases q.writing <;> rfl

theorem error_eq (p : Px) (code : Nat) (msg : Bytes) (h : (sendResponse code msg).length ≤ BUF) :
    error p code msg = ({ p with inb := written p.inb 0 (sendResponse code msg) },
                        [.writeClient (sendResponse code msg) .closeConn p.session]) := by
  rw [error, memWrite_ok _ _ _ (by simpa using h)]

/-- `forward_request` after its three `throw`s: the rewritten request is appended to the server-out
    queue and, unless a connection is being made, a lookup, a connect or a write is started -/
def forwardOk (lit : Bytes → Option Bool) (p : Px) (rw : Rewritten) : Px × List Act :=
  let q : Px := { p with sout := written p.sout p.nSout rw.out, nSout := p.nSout + rw.out.length }
  if p.connecting then (q, [.queued rw.out])
  else if p.srvOpen then
    ({ q with writing := true },
     .queued rw.out :: if p.writing then [] else [.writeServer (view q.sout q.nSout) p.session])
  else match lit rw.host with
    | none => ({ q with connecting := true }, [.queued rw.out, .resolve rw.host (portStr rw.port) p.session])
    | some v4 => ({ q with connecting := true, srvOpen := true },
                  [.queued rw.out, .openServer v4, .connect rw.host (toU16 rw.port) p.session])

/-- the full-queue test of `forward_request` makes its copy into the queue (and the hand-out of the
    queue to the socket) lie within the array -/
theorem forwardRequest_eq (lit : Bytes → Option Bool) (p : Px) (req : Request) :
    forwardRequest lit p req = match rewrite req with
      | .error _ => .error ()
      | .ok rw => if p.nSout + rw.out.length > BUF then .error () else .ok (forwardOk lit p rw) := by
  unfold forwardRequest
  cases rewrite req with
  | error _ => rfl
  | ok rw =>
    dsimp only
    split
    · rfl
    · rename_i hfit
      simp only [memWrite_ok _ _ _ (Nat.not_lt.1 hfit), wssb_eq { p with sout := _, nSout := _ } (Nat.not_lt.1 hfit),
        forwardOk]
      cases p.connecting <;> cases p.srvOpen <;> cases lit rw.host <;> rfl

theorem onServerWrite_ok (p : Px) (n : Nat) (hn : n ≤ p.nSout) (hb : p.nSout ≤ BUF) :
    onServerWrite p p.session .ok n =
      (let p2 : Px := { p with writing := false, sout := written p.sout 0 ((view p.sout p.nSout).drop n), nSout := p.nSout - n }
       if p2.nSout > 0 then writeServerSendBuffer p2 else (p2, [])) := by
  rw [onServerWrite, stale_false p .ok (by decide)]
  simp only [Bool.false_eq_true, if_false, ne_eq, not_true_eq_false, if_neg (Nat.not_lt.2 hn)]
  rw [memRead_ok _ _ _ (by omega), Nat.add_sub_cancel' hn]
  simp only []
  rw [memWrite_ok _ _ _ (by simp; omega)]

/-- with no client connection and nothing outstanding but perhaps the accept, the invariant holds -/
theorem PSInv_idle (q : Px) (k : Nat) (h0 : q.nCin = 0) (h1 : q.nSout = 0) :
    PSInv { p := q, accepting := !q.close, sessions := k } where
  no_ub := rfl
  nCin_le := h0 ▸ Nat.zero_le _
  nSout_le := h1 ▸ Nat.zero_le _
  read_at := nofun
  idle_zero _ := h0
  acc_idle _ := rfl
  ses_res := nofun
  ses_conn := nofun
  ses_sw := nofun
  ses_sr := nofun
  ses_cw := nofun
  fifo := by rw [h1]; rfl
  write_buf := nofun
  scanned := ⟨[], by rw [h0]; exact scan_nil, rfl⟩
  relay := rfl
  live hc := .inl (by rw [hc]; rfl)
  stopped hc := by rw [hc]; rfl

theorem PSInv_init (port : Nat) : PSInv (PS.init port) := PSInv_idle {} 0 rfl rfl

/-- `close_connection()` re-establishes the invariant from almost nothing -/
theorem PSInv_closeConnection (s : PS) (p' : Px) (hub : s.ub = false) (hst : p'.close = true → s.accepting = false) :
    PSInv (s.apply (closeConnection p')) := by
  have ha : (if p'.close then s.accepting else true) = !p'.close := by
    cases hc : p'.close
    · rfl
    · exact hst hc
  rw [apply_closeConnection, hub, ha]
  exact PSInv_idle _ _ rfl rfl

section
variable (lit : Bytes → Option Bool) (s : PS)

theorem step_accepted_ok :
    s.step lit (.accepted .ok) = { s with accepting := false, clientRead := some (0, BUF, s.p.session) } := rfl

theorem step_lookup_fail (ec : Ec) (ips : List (Bytes × Nat × Bool)) (hr : s.resolving = some s.p.session)
    (hna : ec ≠ .aborted) (hf : ec ≠ .ok ∨ ips = []) :
    s.step lit (.lookup ec ips) =
      { s with p := { s.p with connecting := false, inb := written s.p.inb 0 resp503Lookup }, resolving := none,
               clientWrite := some (.closeConn, s.p.session), errResp := s.errResp ++ [resp503Lookup] } := by
  have : onDomainLookup s.p s.p.session ec ips = error { s.p with connecting := false } 503 MSG_RESOURCE := by
    unfold onDomainLookup
    rw [stale_false _ ec hna]
    cases ips with
    | nil => rfl
    | cons x r => simp [hf.resolve_right (List.cons_ne_nil x r)]
  simp only [PS.step, hr, this, error_eq _ 503 MSG_RESOURCE (by decide)]
  rfl

theorem step_lookup_ok (a : Bytes) (port : Nat) (v4 : Bool) (rest : List (Bytes × Nat × Bool))
    (hr : s.resolving = some s.p.session) :
    s.step lit (.lookup .ok ((a, port, v4) :: rest)) =
      { s with p := { s.p with srvOpen := true }, resolving := none, connectingOp := some s.p.session,
               serverWrite := none, serverRead := none } := by
  simp only [PS.step, hr, onDomainLookup, stale_false _ .ok (by decide)]
  rfl

theorem step_connected_fail (ec : Ec) (hr : s.connectingOp = some s.p.session) (hne : ec ≠ .ok) (hna : ec ≠ .aborted) :
    s.step lit (.connected ec) =
      { s with p := { s.p with connecting := false, srvOpen := false, inb := written s.p.inb 0 resp503Connect },
               connectingOp := none, serverWrite := none, serverRead := none,
               clientWrite := some (.closeConn, s.p.session), errResp := s.errResp ++ [resp503Connect] } := by
  simp only [PS.step, hr, onConnected, stale_false _ ec hna, Bool.false_eq_true, if_false, if_pos hne,
    error_eq _ 503 MSG_SERVICE (by decide)]
  rfl

theorem step_connected_ok (hr : s.connectingOp = some s.p.session) (hle : s.p.nSout ≤ BUF) :
    s.step lit (.connected .ok) =
      { s with p := { s.p with connecting := false, writing := true }, connectingOp := none,
               serverWrite := if s.p.writing then s.serverWrite else some (view s.p.sout s.p.nSout, s.p.session),
               serverRead := some s.p.session } := by
  simp only [PS.step, hr, onConnected, stale_false _ .ok (by decide), Bool.false_eq_true, if_false, ne_eq,
    not_true_eq_false, wssb_eq { s.p with connecting := false } hle]
  cases s.p.writing <;> rfl

theorem step_serverData (d : Bytes) (hr : s.serverRead = some s.p.session) (hd : d.length ≤ BUF) :
    s.step lit (.serverData d) =
      { s with p := { s.p with inb := written s.p.inb 0 d }, serverRead := none, fromOrigin := s.fromOrigin ++ d,
               clientWrite := some (.forward, s.p.session), toClient := s.toClient ++ d } := by
  simp only [PS.step, hr, onServerReceive, memWrite_ok _ 0 d (by simpa using hd),
    stale_false { s.p with inb := _ } .ok (by decide), Bool.false_eq_true, if_false, ne_eq, not_true_eq_false,
    memRead_zero _ _ hd, view_written_zero]
  rfl

theorem step_clientWritten_ok (hr : s.clientWrite = some (.forward, s.p.session)) :
    s.step lit (.clientWritten .ok) = { s with clientWrite := none, serverRead := some s.p.session } := by
  simp only [PS.step, hr, onServerForward, stale_false _ .ok (by decide)]
  rfl

theorem step_stop : s.step lit .stop = { s with p := { s.p with close := true }, accepting := false } := rfl

end

namespace SrvInv
variable {s : PS} (h : SrvInv s)
include h

/-- `write_server_send_buffer()` -/
theorem kick :
    SrvInv { s with p := { s.p with writing := true },
                    serverWrite := if s.p.writing then s.serverWrite else some (view s.p.sout s.p.nSout, s.p.session) } :=
  { h with
    ses_sw := fun w ses hh => by
      split at hh
      · exact h.ses_sw w ses hh
      · cases hh; rfl
    write_buf := fun w ses hh => by
      split at hh
      · exact ⟨rfl, (h.write_buf w ses hh).2⟩
      · cases hh
        exact ⟨rfl, by simp, (List.take_of_length_le (by simp)).symm⟩ }

/-- `open_forward_connection` -/
theorem connect : SrvInv { s with connectingOp := some s.p.session, serverWrite := none, serverRead := none } :=
  { h with
    ses_conn := fun _ hh => (Option.some.inj hh).symm
    ses_sw := nofun
    ses_sr := nofun
    write_buf := nofun }

/-- `error()` -/
theorem error (d : Bytes) :
    SrvInv { s with clientWrite := some (.closeConn, s.p.session), errResp := s.errResp ++ [d] } :=
  { h with ses_cw := fun _ _ hh => by cases hh; rfl }

/-- the `memmove` of `forward_request` -/
theorem enqueue (b : Bytes) (hfit : s.p.nSout + b.length ≤ BUF) :
    SrvInv { s with p := { s.p with sout := written s.p.sout s.p.nSout b, nSout := s.p.nSout + b.length },
                    queued := s.queued ++ b } :=
  have hv := view_written s.p.sout s.p.nSout b
  { h with
    nSout_le := hfit
    fifo := by
      show s.toOrigin ++ view _ (s.p.nSout + b.length) = s.queued ++ b
      rw [hv, ← List.append_assoc, h.fifo]
    write_buf := fun w ses hh => by
      obtain ⟨ha, hb, hc⟩ := h.write_buf w ses hh
      refine ⟨ha, Nat.le_trans hb (Nat.le_add_right _ _), ?_⟩
      show w = (view _ (s.p.nSout + b.length)).take w.length
      rw [hv, List.take_append_of_le_length (by simpa using hb)]
      exact hc }

/-- the `memmove` of `on_server_write` after `n` bytes were accepted -/
theorem dequeue (w : Bytes) (n : Nat) (hr : s.serverWrite = some (w, s.p.session)) (hn : n ≤ w.length) :
    SrvInv { s with p := { s.p with writing := false, sout := written s.p.sout 0 ((view s.p.sout s.p.nSout).drop n),
                                    nSout := s.p.nSout - n },
                    serverWrite := none, toOrigin := s.toOrigin ++ w.take n } :=
  have ⟨_, hwl, hwv⟩ := h.write_buf w _ hr
  { h with
    nSout_le := Nat.le_trans (Nat.sub_le _ _) h.nSout_le
    ses_sw := nofun
    write_buf := nofun
    fifo := by
      have hv := view_written_zero s.p.sout ((view s.p.sout s.p.nSout).drop n)
      rw [List.length_drop, view_length] at hv
      show (s.toOrigin ++ w.take n) ++ view _ (s.p.nSout - n) = s.queued
      rw [hv, hwv, List.take_take, Nat.min_eq_left hn, List.append_assoc, List.take_append_drop]
      exact h.fifo }

end SrvInv

/-- the invariant inside `on_read_request`: no read is outstanding; `fc` are the bytes received in this
    session, the requests `l` cut off its front are queued, the buffer holds the rest -/
structure LoopInv (s : PS) (l : List Rewritten) (fc : Bytes) (k : Nat) : Prop where
  srv : SrvInv s
  nCin_le : s.p.nCin ≤ BUF
  cr_none : s.clientRead = none
  acc_false : s.accepting = false
  queued : s.queued = outs l
  fromClient : s.fromClient = fc
  sessions : s.sessions = k

theorem outs_append (l : List Rewritten) (rw : Rewritten) : outs (l ++ [rw]) = outs l ++ rw.out := by
  simp [outs]

section
variable (lit : Bytes → Option Bool)

/-- `forward_request` leaves the client side untouched (`c`, `m`: the loop then moves the rest of the
    buffer to the front) -/
theorem forward_loopInv {s : PS} {l : List Rewritten} {fc : Bytes} {k : Nat} (h : LoopInv s l fc k) (rw : Rewritten)
    (hfit : s.p.nSout + rw.out.length ≤ BUF) (p1 : Px) (a : List Act) (hf : forwardOk lit s.p rw = (p1, a))
    (c : Bytes) (m : Nat) (hm : m ≤ p1.nCin) :
    p1.nCin = s.p.nCin ∧ LoopInv { s.acts a with p := { p1 with cin := c, nCin := m } } (l ++ [rw]) fc k := by
  have hq : s.queued ++ rw.out = outs (l ++ [rw]) := by rw [outs_append, h.queued]
  have he := h.srv.enqueue rw.out hfit
  unfold forwardOk at hf
  dsimp only at hf
  by_cases hc : s.p.connecting = true
  · rw [if_pos hc] at hf
    cases hf
    exact ⟨rfl, { he with }, Nat.le_trans hm h.nCin_le, h.cr_none, h.acc_false, hq, h.fromClient, h.sessions⟩
  rw [if_neg hc] at hf
  by_cases ho : s.p.srvOpen = true
  · rw [if_pos ho] at hf
    cases hf
    rw [PS.acts_cons, acts_kick]
    exact ⟨rfl, { he.kick with }, Nat.le_trans hm h.nCin_le, h.cr_none, h.acc_false, hq, h.fromClient, h.sessions⟩
  rw [if_neg ho] at hf
  -- (comparing the booked state with `s` clause by clause is slow: compute it first)
  cases hl : lit rw.host <;> rw [hl] at hf <;> cases hf <;> refine ⟨rfl, ?_⟩ <;>
    simp only [PS.acts_cons, PS.acts_nil, PS.act]
  · exact ⟨{ he with ses_res := fun _ hh => (Option.some.inj hh).symm }, Nat.le_trans hm h.nCin_le, h.cr_none,
      h.acc_false, hq, h.fromClient, h.sessions⟩
  · exact ⟨{ he.connect with }, Nat.le_trans hm h.nCin_le, h.cr_none, h.acc_false, hq, h.fromClient, h.sessions⟩

theorem ite_map {α β : Type} (F : α → β) {c : Prop} [Decidable c] {a b : β} {a0 b0 : α} (ha : a = F a0) (hb : b = F b0) :
    (if c then a else b) = F (if c then a0 else b0) := by
  split <;> assumption

theorem ite_close {x : Bool} {c : Prop} [Decidable c] {a b : Px × List Act} (ha : a.1.close = x) (hb : b.1.close = x) :
    (if c then a else b).1.close = x := by
  split <;> assumption

theorem forwardOk_close (p : Px) (rw : Rewritten) : (forwardOk lit p rw).1.close = p.close := by
  unfold forwardOk
  exact ite_close rfl (ite_close rfl (by cases lit rw.host <;> rfl))

theorem forwardRequest_close (p : Px) (req : Request) (p1 : Px) (a : List Act)
    (hh : forwardRequest lit p req = .ok (p1, a)) : p1.close = p.close := by
  rw [forwardRequest_eq] at hh
  split at hh
  · cases hh
  · split at hh
    · cases hh
    · exact congrArg (·.1.close) (Except.ok.inj hh).symm |>.trans (forwardOk_close ..)

theorem requestLoop_acc : ∀ (f : Nat) (p : Px) (acts : List Act),
    requestLoop lit f p acts = ((requestLoop lit f p []).1, acts ++ (requestLoop lit f p []).2) ∧
    (requestLoop lit f p acts).1.close = p.close := by
  intro f
  induction f with
  | zero => intro p acts; exact ⟨rfl, rfl⟩
  | succ f ih =>
    intro p acts
    unfold requestLoop
    cases memRead p.cin 0 p.nCin with
    | error _ => exact ⟨rfl, rfl⟩
    | ok view =>
      dsimp only
      cases findRequestLen view p.nCin with
      | error _ => exact ⟨rfl, rfl⟩
      | ok reqLen =>
        refine And.imp (ite_map (fun r : Px × List Act => (r.1, acts ++ r.2))
          (ite_map (fun r : Px × List Act => (r.1, acts ++ r.2)) rfl rfl)) (ite_close (ite_close rfl rfl)) ?_
        cases parseRequest view reqLen.toNat with
        | oob => exact ⟨rfl, rfl⟩
        | parseFailed => exact ⟨rfl, rfl⟩
        | ok req =>
          dsimp only
          cases hfw : forwardRequest lit p req with
          | error _ => exact ⟨rfl, rfl⟩
          | ok r =>
            obtain ⟨p1, a⟩ := r
            have hc := forwardRequest_close lit _ _ _ _ hfw
            dsimp only
            cases memWrite p1.cin 0 (view.drop reqLen.toNat) with
            | error _ => exact ⟨congrArg (Prod.mk _) (List.append_assoc ..), hc⟩
            | ok cin =>
              dsimp only
              refine ⟨?_, ((ih ..).2).trans hc⟩
              rw [(ih _ (acts ++ _)).1, (ih _ ([] ++ _)).1, List.append_assoc]
              rfl

theorem apply_requestLoop (s : PS) (f : Nat) (p : Px) (acts : List Act) :
    s.apply (requestLoop lit f p acts) = ({ s.acts acts with p := p }).apply (requestLoop lit f p []) := by
  rw [(requestLoop_acc ..).1]
  simp only [PS.apply, PS.acts_append, PS.acts_setP]

/-- what holds after `on_read_request`: the invariant, and the connection is closed if `bad` -/
structure AfterRead (bad : Prop) (k : Nat) (s' : PS) : Prop where
  inv : PSInv s'
  closed : bad → s'.sessions = k + 1 ∧ s'.clientRead = none

/-- `on_read_request` from the loop on, `pend` being the unparsed bytes in the buffer; `bad` = the
    reading of `pend` ends in `none` (a request that does not parse or is not an `http://` absolute URI) -/
theorem loop_spec {fc : Bytes} {k : Nat} : ∀ (f : Nat) (s : PS) (l : List Rewritten) (pend : Bytes),
    LoopInv s l fc k → view s.p.cin s.p.nCin = pend → pend.length + 1 ≤ f →
    scan (fc.length + 1) fc = (l ++ (scan (pend.length + 1) pend).1, (scan (pend.length + 1) pend).2) →
    AfterRead ((scan (pend.length + 1) pend).2 = none) k (s.apply (requestLoop lit f s.p [])) := by
  intro f
  induction f with
  | zero => intro s _ _ _ _ h; omega
  | succ f ih =>
    intro s l pend hL hpend hf hscan
    have hlen : s.p.nCin = pend.length := by rw [← hpend, view_length]
    have close (bad : Prop) : AfterRead bad k (s.apply (closeConnection s.p)) :=
      ⟨PSInv_closeConnection _ _ hL.srv.no_ub (fun _ => hL.acc_false),
       fun _ => by rw [apply_closeConnection, ← hL.sessions]; exact ⟨rfl, rfl⟩⟩
    unfold requestLoop
    rw [memRead_zero _ _ hL.nCin_le, hpend, congrArg Nat.cast hlen]
    dsimp only
    rcases findRequestLen_whole pend with hm | ⟨n, hn, h4, hnle⟩
    · -- no complete request
      rw [hm, scan_succ_more _ pend hm]
      rw [scan_succ_more _ pend hm, List.append_nil] at hscan
      simp only [show ((-1 : Int) < 0) by decide, if_true, List.nil_append]
      split
      · exact close _
      · rename_i hfull
        refine ⟨?_, nofun⟩
        show PSInv { s with clientRead := some (s.p.nCin, BUF - s.p.nCin, s.p.session) }
        exact { hL.srv with
          nCin_le := hL.nCin_le
          read_at := fun _ _ _ hh => by cases hh; exact ⟨rfl, rfl, Nat.lt_of_le_of_ne hL.nCin_le hfull, rfl⟩
          idle_zero := nofun
          acc_idle := fun ha => by cases hL.acc_false.symm.trans ha
          scanned := ⟨l, by rw [hL.fromClient, hscan, hpend], hL.queued⟩
          live := fun _ => .inr rfl }
    · -- a complete request of `n` bytes
      rw [hn]
      simp only [Int.not_lt.2 (Int.natCast_nonneg n), if_false, Int.toNat_natCast, List.nil_append, forwardRequest_eq]
      match hp : parseRequest pend n with
      | .oob => exact absurd hp (parseRequest_ne_oob pend n hnle)
      | .parseFailed => exact close _
      | .ok req =>
        dsimp only
        cases hrw : rewrite req with
        | error _ => exact close _
        | ok rw =>
          dsimp only
          by_cases hfit : s.p.nSout + rw.out.length > BUF
          · rw [if_pos hfit]
            exact close _
          · rw [if_neg hfit]
            cases hfo : forwardOk lit s.p rw with
            | mk p1 a =>
              dsimp only
              have hle := hL.nCin_le
              obtain ⟨hnc, hL1⟩ := forward_loopInv lit hL rw (Nat.not_lt.1 hfit) p1 a hfo
                (written p1.cin 0 (pend.drop n)) (p1.nCin - n) (Nat.sub_le _ _)
              have hl2 : (pend.drop n).length = p1.nCin - n := by rw [List.length_drop, hnc, hlen]
              have hfit' : 0 + (pend.drop n).length ≤ BUF := by
                rw [Nat.zero_add, hl2, hnc]
                exact Nat.le_trans (Nat.sub_le _ _) hle
              rw [memWrite_ok _ _ _ hfit', apply_requestLoop, scan_step_req pend n req rw hn hp hrw]
              rw [scan_step_req pend n req rw hn hp hrw, List.append_cons] at hscan
              exact ih _ _ _ hL1 (by rw [← hl2]; exact view_written_zero _ _) (drop_fuel h4 hnle hf) hscan

/-- a read completion with data; `bad` = the bytes received so far with `d` added contain a complete
    request that does not parse or is not an `http://` absolute URI -/
theorem clientData_spec (s : PS) (h : PSInv s) (d : Bytes) (hok : s.ok (.clientData d)) :
    AfterRead ((scan ((s.fromClient ++ d).length + 1) (s.fromClient ++ d)).2 = none) s.sessions
      (s.step lit (.clientData d)) := by
  obtain ⟨off, cap, ses, hcr, hpos, hdc⟩ := hok
  obtain ⟨rfl, rfl, hlt, rfl⟩ := h.read_at off cap ses hcr
  have hfit : s.p.nCin + d.length ≤ BUF := by omega
  have hacc : s.accepting = false := by
    cases ha : s.accepting
    · rfl
    · cases hcr.symm.trans (h.acc_idle ha)
  obtain ⟨l, hl1, hl2⟩ := h.scanned
  have hsa := scan_append s.fromClient d (view s.p.cin s.p.nCin) l hl1
  simp only [PS.step, hcr, onReadRequest, memWrite_ok _ _ _ hfit, stale_false { s.p with cin := _ } .ok (by decide),
    Bool.false_eq_true, if_false, ne_eq, not_true_eq_false]
  rw [hsa]
  exact loop_spec lit _
    { s with clientRead := none, fromClient := s.fromClient ++ d,
             p := { s.p with cin := written s.p.cin s.p.nCin d, nCin := s.p.nCin + d.length } }
    l _ ⟨{ h.srv with }, hfit, rfl, hacc, hl2, rfl, rfl⟩
    (view_written _ _ _) (by simp) hsa

theorem cur_of_isSome {o : Option Nat} {x : Nat} (hs : o.isSome) (h : ∀ ses, o = some ses → ses = x) :
    o = some x := by
  cases o with
  | none => cases hs
  | some y => rw [h y rfl]

/-- every event the environment may deliver preserves the invariant: an error completion ends in
    `close_connection()`, the others re-prove the clauses they touch -/
theorem PSInv_step (s : PS) (h : PSInv s) (e : Ev) (hok : s.ok e) : PSInv (s.step lit e) := by
  have closes (s0 : PS) (q : Px) (hub : s0.ub = s.ub := by rfl) (hq : q.close = s.p.close := by rfl)
      (ha : s0.accepting = s.accepting := by rfl) :
      PSInv (s0.apply (closeConnection q)) :=
    PSInv_closeConnection _ _ (hub.trans h.no_ub) (by rw [hq, ha]; exact h.stopped)
  cases e with
  | accepted ec =>
    obtain ⟨hacc, hna⟩ := hok
    have hz := h.idle_zero (h.acc_idle hacc)
    by_cases hec : ec = .ok
    · subst hec
      rw [step_accepted_ok]
      exact { h with
        read_at := fun _ _ _ hh => by cases hh; rw [hz]; exact ⟨rfl, rfl, by decide, rfl⟩
        idle_zero := nofun
        acc_idle := nofun
        live := fun _ => .inr rfl
        stopped := fun _ => rfl }
    · simp only [PS.step, onAccept, hna, hec, if_false, ne_eq, not_false_eq_true, if_true]
      exact PSInv_closeConnection _ _ h.no_ub (fun _ => rfl)
  | clientData d => exact (clientData_spec lit s h d hok).inv
  | clientErr ec =>
    obtain ⟨hsome, hne, hna⟩ := hok
    match hcr : s.clientRead with
    | none => simp [hcr] at hsome
    | some (off, cap, ses) =>
      obtain ⟨rfl, -, hlt, rfl⟩ := h.read_at off cap ses hcr
      simp only [PS.step, hcr, onReadRequest, memWrite_ok _ _ [] (Nat.le_of_lt hlt),
        stale_false { s.p with cin := _ } _ hna, Bool.false_eq_true, if_false, if_pos hne]
      exact closes _ _
  | lookup ec ips =>
    have hr := cur_of_isSome hok.1 h.ses_res
    have fail (hf : ec ≠ .ok ∨ ips = []) : PSInv (s.step lit (.lookup ec ips)) := by
      rw [step_lookup_fail lit s ec ips hr hok.2 hf]
      exact { h.srv.error resp503Lookup, h with ses_res := nofun }
    match ips with
    | [] => exact fail (.inr rfl)
    | (a, port, v4) :: rest =>
      by_cases hec : ec = .ok
      · subst hec
        rw [step_lookup_ok lit s a port v4 rest hr]
        exact { h.srv.connect, h with ses_res := nofun }
      · exact fail (.inl hec)
  | connected ec =>
    have hr := cur_of_isSome hok.1 h.ses_conn
    by_cases hec : ec = .ok
    · subst hec
      rw [step_connected_ok lit s hr h.nSout_le]
      exact { h.srv.kick, h with
        ses_conn := nofun
        ses_sr := fun _ hh => (Option.some.inj hh).symm }
    · rw [step_connected_fail lit s ec hr hec hok.2]
      exact { h.srv.error resp503Connect, h with
        ses_conn := nofun
        ses_sw := nofun
        ses_sr := nofun
        write_buf := nofun }
  | serverWritten n =>
    obtain ⟨w, ses, hr, hnw, -⟩ := hok
    obtain rfl := h.ses_sw w ses hr
    have hn : n ≤ s.p.nSout := Nat.le_trans hnw (h.write_buf w _ hr).2.1
    have hs2 := h.srv.dequeue w n hr hnw
    simp only [PS.step, hr]
    rw [onServerWrite_ok _ _ hn h.nSout_le]
    dsimp only
    split
    · rw [apply_wssb _ _ hs2.nSout_le]
      exact { hs2.kick, h with }
    · exact { hs2, h with }
  | serverWriteErr ec =>
    obtain ⟨hsome, hne, hna⟩ := hok
    match hr : s.serverWrite with
    | none => simp [hr] at hsome
    | some (w, ses) =>
      obtain rfl := h.ses_sw w ses hr
      simp only [PS.step, hr, onServerWrite, stale_false _ _ hna, Bool.false_eq_true, if_false, if_pos hne]
      exact closes _ _
  | serverData d =>
    rw [step_serverData lit s d (cur_of_isSome hok.1 h.ses_sr) hok.2.2]
    exact { h with
      ses_sr := nofun
      ses_cw := fun _ _ hh => by cases hh; rfl
      relay := congrArg (· ++ d) h.relay }
  | serverErr ec =>
    obtain ⟨hsome, hne, hna⟩ := hok
    simp only [PS.step, cur_of_isSome hsome h.ses_sr, onServerReceive, memWrite_ok _ 0 [] (Nat.zero_le _),
      stale_false { s.p with inb := _ } _ hna, Bool.false_eq_true, if_false, if_pos hne]
    exact closes _ _
  | clientWritten ec =>
    obtain ⟨⟨ses, hr⟩, hna⟩ := hok
    obtain rfl := h.ses_cw _ ses hr
    by_cases hec : ec = .ok
    · subst hec
      rw [step_clientWritten_ok lit s hr]
      exact { h with
        ses_sr := fun _ hh => (Option.some.inj hh).symm
        ses_cw := nofun }
    · simp only [PS.step, hr, onServerForward, stale_false _ _ hna, Bool.false_eq_true, if_false, if_pos hec]
      exact closes _ _
  | errWritten ec =>
    obtain ⟨⟨ses, hr⟩, hna⟩ := hok
    obtain rfl := h.ses_cw _ ses hr
    simp only [PS.step, hr, onErrorWritten, stale_false _ _ hna, Bool.false_eq_true, if_false]
    exact closes _ _
  | stop =>
    rw [step_stop]
    exact { h with
      acc_idle := nofun
      live := nofun
      stopped := fun _ => rfl }

end

theorem PSInv_run (lit : Bytes → Option Bool) : ∀ (es : List Ev) (s : PS), PSInv s → PS.okRun lit s es →
    PSInv (s.run lit es)
  | [], _, h, _ => h
  | e :: es, s, h, hok => PSInv_run lit es _ (PSInv_step lit s h e hok.1) hok.2

/-! ### `m_close` is written by `stop()` only -/

section
variable (lit : Bytes → Option Bool) (p : Px) (ses : Nat) (ec : Ec)

theorem error_close (code : Nat) (msg : Bytes) : (error p code msg).1.close = p.close := by
  unfold error
  dsimp only
  cases memWrite p.inb 0 (sendResponse code msg) <;> rfl

theorem wssb_close : (writeServerSendBuffer p).1.close = p.close := by
  unfold writeServerSendBuffer
  exact ite_close rfl (by cases memRead p.sout 0 p.nSout <;> rfl)

theorem onAccept_close : (onAccept p ec).1.close = p.close :=
  ite_close rfl (ite_close rfl rfl)

theorem onReadRequest_close (off : Nat) (d : Bytes) :
    (onReadRequest lit p ses ec off d).1.close = p.close := by
  unfold onReadRequest
  cases memWrite p.cin off d with
  | error _ => rfl
  | ok cin => exact ite_close rfl (ite_close rfl (requestLoop_acc ..).2)

theorem onDomainLookup_close (ips : List (Bytes × Nat × Bool)) :
    (onDomainLookup p ses ec ips).1.close = p.close := by
  unfold onDomainLookup
  refine ite_close rfl ?_
  cases ips with
  | nil => exact error_close _ 503 MSG_RESOURCE
  | cons x r => exact ite_close (error_close _ 503 MSG_RESOURCE) rfl

theorem onConnected_close : (onConnected p ses ec).1.close = p.close :=
  ite_close rfl (ite_close (error_close _ 503 MSG_SERVICE) (wssb_close _))

theorem onServerWrite_close (n : Nat) : (onServerWrite p ses ec n).1.close = p.close := by
  unfold onServerWrite
  refine ite_close rfl (ite_close rfl (ite_close rfl ?_))
  cases memRead p.sout n (p.nSout - n) with
  | error _ => rfl
  | ok rest =>
    dsimp only
    cases memWrite p.sout 0 rest with
    | error _ => rfl
    | ok sout => exact ite_close (wssb_close _) rfl

theorem onServerReceive_close (d : Bytes) :
    (onServerReceive p ses ec d).1.close = p.close := by
  unfold onServerReceive
  cases memWrite p.inb 0 d with
  | error _ => rfl
  | ok inb =>
    refine ite_close rfl (ite_close rfl ?_)
    dsimp only
    cases memRead inb 0 d.length <;> rfl

theorem onServerForward_close : (onServerForward p ses ec).1.close = p.close :=
  ite_close rfl (ite_close rfl rfl)

theorem onErrorWritten_close : (onErrorWritten p ses ec).1.close = p.close :=
  ite_close rfl rfl

end

end SimVerif.HttpProxy
