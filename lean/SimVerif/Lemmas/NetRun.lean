/-
  SimVerif.Lemmas.NetRun — the registry / forwarder invariant `RegInv` of the open system `NS`
  (SimVerif/NetSys.lean): it is `RV.Ok` of either protocol's view; `NS.step_reg` says for every
  label which protocol's half it touches and that the registry sees an `ROp` there, whence the
  invariant holds along every run; what it says about registered sockets and their forwarders; its
  corollaries per label (the other protocol's objects stay, what a closing label does to the view, a
  detached forwarder stays detached);
  the labels of the UDP data path in normal form (`NS.step_dataCall`, `NS.step_deliver`: one socket
  object changes, invisibly to the registry); `bind` evaluated for the concrete examples.
-/
import SimVerif.Lemmas.NetUdp
import SimVerif.Lemmas.NetTcp

namespace SimVerif

structure RegInv (s : NS) : Prop where
  udp  : PInv s.n.reg.udp s.n.ub []
  tcp  : PInv s.n.reg.tcp s.n.tb s.attached
  fwd  : FInv s.n.fwdTarget s.n.fwds.length s.n.uf s.n.tf
  port : 2000 ≤ s.n.reg.nextPort ∧ s.n.reg.nextPort ≤ 65534
  cfg  : s.n.cfg.WF

theorem RegInv.okU {s : NS} (h : RegInv s) : s.n.rvU.Ok s.n.tf :=
  ⟨s.n.ub_eq ▸ h.udp, s.n.uf_eq ▸ h.fwd, h.port⟩
theorem RegInv.okT {s : NS} (h : RegInv s) : (s.n.rvT s.attached).Ok s.n.uf :=
  ⟨s.n.tb_eq ▸ h.tcp, s.n.tf_eq ▸ h.fwd.swap, h.port⟩

theorem RegInv.of_rstepU {s s' : NS} {b : Bool} (h : RegInv s) (t : RStepU b s.n s'.n)
    (ha : s'.attached = s.attached) : RegInv s' := by
  have ok := (t.op h.cfg h.okU).ok h.cfg h.okU
  exact ⟨s'.n.ub_eq ▸ ok.p, by rw [t.same.regT, t.same.tb, ha]; exact h.tcp,
    by rw [s'.n.uf_eq, t.same.tf]; exact ok.f, ok.port, t.same.cfg ▸ h.cfg⟩

theorem RegInv.of_rstepT {s s' : NS} {b : Bool} (h : RegInv s) (t : RStepT b s.n s.attached s'.n s'.attached) :
    RegInv s' := by
  have ok := (t.op h.cfg h.okT).ok h.cfg h.okT
  exact ⟨by rw [t.same.regU, t.same.ub]; exact h.udp, s'.n.tb_eq ▸ ok.p,
    by rw [s'.n.tf_eq, t.same.uf]; exact ok.f.swap, ok.port, t.same.cfg ▸ h.cfg⟩

theorem RegInv.init (c : NetCfg) (hc : c.WF) : RegInv (NS.init c) := by
  refine ⟨?_, ?_, ?_, ⟨Nat.le_refl _, by show 2000 ≤ 65534; omega⟩, hc⟩
  · exact PInv.init
  · exact PInv.init
  · exact FInv.init

theorem NS.uMove_cases (s : NS) (src dst : String) :
    (∃ u, s.n.udp? src = some u ∧ s.n.fresh dst = true ∧ s.step (.uMove src dst) =
      { s with n := s.n.udpMove src dst, acc := setS (setS s.acc dst (s.acc src)) src [],
               out := setS (setS s.out dst (s.out src)) src [] })
    ∨ s.step (.uMove src dst) = s := by
  simp only [NS.step]
  cases hu : s.n.udp? src with
  | none => exact .inr (by simp)
  | some u =>
    cases hf : s.n.fresh dst with
    | true => exact .inl ⟨u, rfl, rfl, by simp⟩
    | false => exact .inr (by simp)

theorem NS.tMove_cases (s : NS) (src dst : String) :
    (∃ t, s.n.tcp? src = some t ∧ s.n.fresh dst = true ∧ s.step (.tMove src dst) =
      { s with n := s.n.tcpMove src dst, attached := s.attached.map (fun x => if x = src then dst else x) })
    ∨ s.step (.tMove src dst) = s := by
  simp only [NS.step]
  cases hu : s.n.tcp? src with
  | none => exact .inr (by simp)
  | some t =>
    cases hf : s.n.fresh dst with
    | true => exact .inl ⟨t, rfl, rfl, by simp⟩
    | false => exact .inr (by simp)

def NLbl.dataCall : NLbl → Option String
  | .uRecv name _ | .uRecvNb name _ | .uWaitRead name _ | .uWaitWrite _ name _ | .uCancel name
  | .uSetDf name _ => some name
  | _ => none

theorem NS.readStep_mapUdp_same (s : NS) (name : String) {g : UdpSock → UdpSock} (h : ∀ u : UdpSock, (g u).queue = u.queue) :
    s.readStep name (s.n.mapUdp name g) = { s with n := s.n.mapUdp name g } := by
  have : (s.n.mapUdp name g).uqueue name = s.n.uqueue name := by
    unfold NetSt.uqueue; rw [udp?_mapUdp, if_pos rfl]; cases s.n.udp? name <;> simp [h]
  unfold NS.readStep
  rw [this, popped_self, List.map_nil, List.append_nil, setS_self]

/-- Receive, wait, cancel, the don't-fragment switch: the object changes by some `g`, and what `g`
    takes off the queue goes to a reader (`NS.readStep`). -/
theorem NS.step_dataCall (s : NS) (l : NLbl) (name : String) (h : l.dataCall = some name) :
    ∃ g : UdpSock → UdpSock, UdpSock.DataCall g ∧ s.step l = s.readStep name (s.n.mapUdp name g) := by
  have quiet : ∀ (g : UdpSock → UdpSock), (∀ u : UdpSock, u.sameCtl (g u)) → (∀ u : UdpSock, u.DOk → (g u).DOk) →
      (∀ u : UdpSock, (g u).queue = u.queue) → ∀ {n' : NetSt}, n' = s.n.mapUdp name g →
      ∃ g : UdpSock → UdpSock, UdpSock.DataCall g ∧ ({ s with n := n' } : NS) = s.readStep name (s.n.mapUdp name g) :=
    fun g h1 h2 h3 _ e => ⟨g, ⟨h1, h2, fun u => .inl (h3 u)⟩, e ▸ (s.readStep_mapUdp_same name h3).symm⟩
  cases l <;> cases h
  case uRecv op =>
    exact ⟨_, ⟨fun u => u.sameCtl_abortRecv.trans (UdpSock.asyncReceive_frame _ op).1,
      fun u hd => (UdpSock.asyncReceive_frame _ op).2.2 hd.abortRecv rfl, fun u => (UdpSock.asyncReceive_frame _ op).2.1⟩,
      congrArg (s.readStep name) (udpAsyncRecv_fst s.n name op)⟩
  case uRecvNb caps =>
    exact ⟨_, ⟨fun u => u.sameCtl_abortRecv.trans (UdpSock.receiveFrom_frame _ caps).1,
      fun u hd => (UdpSock.receiveFrom_frame _ caps).2.2 hd.abortRecv, fun u => (UdpSock.receiveFrom_frame _ caps).2.1⟩,
      congrArg (s.readStep name) (udpRecvNb_fst s.n name caps)⟩
  case uWaitRead hh =>
    exact quiet _ (fun u => u.sameCtl_abortRecv.trans (UdpSock.sameCtl_asyncWaitReceive _ hh))
      (fun u hd => hd.abortRecv.asyncWaitReceive hh rfl) (fun u => UdpSock.asyncWaitReceive_queue _ hh)
      (udpWaitRead_fst s.n name hh)
  case uWaitWrite now hh =>
    exact quiet _ (fun u => by split <;> exact ⟨rfl, rfl, rfl, rfl, rfl⟩)
      (fun u hd => by split <;> exact ⟨hd.acct, hd.cle, hd.h1, hd.h2, hd.pend⟩) (fun u => by split <;> rfl)
      (udpWaitWrite_fst s.n now name hh)
  case uCancel =>
    exact quiet _ (UdpSock.sameCtl_cancel name) (fun u hd => hd.cancel name) (fun u => by rw [UdpSock.cancel_eq])
      (udpCancel_fst s.n name)
  case uSetDf df =>
    rw [show s.step (.uSetDf name df) = { s with n := s.n.mapUdp name fun u => { u with df := df } } by
      simp only [NS.step, NetSt.mapUdp]; cases s.n.udp? name <;> rfl]
    exact quiet (fun u => { u with df := df }) (fun u => ⟨rfl, rfl, rfl, rfl, rfl⟩)
      (fun u hd => ⟨hd.acct, hd.cle, hd.h1, hd.h2, hd.pend⟩) (fun u => rfl) rfl

/-- a datagram arriving at the UDP socket `name` (the object `u`), as `NS.step` writes it -/
def NS.deliverTo (s : NS) (name : String) (u : UdpSock) (p : Pkt) : NS :=
  { s with n := s.n.setUdp name (u.incoming p).1,
           acc := if u.queueSize + p.size > 262144 then s.acc else setS s.acc name (s.acc name ++ [p]),
           out := setS s.out name (s.out name ++
             (popped (if u.queueSize + p.size > 262144 then u.queue else u.queue ++ [p]) (u.incoming p).1.queue).map
               (·, true)) }

theorem NS.step_deliver_none (s : NS) (f : Nat) (p : Pkt) (hf : s.n.fwdTarget f = none) :
    s.step (.deliver f p) = s := by
  simp only [NS.step, hf]

theorem NS.step_deliver_some (s : NS) (f : Nat) (p : Pkt) {name : String} {u : UdpSock}
    (hf : s.n.fwdTarget f = some name) (hu : s.n.udp? name = some u) :
    s.step (.deliver f p) = s.deliverTo name u p := by
  simp only [NS.step, hf, hu, NS.deliverTo]
  by_cases hc : u.queueSize + p.size > 262144 <;> simp [hc]

/-- `sink_forwarder::incoming_packet`: a forwarder that is detached or belongs to a TCP object
    swallows the packet; otherwise the UDP socket it points at takes it -/
theorem NS.step_deliver (s : NS) (f : Nat) (p : Pkt) :
    s.step (.deliver f p) = s
    ∨ ∃ name u, s.n.fwdTarget f = some name ∧ s.n.udp? name = some u ∧ s.step (.deliver f p) = s.deliverTo name u p := by
  cases hf : s.n.fwdTarget f with
  | none => exact .inl (NS.step_deliver_none s f p hf)
  | some name =>
    cases hu : s.n.udp? name with
    | none => left; simp only [NS.step, hf, hu]
    | some u => exact .inr ⟨name, u, rfl, hu, NS.step_deliver_some s f p hf hu⟩

def NLbl.isUdp : NLbl → Bool
  | .uNew .. | .uOpen .. | .uBind .. | .uClose .. | .uDestroy .. | .uMove .. | .uSendTo .. | .uRecv ..
  | .uRecvNb .. | .uWaitRead .. | .uWaitWrite .. | .uSendWaitFired .. | .uCancel .. | .uSetDf .. | .deliver .. => true
  | _ => false

/-- the labels that can reach `simulation::bind_*` with port 0 -/
def NLbl.mayBind : NLbl → Bool
  | .uBind .. | .uSendTo .. | .tBind .. | .tConnect .. => true
  | _ => false

def NS.RegStep (s : NS) (l : NLbl) (s' : NS) : Prop :=
  match l.isUdp with
  | true => RStepU l.mayBind s.n s'.n ∧ s'.attached = s.attached
  | false => RStepT l.mayBind s.n s.attached s'.n s'.attached ∧ s'.acc = s.acc ∧ s'.out = s.out

theorem NS.step_reg (s : NS) (l : NLbl) : s.RegStep l (s.step l) := by
  have reads : ∀ name, l.dataCall = some name →
      RStepU l.mayBind s.n (s.step l).n ∧ (s.step l).attached = s.attached := fun name hd => by
    obtain ⟨g, hg, e⟩ := NS.step_dataCall s l name hd
    rw [e]; exact ⟨(UFrame.mapUdp _ _ _ fun u => (hg.1 u).view).step, rfl⟩
  cases l
  case uRecv name op => exact reads name rfl
  case uRecvNb name caps => exact reads name rfl
  case uWaitRead name hh => exact reads name rfl
  case uWaitWrite now name hh => exact reads name rfl
  case uSendWaitFired name ab =>
    refine ⟨?_, rfl⟩
    show RStepU _ s.n (s.n.udpSendWaitFired name ab).1
    rcases udpSendWaitFired_fst s.n name ab with e | e <;> rw [e]
    · exact .refl _
    · exact (UFrame.mapUdp _ _ (fun u => { u with waitSendH := none }) fun u => rfl).step
  case uCancel name => exact reads name rfl
  case uSetDf name df => exact reads name rfl
  case deliver f p =>
    rcases NS.step_deliver s f p with e | ⟨name, u, -, hu, e⟩ <;> rw [e]
    · exact ⟨.refl _, rfl⟩
    · exact ⟨(UFrame.setUdp s.n name u _ hu (u.sameCtl_incoming p).view).step, rfl⟩
  case uNew name node =>
    simp only [NS.step]
    split
    · rename_i hf; exact ⟨udpNew_rstep s.n name node hf, rfl⟩
    · exact ⟨.refl _, rfl⟩
  case uOpen name v4 => exact ⟨udpOpen_rstep s.n name v4, rfl⟩
  case uBind name ep => exact ⟨(udpBind_rstep s.n name ep).1, rfl⟩
  case uClose name => exact ⟨udpClose_rstep s.n name, rfl⟩
  case uDestroy name => exact ⟨udpDestroy_rstep s.n name, rfl⟩
  case uMove src dst =>
    rcases NS.uMove_cases s src dst with ⟨u, hu, hfr, e⟩ | e <;> rw [e]
    · exact ⟨udpMove_rstep s.n src dst u hu hfr, rfl⟩
    · exact ⟨.refl _, rfl⟩
  case uSendTo now name dst payload => exact ⟨(udpSendTo_rstep s.n now name dst payload).1, rfl⟩
  case tNew name node isAcc =>
    simp only [NS.step]
    split
    · rename_i hf; exact ⟨tcpNew_rstep s.n name node isAcc _ hf, rfl, rfl⟩
    · exact ⟨.refl _ _, rfl, rfl⟩
  case tOpen now name v4 => exact ⟨tcpOpen_rstep s.n now name v4 _, rfl, rfl⟩
  case tBind name ep => exact ⟨(tcpBind_rstep s.n name ep _).1, rfl, rfl⟩
  case tClose now name => exact ⟨tcpClose_rstep s.n now name _, rfl, rfl⟩
  case tDestroy now name => exact ⟨tcpDestroy_rstep s.n now name _, rfl, rfl⟩
  case tMove src dst =>
    rcases NS.tMove_cases s src dst with ⟨t, ht, hfr, e⟩ | e <;> rw [e]
    · exact ⟨tcpMove_rstep s.n src dst t _ ht hfr, rfl, rfl⟩
    · exact ⟨.refl _ _, rfl, rfl⟩
  case tConnect now name target hh => exact ⟨(tcpConnect_rstep s.n now name target hh _).1, rfl, rfl⟩
  case aListen name qs => exact ⟨(accListen_frame _ _ _).step _, rfl, rfl⟩
  case aClose now name => exact ⟨accClose_rstep s.n now name _, rfl, rfl⟩
  case tAttach now peer acceptor cid =>
    simp only [NS.step]
    cases ha : s.n.tcp? acceptor with
    | none => exact ⟨.refl _ _, rfl, rfl⟩
    | some a =>
      dsimp only
      split
      · rename_i hg
        simp only [Bool.and_eq_true, Bool.not_eq_true'] at hg
        have haddr : (s.n.rvT s.attached).Ok s.n.uf → a.bound.addr ≠ "0.0.0.0" := fun hr =>
          hr.p.addr acceptor a.isOpen a.bound (by rw [show (s.n.rvT _).v acceptor = _ from tv_some_of_tcp? ha]; rfl) hg.2
        exact ⟨tcpAttach_rstep s.n now peer a.bound cid _ hg.2 haddr, rfl, rfl⟩
      · exact ⟨.refl _ _, rfl, rfl⟩
  case tPatch name t' chans' =>
    simp only [NS.step]
    cases ht : s.n.tcp? name with
    | none => exact ⟨.refl _ _, rfl, rfl⟩
    | some t =>
      dsimp only
      split
      · rename_i hg
        have hv : t'.view = t.view := by simp [TcpSock.view, hg.1, hg.2.1, hg.2.2.1]
        exact ⟨((TFrame.chans s.n chans').trans (TFrame.setTcp _ name t t' ht hv)).step _, rfl, rfl⟩
      · exact ⟨.refl _ _, rfl, rfl⟩

theorem RegInv.step {s : NS} (h : RegInv s) (l : NLbl) : RegInv (s.step l) := by
  have := NS.step_reg s l
  unfold NS.RegStep at this
  cases hl : l.isUdp <;> rw [hl] at this
  · exact h.of_rstepT this.1
  · exact h.of_rstepU this.1 this.2

theorem RegInv.run' {s : NS} (hr : RegInv s) (ls : List NLbl) : RegInv (s.run ls) := by
  induction ls generalizing s with
  | nil => exact hr
  | cons l ls ih => exact ih (hr.step l)

theorem RegInv.run (c : NetCfg) (hc : c.WF) (ls : List NLbl) : RegInv ((NS.init c).run ls) :=
  (RegInv.init c hc).run' ls

theorem ub_eq_some {n : NetSt} {x : String} {o : Bool} {b : Ep} (h : n.ub x = some (o, b)) :
    ∃ u, n.udp? x = some u ∧ u.isOpen = o ∧ u.bound = b := by
  obtain ⟨u, hu, e⟩ := Option.map_eq_some_iff.mp h
  cases e; exact ⟨u, hu, rfl, rfl⟩

theorem tb_eq_some {n : NetSt} {x : String} {o : Bool} {b : Ep} (h : n.tb x = some (o, b)) :
    ∃ t, n.tcp? x = some t ∧ t.isOpen = o ∧ t.bound = b := by
  obtain ⟨t, ht, e⟩ := Option.map_eq_some_iff.mp h
  cases e; exact ⟨t, ht, rfl, rfl⟩

theorem RegInv.udp_entry {s : NS} (h : RegInv s) {ep : Ep} {name : String} (hm : (ep, name) ∈ s.n.reg.udp) :
    ∃ u, s.n.udp? name = some u ∧ u.isOpen = true ∧ u.bound = ep ∧ ep.isDefault = false := by
  obtain ⟨h1, h2⟩ := h.udp.sound ep name hm
  obtain ⟨u, hu, ho, hb⟩ := ub_eq_some h1
  exact ⟨u, hu, ho, hb, h2⟩

theorem RegInv.tcp_entry {s : NS} (h : RegInv s) {ep : Ep} {name : String} (hm : (ep, name) ∈ s.n.reg.tcp) :
    ∃ t, s.n.tcp? name = some t ∧ t.isOpen = true ∧ t.bound = ep ∧ ep.isDefault = false := by
  obtain ⟨h1, h2⟩ := h.tcp.sound ep name hm
  obtain ⟨t, ht, ho, hb⟩ := tb_eq_some h1
  exact ⟨t, ht, ho, hb, h2⟩

theorem RegInv.deliver_open {s : NS} (h : RegInv s) {f : Nat} {name : String} {u : UdpSock}
    (hf : s.n.fwdTarget f = some name) (hu : s.n.udp? name = some u) :
    u.isOpen = true ∧ u.fwd = some f := by
  have huf : s.n.uf name = some (u.isOpen, u.fwd) := by simp [NetSt.uf, hu]
  have hf' := (h.fwd.held_iff huf f).mp hf
  exact ⟨(h.fwd.openU name _ _ huf).trans (by rw [hf']; rfl), hf'⟩

theorem RegInv.udp_fwd {s : NS} (h : RegInv s) {f : Nat} {name : String} {u : UdpSock}
    (hu : s.n.udp? name = some u) (hf : u.fwd = some f) :
    u.isOpen = true ∧ s.n.fwdTarget f = some name := by
  have huf := (show s.n.uf name = some (u.isOpen, u.fwd) by simp [NetSt.uf, hu])
  have h1 := h.fwd.openU name u.isOpen u.fwd huf
  rw [hf] at h1 huf
  exact ⟨by simpa using h1, h.fwd.fu name u.isOpen f huf⟩

theorem RegInv.udp_closed {s : NS} (h : RegInv s) {name : String} {u : UdpSock}
    (hu : s.n.udp? name = some u) (hc : u.isOpen = false) : u.fwd = none ∧ u.bound = {} := by
  have h1 := h.fwd.openU name u.isOpen u.fwd (by simp [NetSt.uf, hu])
  rw [hc] at h1
  refine ⟨?_, h.udp.closed name u.bound (by simp [NetSt.ub, hu, hc])⟩
  cases hf : u.fwd with
  | none => rfl
  | some f => rw [hf] at h1; simp at h1

theorem RegInv.udp_fwd_lt {s : NS} (h : RegInv s) {f : Nat} {name : String} {u : UdpSock}
    (hu : s.n.udp? name = some u) (hf : u.fwd = some f) : f < s.n.fwds.length :=
  fwdTarget_lt _ _ _ (h.udp_fwd hu hf).2

theorem RegInv.tcp_fwd {s : NS} (h : RegInv s) {f : Nat} {name : String} {t : TcpSock}
    (ht : s.n.tcp? name = some t) (hf : t.fwd = some f) :
    s.n.fwdTarget f = some name ∧ f < s.n.fwds.length := by
  have h1 : s.n.fwdTarget f = some name :=
    h.fwd.ftc name t.isOpen f (by simp [NetSt.tf, ht, hf])
  exact ⟨h1, fwdTarget_lt _ _ _ h1⟩

/-- the socket registered at `dst` is open, bound to `dst`, and holds an attached forwarder, in which every
    route to `dst` ends -/
theorem RegInv.reg_target {s : NS} (h : RegInv s) {dst : Ep} {tgt : String}
    (hl : s.n.reg.udp.lookup dst = some tgt) (src : Ep) :
    ∃ t f, s.n.udp? tgt = some t ∧ t.isOpen = true ∧ t.bound = dst ∧ t.fwd = some f
      ∧ s.n.fwdTarget f = some tgt
      ∧ s.n.udpRoute src dst = some (s.n.cfg.outRoute src.addr ++ s.n.cfg.netRoute src.addr dst.addr
          ++ s.n.cfg.inRoute dst.addr ++ [fwdHop f]) := by
  obtain ⟨t, ht, ho, hb, _⟩ := h.udp_entry (mem_of_lookup hl)
  have hof := h.fwd.openU tgt t.isOpen t.fwd (by simp [NetSt.uf, ht])
  rw [ho] at hof
  cases hf : t.fwd with
  | none => rw [hf] at hof; cases hof
  | some f =>
    refine ⟨t, f, ht, ho, hb, hf, (h.udp_fwd ht hf).2, ?_⟩
    rw [udpRoute_some _ src dst tgt t hl ht, hb, hf, List.append_assoc _ (s.n.cfg.inRoute _)]; rfl

theorem NS.run_append (s : NS) (a b : List NLbl) : s.run (a ++ b) = (s.run a).run b := by
  simp [NS.run, List.foldl_append]

theorem NS.step_cfg (s : NS) (l : NLbl) : (s.step l).n.cfg = s.n.cfg := by
  have := NS.step_reg s l
  unfold NS.RegStep at this
  cases h : l.isUdp <;> rw [h] at this <;> exact this.1.same.cfg

theorem NS.run_cfg (s : NS) (ls : List NLbl) : (s.run ls).n.cfg = s.n.cfg := by
  induction ls generalizing s with
  | nil => rfl
  | cons l ls ih => exact (ih (s.step l)).trans (NS.step_cfg s l)

/-- the state after a successful UDP `bind` to a free, explicit, non-privileged port -/
def NetSt.bindOk (n : NetSt) (name : String) (ep : Ep) : NetSt :=
  match n.udp? name with
  | some u => ({ n with reg := { n.reg with udp := n.reg.udp ++ [(ep, name)] } }).setUdp name { u with bound := ep }
  | none => n

theorem udpBind_explicit (n : NetSt) (name : String) (ep : Ep) (u : UdpSock)
    (hu : n.udp? name = some u) (ho : u.isOpen = true) (hv : ep.isV4 = u.isV4) (hd : u.bound.isDefault = true)
    (hr : ioResolve (n.cfg.ipsOf u.node) ep = .ok ep) (hp : 1024 ≤ ep.port) (hfree : n.reg.udp.lookup ep = none) :
    n.udpBind name ep = (n.bindOk name ep, .ok) := by
  rw [udpBind_pre n name ep u ep ⟨hu, ho, hv, hd, hr⟩, simBind_explicit _ _ _ _ hp hfree]
  simp only [NetSt.bindOk, hu]

theorem NS.step_nonUdp (s : NS) (l : NLbl) (h : l.isUdp = false) :
    UdpUntouched s.n (s.step l).n ∧ (s.step l).acc = s.acc ∧ (s.step l).out = s.out := by
  have := NS.step_reg s l
  rw [NS.RegStep, h] at this
  exact ⟨this.1.same, this.2⟩

theorem NS.step_closes_rv (s : NS) (name : String) (l : NLbl)
    (hl : l = .uClose name ∨ l = .uDestroy name ∨ ∃ v4, l = .uOpen name v4) :
    (s.step l).n.rvU = s.n.rvU.close name ∨ (s.step l).n.rvU = (s.n.rvU.close name).set name none
    ∨ (s.step l).n.rvU = (s.n.rvU.close name).opened name := by
  rcases hl with rfl | rfl | ⟨v4, rfl⟩
  · exact .inl (udpClose_rv s.n name).1
  · exact .inr (.inl (udpDestroy_rv s.n name).1)
  · exact .inr (.inr (udpOpen_rv s.n name v4).1)

def NLbl.closesT (l : NLbl) (name : String) : Prop :=
  (∃ now, l = .tClose now name) ∨ (∃ now, l = .tDestroy now name) ∨ (∃ now, l = .aClose now name)
  ∨ (∃ now v4, l = .tOpen now name v4)

theorem NS.step_closes_rvT (s : NS) (name : String) (l : NLbl) (hl : l.closesT name) :
    (s.step l).n.rvT (s.step l).attached = (s.n.rvT s.attached).close name
    ∨ (s.step l).n.rvT (s.step l).attached = ((s.n.rvT s.attached).close name).set name none
    ∨ (s.step l).n.rvT (s.step l).attached = ((s.n.rvT s.attached).close name).opened name := by
  rcases hl with ⟨now, rfl⟩ | ⟨now, rfl⟩ | ⟨now, rfl⟩ | ⟨now, v4, rfl⟩
  · exact .inl (tcpClose_rv s.n now name _).1
  · exact .inr (.inl (tcpDestroy_rv s.n now name _).1)
  · exact .inl (accClose_rv s.n now name _).1
  · exact .inr (.inr (tcpOpen_rv s.n now name v4 _).1)

theorem NS.step_closes_tblT (s : NS) (name : String) (l : NLbl) (hl : l.closesT name) :
    (s.step l).n.reg.tcp = ((s.n.rvT s.attached).close name).tbl := by
  rcases NS.step_closes_rvT s name l hl with e | e | e <;> exact congrArg RV.tbl e

theorem detached_step {s : NS} (hr : RegInv s) {f : Nat} (hn : s.n.fwdTarget f = none)
    (hl : f < s.n.fwds.length) (l : NLbl) :
    (s.step l).n.fwdTarget f = none ∧ f < (s.step l).n.fwds.length := by
  have := NS.step_reg s l
  unfold NS.RegStep at this
  cases h : l.isUdp <;> rw [h] at this
  · exact (this.1.op hr.cfg hr.okT).detached hr.cfg hr.okT hn hl
  · exact (this.1.op hr.cfg hr.okU).detached hr.cfg hr.okU hn hl

theorem detached_run {s : NS} (hr : RegInv s) {f : Nat} (hn : s.n.fwdTarget f = none)
    (hl : f < s.n.fwds.length) (ls : List NLbl) :
    (s.run ls).n.fwdTarget f = none ∧ f < (s.run ls).n.fwds.length := by
  induction ls generalizing s with
  | nil => exact ⟨hn, hl⟩
  | cons l ls ih =>
    have := detached_step hr hn hl l
    exact ih (hr.step l) this.1 this.2

theorem close_like_detaches {s : NS} (hr : RegInv s) {name : String} {u : UdpSock} {f : Nat}
    (hu : s.n.udp? name = some u) (hf : u.fwd = some f) (l : NLbl)
    (hl : l = .uClose name ∨ l = .uDestroy name ∨ ∃ v4, l = .uOpen name v4) :
    (s.step l).n.fwdTarget f = none ∧ f < (s.step l).n.fwds.length :=
  RV.closed_ft (r' := (s.step l).n.rvU) (NS.step_closes_rv s name l hl) (uv_some_of_udp? hu) hf (hr.udp_fwd_lt hu hf)

end SimVerif
