/-
  The functions of SimVerif/Tcp.lean, one exact description each: the result state as `n` with the
  named socket, channel, registry entry and forwarder replaced by explicit terms, and the explicit
  effect list. Composite functions (`close`, `check_accept_queue`, `async_accept`, `async_connect`)
  are cut into named stages, with one equation putting the stages together. Every subsystem's
  summary of a function is read off these. `NStep` is the step relation of an action of one socket
  (configuration, channels up to their byte counters and the other sockets stay); its instances for
  the sender side, `close` and `open` stand with those functions. The registry half of a bind
  (`tcpBound`) is here; the tests `bind` makes before it (`tcpBind_pre`, `tcpBind_cases`) and move
  construction are in Lemmas/NetTcp.lean, on the registry lemmas. Order: channel counters, `NStep`, effect
  shapes; sender side; aborts; read tables; the functions that only replace the object; close, open,
  attach; the accept queue; connect; `incoming_packet`; the packets an effect list forwards (`s5_forwards`).
-/

import SimVerif.Lemmas.Assoc

namespace SimVerif

/-- the channel record without its two byte counters (the only part `send_packet` updates) -/
def Chan.static (c : Chan) : Chan := { c with sent0 := 0, sent1 := 0 }

theorem chan?_setChan_static (n : NetSt) (c c' : Nat) (ch ch0 : Chan) (h0 : n.chan? c = some ch0)
    (hs : ch.static = ch0.static) :
    ((n.setChan c ch).chan? c').map Chan.static = (n.chan? c').map Chan.static := by
  by_cases hc : c' = c
  · subst hc; rw [chan?_setChan_same _ _ _ (by simp [h0]), h0]; simp [hs]
  · rw [chan?_setChan_other _ _ _ _ hc]

/-- `bytes_sent[idx]` -/
def Chan.sent (c : Chan) (idx : Nat) : Nat := if idx = 0 then c.sent0 else c.sent1

/-- `bytes_sent[idx] += uint32(len)` -/
def Chan.bump (c : Chan) (idx len : Nat) : Chan :=
  if idx = 0 then { c with sent0 := (c.sent0 + len) % 4294967296 }
  else { c with sent1 := (c.sent1 + len) % 4294967296 }

theorem Chan.bump_ep0 (c : Chan) (i l : Nat) : (c.bump i l).ep0 = c.ep0 := by unfold Chan.bump; split <;> rfl
theorem Chan.bump_ep1 (c : Chan) (i l : Nat) : (c.bump i l).ep1 = c.ep1 := by unfold Chan.bump; split <;> rfl

theorem Chan.bump_ep (c : Chan) (i l k : Nat) : (c.bump i l).ep k = c.ep k := by
  unfold Chan.ep; rw [Chan.bump_ep0, Chan.bump_ep1]

theorem Chan.bump_remoteIdx (c : Chan) (i l : Nat) (e : Ep) : (c.bump i l).remoteIdx e = c.remoteIdx e := by
  unfold Chan.remoteIdx; rw [Chan.bump_ep0]

theorem Chan.bump_selfIdx (c : Chan) (i l : Nat) (e : Ep) : (c.bump i l).selfIdx e = c.selfIdx e := by
  unfold Chan.selfIdx; rw [Chan.bump_ep0]

theorem Chan.remoteIdx_ep0 (c : Chan) : c.remoteIdx c.ep0 = 1 := by simp [Chan.remoteIdx]

theorem Chan.remoteIdx_ne {c : Chan} {e : Ep} (h : c.ep0 ≠ e) : c.remoteIdx e = 0 := by
  simp [Chan.remoteIdx, h]

theorem Chan.bump_sent_same (c : Chan) (i l : Nat) : (c.bump i l).sent i = (c.sent i + l) % 4294967296 := by
  unfold Chan.bump Chan.sent; split <;> simp_all

theorem Chan.selfIdx_cases (c : Chan) (e : Ep) : c.selfIdx e = 0 ∨ c.selfIdx e = 1 := by
  unfold Chan.selfIdx; split <;> simp

theorem Chan.bump_sent_other (c : Chan) (i j l : Nat) (hi : i = 0 ∨ i = 1) (hj : j = 0 ∨ j = 1) (h : j ≠ i) :
    (c.bump i l).sent j = c.sent j := by
  unfold Chan.bump Chan.sent
  rcases hi with rfl | rfl <;> rcases hj with rfl | rfl <;> simp_all

theorem Chan.bump_static (c : Chan) (i l : Nat) : (c.bump i l).static = c.static := by
  unfold Chan.bump; split <;> rfl

/-- `cs` is the channel table of `n` but for the byte counters of channel `c` -/
structure CountersOnly (n : NetSt) (c : Option Nat) (cs : List Chan) : Prop where
  len : cs.length = n.chans.length
  static : ∀ d, (cs[d]?).map Chan.static = (n.chan? d).map Chan.static
  other : ∀ d, some d ≠ c → cs[d]? = n.chan? d

theorem CountersOnly.refl (n : NetSt) (c : Option Nat) : CountersOnly n c n.chans := ⟨rfl, fun _ => rfl, fun _ _ => rfl⟩

theorem CountersOnly.setChan {n : NetSt} {cid : Nat} {ch ch' : Chan} (h : n.chan? cid = some ch) (hs : ch'.static = ch.static) :
    CountersOnly n (some cid) (n.setChan cid ch').chans :=
  ⟨by simp [NetSt.setChan], fun d => chan?_setChan_static n cid d ch' ch h hs,
   fun d hd => chan?_setChan_other n cid d ch' fun e => hd (by rw [e])⟩

theorem chan?_withChans (n : NetSt) (cs : List Chan) (c : Nat) : ({ n with chans := cs } : NetSt).chan? c = cs[c]? := rfl

theorem CountersOnly.map {n : NetSt} {c : Option Nat} {cs : List Chan} {α : Type} (h : CountersOnly n c cs) (π : Chan → α)
    (hπ : ∀ ch, π ch.static = π ch) (d : Nat) : (cs[d]?).map π = (n.chan? d).map π := by
  have := congrArg (Option.map π) (h.static d)
  simpa only [Option.map_map, Function.comp_def, hπ] using this

/-- an action of socket `name`: configuration, channels up to their byte counters and the other
    sockets stay; the socket stays too, related to what it was by `f` -/
structure NStep (n n' : NetSt) (name : String) (f : TcpSock → TcpSock → Prop) : Prop where
  cfg : n'.cfg = n.cfg
  chans : ∀ c, (n'.chan? c).map Chan.static = (n.chan? c).map Chan.static
  other : ∀ k, k ≠ name → n'.tcp? k = n.tcp? k
  self : ∀ s, n.tcp? name = some s → ∃ s', n'.tcp? name = some s' ∧ f s s'

namespace NStep

variable {n n' n'' : NetSt} {name : String} {f g h : TcpSock → TcpSock → Prop}

theorem refl (hf : ∀ s, f s s) : NStep n n name f :=
  ⟨rfl, fun _ => rfl, fun _ _ => rfl, fun s hs => ⟨s, hs, hf s⟩⟩

theorem of_none (hs : n.tcp? name = none) : NStep n n name f :=
  ⟨rfl, fun _ => rfl, fun _ _ => rfl, fun s h => by rw [hs] at h; cases h⟩

theorem set {s s' : TcpSock} (hs : n.tcp? name = some s) (hf : f s s') : NStep n (n.setTcp name s') name f :=
  ⟨rfl, fun _ => rfl, fun _ hk => tcp?_setTcp_other _ _ _ _ hk,
   fun t ht => by rw [hs] at ht; cases ht; exact ⟨s', tcp?_setTcp_same _ _ _, hf⟩⟩

theorem put {n1 : NetSt} {s s' : TcpSock} (hc : n1.cfg = n.cfg)
    (hch : ∀ c, (n1.chan? c).map Chan.static = (n.chan? c).map Chan.static) (ht : n1.tcps = n.tcps)
    (hs : n.tcp? name = some s) (hf : f s s') : NStep n (n1.setTcp name s') name f :=
  ⟨hc, hch, fun k hk => (tcp?_setTcp_other _ _ _ _ hk).trans (congrArg (·.lookup k) ht),
   fun t ht' => by rw [hs] at ht'; cases ht'; exact ⟨s', tcp?_setTcp_same _ _ _, hf⟩⟩

theorem trans (h1 : NStep n n' name f) (h2 : NStep n' n'' name g) (hfg : ∀ a b c, f a b → g b c → h a c) :
    NStep n n'' name h :=
  ⟨h2.cfg.trans h1.cfg, fun c => (h2.chans c).trans (h1.chans c), fun k hk => (h2.other k hk).trans (h1.other k hk),
   fun s hs => by
    obtain ⟨s1, hs1, hf⟩ := h1.self s hs
    obtain ⟨s2, hs2, hg⟩ := h2.self s1 hs1
    exact ⟨s2, hs2, hfg _ _ _ hf hg⟩⟩

theorem mono (h1 : NStep n n' name f) (hfg : ∀ s s', f s s' → g s s') : NStep n n' name g :=
  ⟨h1.cfg, h1.chans, h1.other, fun s hs => let ⟨s', h1, h2⟩ := h1.self s hs; ⟨s', h1, hfg _ _ h2⟩⟩

theorem map_eq {α : Type} (hst : NStep n n' name f) (π : TcpSock → α) (hπ : ∀ s s', f s s' → π s' = π s)
    (hn : n.tcp? name = none → n'.tcp? name = none) (k : String) :
    (n'.tcp? k).map π = (n.tcp? k).map π := by
  by_cases hk : k = name
  · subst hk
    cases hs : n.tcp? k with
    | none => rw [hn hs]
    | some s => obtain ⟨s', hs', hf⟩ := hst.self s hs; rw [hs', Option.map_some, Option.map_some, hπ s s' hf]
  · rw [hst.other k hk]

end NStep

def Posts (l : List NEff) : Prop := ∀ e ∈ l, ∃ c, e = NEff.post c

def Aborts (l : List NEff) : Prop := ∀ e ∈ l, ∃ c, e = NEff.post c ∧ c.ec = .aborted

theorem Aborts.posts {l : List NEff} (h : Aborts l) : Posts l := fun e he => let ⟨c, hc, _⟩ := h e he; ⟨c, hc⟩
theorem Aborts.nil : Aborts [] := fun _ h => nomatch h

theorem Aborts.one (c : Compl) (h : c.ec = .aborted) : Aborts [.post c] :=
  fun _ he => ⟨c, List.mem_singleton.mp he, h⟩

theorem Aborts.append {a b : List NEff} (ha : Aborts a) (hb : Aborts b) : Aborts (a ++ b) :=
  fun e he => (List.mem_append.mp he).elim (ha e) (hb e)

theorem Posts.nil : Posts [] := fun _ h => nomatch h
theorem Posts.one (c : Compl) : Posts [.post c] := fun _ he => ⟨c, List.mem_singleton.mp he⟩

theorem Posts.append {a b : List NEff} (ha : Posts a) (hb : Posts b) : Posts (a ++ b) :=
  fun e he => (List.mem_append.mp he).elim (ha e) (hb e)

/-- the in-flight account of `send_packet` -/
def TcpSock.sendAcct (s : TcpSock) (p : Pkt) : TcpSock :=
  { s with inFlight := s.inFlight + p.payload.length,
           outstanding := (s.outstanding.filter (fun e => e.1 != p.id)) ++ [(p.id, p.payload.length)] }

/-- what `send_packet` emits: the capture record (when capturing), then the packet -/
def sendEffs (pcap : Bool) (now : Int) (src dst : Ep) (seq : Nat) (p : Pkt) : List NEff :=
  (if pcap then [NEff.pcapTcp now src dst seq p.payload] else []) ++ [.forward { p with bc := seq }]

/-- no socket object, no channel, or a dangling channel id: `send_packet` cannot run -/
def NoChan (n : NetSt) (name : String) : Prop := ((n.tcp? name).bind (·.chan)).bind n.chan? = none

theorem noChan_iff {n : NetSt} {name : String} {s : TcpSock} (hs : n.tcp? name = some s) :
    NoChan n name ↔ s.chan.bind n.chan? = none := by
  rw [NoChan, hs]; exact Iff.rfl

theorem NoChan.of_none {n : NetSt} {name : String} (hs : n.tcp? name = none) : NoChan n name := by rw [NoChan, hs]; rfl

/-- the payload packet `write_some_impl` builds for one segment -/
def TcpSock.newSeg (s : TcpSock) (hops : List String) (seg : List UInt8) : Pkt :=
  { id := s.nextOut, ty := .payload, len := seg.length, ovh := 40, hops := hops, src := s.bound.toString,
    payload := seg, hasDrop := true, dropFwd := s.fwd }

/-- the window is full: `write_some_impl` refuses -/
abbrev TcpSock.WindowFull (s : TcpSock) : Prop := s.inFlight + s.mss > s.cwnd

/-- the segments `write_some_impl` cuts the buffers into -/
def cutBufs (mss : Nat) (bufs : List (List UInt8)) : List (List UInt8) :=
  (bufs.map fun b => cutBuf mss (b.length + 1) b).flatten

/-- the packet as `packet_dropped` queues it for retransmission: the drop callback is bound to the
    socket's forwarder again iff `rearmDrop` -/
def handedBack (tp : TParams) (t : TcpSock) (hops : List String) (p : Pkt) : Pkt :=
  { p with hops := hops, hasDrop := tp.rearmDrop, dropFwd := if tp.rearmDrop then t.fwd else none }

/-- `packet_dropped` on the socket alone, without the window halving (in-flight release in place) -/
def dropBase (t : TcpSock) (p' : Pkt) : TcpSock :=
  { t with inFlight := t.inFlight - ((t.outstanding.lookup p'.id).getD 0 : Nat),
           outstanding := t.outstanding.filter (fun e => e.1 != p'.id),
           resend := t.resend ++ [p'] }

/-- the congestion reaction of `packet_dropped` to the loss of packet `id`: the window is halved
    (not below one segment) and the drop noted, unless it falls into the window of the previous one -/
def TcpSock.halved (s : TcpSock) (id : Nat) : TcpSock :=
  if s.lastDrop > 0 && id < s.lastDrop + (if s.mss = 0 then 0 else s.cwnd / s.mss) then s
  else { s with cwnd := if s.cwnd / 2 < s.mss then s.mss else s.cwnd / 2, lastDrop := id }

theorem TcpSock.halved_eq (s : TcpSock) (id : Nat) :
    ∃ cw ld, s.halved id = { s with cwnd := cw, lastDrop := ld } ∧ (s.mss ≤ s.cwnd → s.mss ≤ cw) := by
  unfold TcpSock.halved
  by_cases h : (s.lastDrop > 0 && id < s.lastDrop + (if s.mss = 0 then 0 else s.cwnd / s.mss)) = true
  · rw [if_pos h]; exact ⟨_, _, rfl, fun hm => hm⟩
  · rw [if_neg h]; exact ⟨_, _, rfl, fun _ => by split <;> omega⟩

section sender

variable (n : NetSt) (now : Int) (name : String)

theorem tcpSendPacket_conn (p : Pkt) (s : TcpSock) (cid : Nat) (ch : Chan)
    (hs : n.tcp? name = some s) (hc : s.chan = some cid) (hch : n.chan? cid = some ch) :
    n.tcpSendPacket now name p =
      ((n.setChan cid (ch.bump (ch.selfIdx s.bound) p.payload.length)).setTcp name (s.sendAcct p),
       sendEffs n.cfg.pcap now s.bound (ch.ep (ch.remoteIdx s.bound)) (ch.sent (ch.selfIdx s.bound)) p) := by
  have hb : s.chan.bind n.chan? = some ch := by rw [hc]; exact hch
  unfold NetSt.tcpSendPacket
  have hg : s.chan.getD 0 = cid := by rw [hc]; rfl
  simp only [hs, hb, hg]
  show ((n.setChan cid (ch.bump (ch.selfIdx s.bound) p.payload.length)).setTcp name (s.sendAcct p),
      (if n.cfg.pcap then [NEff.pcapTcp now s.bound
        ((ch.bump (ch.selfIdx s.bound) p.payload.length).ep ((ch.bump (ch.selfIdx s.bound) p.payload.length).remoteIdx s.bound))
        (ch.sent (ch.selfIdx s.bound)) p.payload] else []) ++ [.forward { p with bc := ch.sent (ch.selfIdx s.bound) }]) = _
  rw [Chan.bump_remoteIdx, Chan.bump_ep]
  rfl

/-- `send_packet` without a socket object / without a channel: nothing at all (in the C++ the
    latter is a null dereference: Props/C12) -/
theorem NoChan.sendPacket {n : NetSt} {name : String} (h : NoChan n name) (now : Int) (p : Pkt) :
    n.tcpSendPacket now name p = (n, []) := by
  unfold NetSt.tcpSendPacket
  cases hs : n.tcp? name with
  | none => rfl
  | some s => simp only [(noChan_iff hs).mp h]

theorem tcpSendPacket_eq (p : Pkt) :
    (NoChan n name ∧ n.tcpSendPacket now name p = (n, []))
    ∨ ∃ s cid ch, n.tcp? name = some s ∧ s.chan = some cid ∧ n.chan? cid = some ch
        ∧ n.tcpSendPacket now name p =
          ((n.setChan cid (ch.bump (ch.selfIdx s.bound) p.payload.length)).setTcp name (s.sendAcct p),
           sendEffs n.cfg.pcap now s.bound (ch.ep (ch.remoteIdx s.bound)) (ch.sent (ch.selfIdx s.bound)) p) := by
  by_cases hd : NoChan n name
  · exact .inl ⟨hd, hd.sendPacket now p⟩
  · cases hs : n.tcp? name with
    | none => exact (hd (.of_none hs)).elim
    | some s =>
      cases hb : s.chan.bind n.chan? with
      | none => exact (hd ((noChan_iff hs).mpr hb)).elim
      | some ch =>
        obtain ⟨cid, hc, hch⟩ := Option.bind_eq_some_iff.mp hb
        exact .inr ⟨s, cid, ch, rfl, hc, hch, tcpSendPacket_conn n now name p s cid ch hs hc hch⟩

theorem tcpSendPacket_none (p : Pkt) (hs : n.tcp? name = none) : n.tcpSendPacket now name p = (n, []) :=
  (NoChan.of_none hs).sendPacket now p

theorem tcpSendPacket_step (p : Pkt) :
    NStep n (n.tcpSendPacket now name p).1 name
      (fun s s' => s' = { s with inFlight := s'.inFlight, outstanding := s'.outstanding }) := by
  rcases tcpSendPacket_eq n now name p with ⟨-, h⟩ | ⟨s, cid, ch, hs, -, hch, h⟩ <;> rw [h]
  · exact .refl fun _ => rfl
  · exact ⟨rfl, fun c => chan?_setChan_static _ _ _ _ _ hch (Chan.bump_static ..),
      fun k hk => tcp?_setTcp_other _ _ _ _ hk,
      fun t ht => by rw [hs] at ht; cases ht; exact ⟨_, tcp?_setTcp_same _ _ _, rfl⟩⟩

variable (hops : List String) (seg : List UInt8)

theorem tcpSendSeg_none (hs : n.tcp? name = none) : n.tcpSendSeg now name hops seg = (n, []) := by
  unfold NetSt.tcpSendSeg; rw [hs]

theorem tcpSendSeg_some (s : TcpSock) (hs : n.tcp? name = some s) :
    n.tcpSendSeg now name hops seg =
      (n.setTcp name { s with nextOut := s.nextOut + 1 }).tcpSendPacket now name (s.newSeg hops seg) := by
  unfold NetSt.tcpSendSeg; rw [hs]; rfl

theorem tcpSendSeg_step :
    NStep n (n.tcpSendSeg now name hops seg).1 name (fun s s' =>
      s' = { s with nextOut := s.nextOut + 1, inFlight := s'.inFlight, outstanding := s'.outstanding }) := by
  cases hs : n.tcp? name with
  | none => rw [tcpSendSeg_none _ _ _ _ _ hs]; exact .of_none hs
  | some s =>
    rw [tcpSendSeg_some _ _ _ _ _ s hs]
    exact (NStep.set (f := fun s s' => s' = { s with nextOut := s.nextOut + 1 }) hs rfl).trans
      (tcpSendPacket_step _ _ _ _) (by rintro a _ c rfl hc; exact hc)

theorem tcpResendOne_some (r : NetSt × List NEff) (h : n.tcpResendOne now name = some r) :
    ∃ s p rest, n.tcp? name = some s ∧ s.resend = p :: rest ∧ s.chan.isSome = true
      ∧ s.inFlight + p.payload.length ≤ s.cwnd
      ∧ r = (n.setTcp name { s with resend := rest }).tcpSendPacket now name p := by
  unfold NetSt.tcpResendOne at h
  split at h
  · cases h
  split at h
  · cases h
  split at h
  · cases h
  split at h
  · rename_i _ s hs _ p rest hr hc hw
    cases h
    exact ⟨s, p, rest, hs, hr, by cases h : s.chan with | none => simp [h] at hc | some _ => rfl, hw, rfl⟩
  · cases h

theorem tcpResendOne_eq (s : TcpSock) (hs : n.tcp? name = some s) (hc : s.chan.isSome = true) :
    n.tcpResendOne now name
      = match s.resend with
        | [] => none
        | p :: rest =>
          if s.inFlight + p.payload.length ≤ s.cwnd then
            some ((n.setTcp name { s with resend := rest }).tcpSendPacket now name p)
          else none := by
  obtain ⟨cid, hcid⟩ := Option.isSome_iff_exists.mp hc
  unfold NetSt.tcpResendOne; simp only [hs, hcid]
  cases s.resend <;> simp

theorem tcpResendOne_step (r : NetSt × List NEff) (h : n.tcpResendOne now name = some r) :
    NStep n r.1 name (fun s s' =>
      s' = { s with resend := s.resend.tail, inFlight := s'.inFlight, outstanding := s'.outstanding }) := by
  obtain ⟨s, p, rest, hs, hr, _, _, rfl⟩ := tcpResendOne_some n now name r h
  exact (NStep.set (f := fun s s' => s' = { s with resend := s.resend.tail }) hs (by rw [hr]; rfl)).trans
    (tcpSendPacket_step _ _ _ _) (by rintro a _ c rfl hc; exact hc)

variable (tp : TParams) (p : Pkt)

theorem tcpPacketDropped_conn (s : TcpSock) (ch : Chan) (hs : n.tcp? name = some s)
    (hb : s.chan.bind n.chan? = some ch) :
    n.tcpPacketDropped tp name p = n.setTcp name
      ((if tp.releaseOnDrop then dropBase s (handedBack tp s (ch.hops (ch.remoteIdx s.bound)) p)
        else { s with resend := s.resend ++ [handedBack tp s (ch.hops (ch.remoteIdx s.bound)) p] }).halved p.id) := by
  unfold NetSt.tcpPacketDropped
  cases tp.releaseOnDrop <;> simp only [hs, hb, Bool.false_eq_true, if_true, if_false] <;>
    exact (apply_ite (n.setTcp name) _ _ _).symm

theorem NoChan.packetDropped {n : NetSt} {name : String} (h : NoChan n name) (tp : TParams) (p : Pkt) :
    n.tcpPacketDropped tp name p = n := by
  unfold NetSt.tcpPacketDropped
  cases hs : n.tcp? name with
  | none => rfl
  | some s => simp only [(noChan_iff hs).mp h]

theorem tcpPacketDropped_none (hs : n.tcp? name = none) : n.tcpPacketDropped tp name p = n :=
  (NoChan.of_none hs).packetDropped tp p

theorem tcpPacketDropped_cases (s : TcpSock) (hs : n.tcp? name = some s) :
    (s.chan.bind n.chan? = none ∧ n.tcpPacketDropped tp name p = n)
    ∨ ∃ ch s', s.chan.bind n.chan? = some ch ∧ n.tcpPacketDropped tp name p = n.setTcp name s'
        ∧ s' = { s with inFlight := s'.inFlight, outstanding := s'.outstanding, cwnd := s'.cwnd,
                        lastDrop := s'.lastDrop,
                        resend := s.resend ++ [handedBack tp s (ch.hops (ch.remoteIdx s.bound)) p] } := by
  cases hb : s.chan.bind n.chan? with
  | none => exact .inl ⟨rfl, ((noChan_iff hs).mpr hb).packetDropped tp p⟩
  | some ch =>
    refine .inr ⟨ch, _, rfl, tcpPacketDropped_conn n name tp p s ch hs hb, ?_⟩
    obtain ⟨cw, ld, e, -⟩ := TcpSock.halved_eq
      (if tp.releaseOnDrop then dropBase s (handedBack tp s (ch.hops (ch.remoteIdx s.bound)) p)
       else { s with resend := s.resend ++ [handedBack tp s (ch.hops (ch.remoteIdx s.bound)) p] }) p.id
    rw [e]
    cases tp.releaseOnDrop <;> rfl

theorem tcpPacketDropped_step :
    NStep n (n.tcpPacketDropped tp name p) name (fun s s' =>
      s' = { s with inFlight := s'.inFlight, outstanding := s'.outstanding, cwnd := s'.cwnd,
                    lastDrop := s'.lastDrop, resend := s'.resend }) := by
  cases hs : n.tcp? name with
  | none => rw [tcpPacketDropped_none _ _ _ _ hs]; exact .of_none hs
  | some s =>
    rcases tcpPacketDropped_cases n name tp p s hs with ⟨_, h⟩ | ⟨_, s', _, h, h'⟩ <;> rw [h]
    · exact .refl fun _ => rfl
    · exact .set hs (by rw [h'])

end sender

theorem tcpAckPost_none (tp : TParams) (n : NetSt) (name : String) (wb : Bool) (acked : Nat)
    (hs : n.tcp? name = none) : n.tcpAckPost tp name wb acked = (n, false) := by
  unfold NetSt.tcpAckPost; rw [hs]

theorem tcpAckPost_eq {n : NetSt} {name : String} {t : TcpSock} (hs : n.tcp? name = some t) (tp : TParams)
    (wb : Bool) (acked : Nat) :
    n.tcpAckPost tp name wb acked
      = (n.setTcp name { t with cwnd := t.cwnd + t.mss * acked / t.cwnd },
         if tp.wakeWriterFixed then decide (t.inFlight + (t.mss : Int) ≤ ((t.cwnd + t.mss * acked / t.cwnd : Nat) : Int))
         else !wb && decide (t.inFlight + (t.mss : Int) ≤ ((t.cwnd + t.mss * acked / t.cwnd : Nat) : Int))) := by
  unfold NetSt.tcpAckPost; simp only [hs]

theorem tcpWriteFinish_none (n : NetSt) (name : String) (op : WriteOp) (r : Except Ec Nat)
    (hs : n.tcp? name = none) : n.tcpWriteFinish name op r = (n, []) := by
  unfold NetSt.tcpWriteFinish; rw [hs]

theorem tcpWriteFinish_eq (n : NetSt) (name : String) (op : WriteOp) (r : Except Ec Nat) (s : TcpSock)
    (hs : n.tcp? name = some s) :
    (r = .error .wouldBlock ∧ n.tcpWriteFinish name op r = (n.setTcp name { s with sendH := some op }, []))
    ∨ ∃ c, n.tcpWriteFinish name op r = (n.setTcp name { s with sendH := none }, [.post c]) ∧ c.h = op.h := by
  unfold NetSt.tcpWriteFinish
  rw [hs]; dsimp only
  split
  · exact Or.inl ⟨rfl, rfl⟩
  · exact Or.inr ⟨_, rfl, rfl⟩
  · exact Or.inr ⟨_, rfl, rfl⟩

theorem tcpWritePrep_rows {n : NetSt} {name : String} {s : TcpSock} (hs : n.tcp? name = some s)
    (bufs : List (List UInt8)) :
    (∃ e, n.tcpWritePrep name bufs = .error e ∧ (e = .wouldBlock → s.connectH.isSome = true ∨ s.WindowFull))
    ∨ ∃ ch, s.isOpen = true ∧ s.chan.bind n.chan? = some ch ∧ s.connectH = none
        ∧ ch.hops (ch.remoteIdx s.bound) ≠ [] ∧ ¬ s.WindowFull
        ∧ n.tcpWritePrep name bufs = .ok (ch.hops (ch.remoteIdx s.bound), cutBufs s.mss bufs) := by
  unfold NetSt.tcpWritePrep
  simp only [hs]
  cases ho : s.isOpen
  · exact .inl ⟨_, rfl, nofun⟩
  cases hb : s.chan.bind n.chan? with
  | none => exact .inl ⟨_, rfl, nofun⟩
  | some ch =>
    cases hc : s.connectH with
    | some x => exact .inl ⟨_, rfl, fun _ => .inl rfl⟩
    | none =>
      by_cases hh : ch.hops (ch.remoteIdx s.bound) = []
      · exact .inl ⟨.notConn, by simp [hh], nofun⟩
      · by_cases hw : s.WindowFull
        · exact .inl ⟨.wouldBlock, by simp [hh, hw], fun _ => .inr hw⟩
        · exact .inr ⟨ch, rfl, rfl, rfl, hh, hw, by simp [hh, hw, cutBufs]⟩

theorem tcpWritePrep_ok (n : NetSt) (name : String) (bufs : List (List UInt8)) (hops : List String)
    (segs : List (List UInt8)) (h : n.tcpWritePrep name bufs = .ok (hops, segs)) :
    ∃ s ch, n.tcp? name = some s ∧ s.isOpen = true ∧ s.chan.bind n.chan? = some ch ∧ s.connectH = none
      ∧ hops = ch.hops (ch.remoteIdx s.bound) ∧ hops ≠ [] ∧ ¬ s.WindowFull ∧ segs = cutBufs s.mss bufs := by
  cases hs : n.tcp? name with
  | none => unfold NetSt.tcpWritePrep at h; rw [hs] at h; cases h
  | some s =>
    rcases tcpWritePrep_rows hs bufs with ⟨e, he, -⟩ | ⟨ch, h1, hc, h2, h3, h4, he⟩ <;> rw [he] at h <;> cases h
    exact ⟨s, ch, rfl, h1, hc, h2, rfl, h3, h4, rfl⟩

/-- the outstanding accept of an acceptor (`none` for a plain socket) -/
def TcpSock.acceptOp (s : TcpSock) : Option AcceptOp := s.acc.bind (·.acceptOp)

def tcpAbortRecvEffs (s : TcpSock) : List NEff :=
  (match s.recvH with
    | some op => [NEff.post { h := op.h, ec := .aborted, extra := "n=0 data=-" }]
    | none => [])
  ++ (match s.waitRecvH with
    | some h => [NEff.post { h := h, ec := .aborted }]
    | none => [])

def tcpAbortSendEffs (s : TcpSock) : List NEff :=
  match s.sendH with
  | some op => [NEff.post { h := op.h, ec := .aborted, extra := writeExtra 0 op }]
  | none => []

/-- the abort of a pending connect in `cancel()` -/
def tcpAbortConnEffs (s : TcpSock) : List NEff :=
  match s.connectH with
  | some h => [NEff.post { h := h, ec := .aborted }]
  | none => []

def tcpAbortAcceptEffs (s : TcpSock) : List NEff :=
  match s.acceptOp with
  | some op => [acceptAbortEff op]
  | none => []

def tcpCancelEffs (s : TcpSock) : List NEff := tcpAbortRecvEffs s ++ tcpAbortSendEffs s ++ tcpAbortConnEffs s

theorem TcpSock.abortRecv_eq (s : TcpSock) :
    s.abortRecv = ({ s with recvH := none, waitRecvH := none, recvNull := false }, tcpAbortRecvEffs s) := rfl

theorem TcpSock.abortSend_eq (s : TcpSock) :
    s.abortSend = ({ s with sendH := none }, tcpAbortSendEffs s) := rfl

theorem TcpSock.cancel_eq (s : TcpSock) :
    s.cancel = ({ s with recvH := none, waitRecvH := none, recvNull := false, sendH := none, connectH := none },
      tcpCancelEffs s) := by
  unfold TcpSock.cancel tcpCancelEffs tcpAbortConnEffs
  rw [TcpSock.abortRecv_eq]; dsimp only
  rw [TcpSock.abortSend_eq]; dsimp only
  cases s.connectH with
  | none => exact Prod.ext rfl (List.append_nil _).symm
  | some hd => rfl

theorem TcpSock.abortAccept_eq (s : TcpSock) :
    s.abortAccept = ({ s with acc := s.acc.map fun a => { a with acceptOp := none } },
      ((s.acc.bind (·.acceptOp)).map acceptAbortEff).toList) := by
  unfold TcpSock.abortAccept
  cases s; rename_i acc
  cases acc with
  | none => rfl
  | some a => cases a; rename_i op; cases op <;> rfl

theorem TcpSock.abortAccept_effs (s : TcpSock) : s.abortAccept.2 = tcpAbortAcceptEffs s := by
  rw [TcpSock.abortAccept_eq]
  unfold tcpAbortAcceptEffs TcpSock.acceptOp
  cases s.acc.bind (·.acceptOp) <;> rfl

theorem aborts_tcpAbortRecvEffs (s : TcpSock) : Aborts (tcpAbortRecvEffs s) := by
  unfold tcpAbortRecvEffs
  refine .append ?_ ?_
  · cases s.recvH with | none => exact .nil | some _ => exact .one _ rfl
  · cases s.waitRecvH with | none => exact .nil | some _ => exact .one _ rfl

theorem aborts_tcpAbortSendEffs (s : TcpSock) : Aborts (tcpAbortSendEffs s) := by
  unfold tcpAbortSendEffs
  cases s.sendH with | none => exact .nil | some _ => exact .one _ rfl

theorem aborts_tcpAbortConnEffs (s : TcpSock) : Aborts (tcpAbortConnEffs s) := by
  unfold tcpAbortConnEffs
  cases s.connectH with | none => exact .nil | some _ => exact .one _ rfl

theorem aborts_tcpCancelEffs (s : TcpSock) : Aborts (tcpCancelEffs s) :=
  ((aborts_tcpAbortRecvEffs s).append (aborts_tcpAbortSendEffs s)).append (aborts_tcpAbortConnEffs s)

theorem aborts_tcpAbortAcceptEffs (s : TcpSock) : Aborts (tcpAbortAcceptEffs s) := by
  unfold tcpAbortAcceptEffs
  cases s.acceptOp with
  | none => exact .nil
  | some op => cases op <;> exact .one _ rfl

theorem aborts_cancel (s : TcpSock) : Aborts s.cancel.2 := by rw [TcpSock.cancel_eq]; exact aborts_tcpCancelEffs s

theorem aborts_abortAccept (s : TcpSock) : Aborts s.abortAccept.2 := by
  rw [TcpSock.abortAccept_effs]; exact aborts_tcpAbortAcceptEffs s

/-- what a completed (or parked) `async_read_some` posts, as a function of the `readSome` result -/
def readCompl (h : Nat) : Except Ec (List UInt8) → List Compl
  | .ok d => [{ h := h, ec := .ok, extra := readExtra d, data := d }]
  | .error .wouldBlock => []
  | .error e => [{ h := h, ec := e, extra := "n=0 data=-" }]

def waitCompl (h : Nat) : Except Ec Nat → List Compl
  | .error e => [{ h := h, ec := e }]
  | .ok k => if k > 0 then [{ h := h, ec := .ok }] else []

theorem asyncReadImpl_rows (s : TcpSock) (op : ReadOp) :
    ((s.readSome s.chan.isSome op.caps).2 = .error .wouldBlock
      ∧ s.asyncReadImpl op = ({ s with recvH := some op, recvNull := false }, []))
    ∨ ∃ c, c.h = op.h ∧ readCompl op.h (s.readSome s.chan.isSome op.caps).2 = [c]
        ∧ s.asyncReadImpl op = ({ (s.readSome s.chan.isSome op.caps).1 with recvH := none }, [.post c]) := by
  unfold TcpSock.asyncReadImpl
  generalize s.readSome s.chan.isSome op.caps = r
  obtain ⟨s1, res⟩ := r
  cases res with
  | ok d => exact .inr ⟨_, rfl, rfl, rfl⟩
  | error e => cases e <;> first | exact .inl ⟨rfl, rfl⟩ | exact .inr ⟨_, rfl, rfl, rfl⟩

theorem asyncWaitReadImpl_rows (s : TcpSock) (h : Nat) :
    (s.available s.chan.isSome = .ok 0
      ∧ s.asyncWaitReadImpl h = ({ s with waitRecvH := some h, recvNull := true }, []))
    ∨ ∃ c, c.h = h ∧ waitCompl h (s.available s.chan.isSome) = [c]
        ∧ s.asyncWaitReadImpl h = ({ s with recvH := none }, [.post c]) := by
  unfold TcpSock.asyncWaitReadImpl
  cases s.available s.chan.isSome with
  | error e => exact .inr ⟨_, rfl, rfl, rfl⟩
  | ok k =>
    cases k with
    | zero => exact .inl ⟨rfl, rfl⟩
    | succ k => exact .inr ⟨_, rfl, rfl, rfl⟩

theorem posts_asyncReadImpl (s : TcpSock) (op : ReadOp) : Posts (s.asyncReadImpl op).2 := by
  rcases asyncReadImpl_rows s op with ⟨-, e⟩ | ⟨c, -, -, e⟩ <;> rw [e]
  · exact .nil
  · exact .one c

theorem posts_asyncWaitReadImpl (s : TcpSock) (h : Nat) : Posts (s.asyncWaitReadImpl h).2 := by
  rcases asyncWaitReadImpl_rows s h with ⟨-, e⟩ | ⟨c, -, -, e⟩ <;> rw [e]
  · exact .nil
  · exact .one c

section lift

variable {n : NetSt} {name : String} {s : TcpSock} (hs : n.tcp? name = some s)

include hs

theorem tcpAsyncRead_eq (op : ReadOp) :
    n.tcpAsyncRead name op = (n.setTcp name (s.abortRecv.1.asyncReadImpl op).1,
      s.abortRecv.2 ++ (s.abortRecv.1.asyncReadImpl op).2) := by
  unfold NetSt.tcpAsyncRead; rw [hs]

theorem tcpWaitRead_eq (h : Nat) :
    n.tcpWaitRead name h = (n.setTcp name (s.abortRecv.1.asyncWaitReadImpl h).1,
      s.abortRecv.2 ++ (s.abortRecv.1.asyncWaitReadImpl h).2) := by
  unfold NetSt.tcpWaitRead; rw [hs]

theorem tcpReadNb_eq (caps : List Nat) :
    n.tcpReadNb name caps = (n.setTcp name (s.readSome s.chan.isSome caps).1, (s.readSome s.chan.isSome caps).2) := by
  unfold NetSt.tcpReadNb; rw [hs]

theorem tcpAsyncWrite_exact (op : WriteOp) :
    n.tcpAsyncWrite name op = (n.setTcp name { s with sendH := some op }, tcpAbortSendEffs s ++ [.tcpWrite name op.h]) := by
  unfold NetSt.tcpAsyncWrite; rw [hs]; rfl

theorem accListen_cases (qs : Int) :
    n.accListen name qs = (n, (n.accListen name qs).2)
    ∨ ∃ a, s.isOpen = true ∧ s.bound.isDefault = false ∧ s.acc = some a
        ∧ n.accListen name qs
            = (n.setTcp name { s with acc := some { a with queueLimit := if qs = -1 then 20 else qs } }, .ok) := by
  unfold NetSt.accListen
  rw [hs]; dsimp only
  cases ho : s.isOpen with
  | false => exact .inl rfl
  | true =>
    cases hb : s.bound.isDefault with
    | true => exact .inl rfl
    | false =>
      cases ha : s.acc with
      | none => exact .inl rfl
      | some a => exact .inr ⟨a, rfl, rfl, rfl, rfl⟩

end lift

theorem tcpAsyncWrite_none (n : NetSt) (name : String) (op : WriteOp) (hs : n.tcp? name = none) :
    n.tcpAsyncWrite name op = (n, []) := by
  unfold NetSt.tcpAsyncWrite; rw [hs]

theorem tcpCancel_eq (n : NetSt) (o : String) (s0 : TcpSock) (hs0 : n.tcp? o = some s0) :
    n.tcpCancel o = (n.setTcp o s0.cancel.1, s0.cancel.2) := by
  unfold NetSt.tcpCancel; simp only [hs0]

theorem accCancel_eq (n : NetSt) (a : String) (s0 : TcpSock) (hs0 : n.tcp? a = some s0) :
    n.accCancel a = (n.setTcp a s0.abortAccept.1, s0.abortAccept.2) := by
  unfold NetSt.accCancel; simp only [hs0]

section close

variable (n : NetSt) (now : Int) (name peer : String) (bindEp : Ep) (cid : Nat)

/-- the socket `close()` leaves: only the node, the address family and the acceptor part survive -/
def TcpSock.afterClose (s : TcpSock) : TcpSock := { node := s.node, isV4 := s.isV4, acc := s.acc }

/-- first half of `close()`: an established connection announces the end of the stream -/
def tcpCloseEof (n : NetSt) (now : Int) (name : String) (s0 : TcpSock) : NetSt × List NEff :=
  match s0.chan.bind n.chan? with
  | none => (n, [])
  | some ch =>
    let hops := ch.hops (ch.remoteIdx s0.bound)
    if !hops.isEmpty && s0.connectH.isNone then
      let p : Pkt := { id := s0.nextOut, ty := .err, ec := .eof, len := 0, ovh := 40, hops := hops,
                       src := s0.bound.toString }
      let n := n.setTcp name { s0 with nextOut := s0.nextOut + 1 }
      n.tcpSendPacket now name p
    else (n, [])

/-- second half of `close()`: unbind, detach the forwarder, reset the connection state, `cancel()` -/
def tcpCloseFin (n : NetSt) (name : String) (e0 : List NEff) : NetSt × List NEff :=
  match n.tcp? name with
  | none => (n, e0)
  | some s =>
    let n := if !s.bound.isDefault then { n with reg := { n.reg with tcp := simUnbind n.reg.tcp name s.bound } } else n
    let n := match s.fwd with | some f => n.setFwd f none | none => n
    let s := { s with chan := none, bound := {}, isOpen := false, fwd := none,
                      mss := 1475, cwnd := 2950, inFlight := 0, outstanding := [],
                      inq := [], reorder := [], resend := [], recvNull := false,
                      nextIn := 0, nextOut := 0, lastDrop := 0 }
    let (s, e1) := s.cancel
    (n.setTcp name s, e0 ++ e1)

theorem tcpClose_eq_of_some (n : NetSt) (now : Int) (name : String) (s0 : TcpSock) (hs : n.tcp? name = some s0) :
    n.tcpClose now name = tcpCloseFin (tcpCloseEof n now name s0).1 name (tcpCloseEof n now name s0).2 := by
  unfold NetSt.tcpClose tcpCloseFin tcpCloseEof
  rw [hs]; rfl

/-- the registry entry of `name` at `b` erased (if bound) and forwarder `fw` detached -/
def NetSt.released (n : NetSt) (name : String) (b : Ep) (fw : Option Nat) : NetSt :=
  { n with reg := { n.reg with tcp := if b.isDefault then n.reg.tcp else simUnbind n.reg.tcp name b },
           fwds := match fw with | some f => (n.setFwd f none).fwds | none => n.fwds }

theorem setChan_setTcp (n : NetSt) (k : String) (v : TcpSock) (c : Nat) (ch : Chan) :
    (n.setTcp k v).setChan c ch = (n.setChan c ch).setTcp k v := rfl

theorem newFwd_setTcp (n : NetSt) (k name : String) (v : TcpSock) :
    (n.setTcp k v).newFwd name = ((n.newFwd name).1.setTcp k v, n.fwds.length) := rfl

theorem released_setTcp (n : NetSt) (k name : String) (v : TcpSock) (b : Ep) (fw : Option Nat) :
    (n.setTcp k v).released name b fw = (n.released name b fw).setTcp k v := by
  cases fw <;> rfl

@[simp] theorem chan?_released (n : NetSt) (name : String) (b : Ep) (fw : Option Nat) (c : Nat) :
    (n.released name b fw).chan? c = n.chan? c := rfl

theorem released_fwds_length (n : NetSt) (name : String) (b : Ep) (fw : Option Nat) :
    (n.released name b fw).fwds.length = n.fwds.length := (fwdTarget_setFwdOpt (t := none) rfl).1

theorem fwdTarget_released (n : NetSt) (name : String) (b : Ep) (fw : Option Nat) (g : Nat) :
    (n.released name b fw).fwdTarget g = if fw = some g then none else n.fwdTarget g := fwdTarget_detach rfl g

/-- the end-of-stream marker of `close()` -/
def eofPkt (s : TcpSock) (hops : List String) : Pkt :=
  { id := s.nextOut, ty := .err, ec := .eof, len := 0, ovh := 40, hops := hops, src := s.bound.toString }

theorem tcpCloseFin_some (n : NetSt) (name : String) (e0 : List NEff) (s : TcpSock) (hs : n.tcp? name = some s) :
    tcpCloseFin n name e0 = ((n.released name s.bound s.fwd).setTcp name s.afterClose, e0 ++ tcpCancelEffs s) := by
  unfold tcpCloseFin NetSt.released
  simp only [hs, TcpSock.cancel_eq]
  cases s.fwd <;> cases s.bound.isDefault <;> rfl

theorem tcpCloseEof_conn (n : NetSt) (now : Int) (name : String) (s0 : TcpSock) (cid : Nat) (ch : Chan)
    (hc : s0.chan = some cid) (hch : n.chan? cid = some ch) :
    tcpCloseEof n now name s0 =
      if !(ch.hops (ch.remoteIdx s0.bound)).isEmpty && s0.connectH.isNone then
        ((n.setChan cid (ch.bump (ch.selfIdx s0.bound) 0)).setTcp name
            (({ s0 with nextOut := s0.nextOut + 1 } : TcpSock).sendAcct (eofPkt s0 (ch.hops (ch.remoteIdx s0.bound)))),
         sendEffs n.cfg.pcap now s0.bound (ch.ep (ch.remoteIdx s0.bound)) (ch.sent (ch.selfIdx s0.bound))
           (eofPkt s0 (ch.hops (ch.remoteIdx s0.bound))))
      else (n, []) := by
  have hb : s0.chan.bind n.chan? = some ch := by rw [hc]; exact hch
  unfold tcpCloseEof
  simp only [hb]
  split
  · rw [tcpSendPacket_conn _ now name _ { s0 with nextOut := s0.nextOut + 1 } cid ch (tcp?_setTcp_same _ _ _) hc hch,
      setChan_setTcp, setTcp_setTcp]
    rfl
  · rfl

theorem tcpCloseEof_noChan (n : NetSt) (now : Int) (name : String) (s0 : TcpSock)
    (h : s0.chan.bind n.chan? = none) : tcpCloseEof n now name s0 = (n, []) := by
  unfold tcpCloseEof; simp only [h]

theorem tcpCloseEof_cases (n : NetSt) (now : Int) (name : String) (s0 : TcpSock) :
    tcpCloseEof n now name s0 = (n, [])
    ∨ ∃ cid ch, s0.chan = some cid ∧ n.chan? cid = some ch
        ∧ tcpCloseEof n now name s0 =
          ((n.setChan cid (ch.bump (ch.selfIdx s0.bound) 0)).setTcp name
              (({ s0 with nextOut := s0.nextOut + 1 } : TcpSock).sendAcct (eofPkt s0 (ch.hops (ch.remoteIdx s0.bound)))),
           sendEffs n.cfg.pcap now s0.bound (ch.ep (ch.remoteIdx s0.bound)) (ch.sent (ch.selfIdx s0.bound))
             (eofPkt s0 (ch.hops (ch.remoteIdx s0.bound)))) := by
  cases hb : s0.chan.bind n.chan? with
  | none => exact .inl (tcpCloseEof_noChan n now name s0 hb)
  | some ch =>
    obtain ⟨cid, hc, hch⟩ := Option.bind_eq_some_iff.mp hb
    rw [tcpCloseEof_conn n now name s0 cid ch hc hch]
    split
    · exact .inr ⟨cid, ch, hc, hch, rfl⟩
    · exact .inl rfl

/-- the end-of-stream marker does not depend on the acceptor part of the object -/
theorem tcpCloseEof_effs_congr (n : NetSt) (now : Int) (name : String) (s s1 : TcpSock) (h1 : s1.chan = s.chan)
    (h2 : s1.bound = s.bound) (h3 : s1.connectH = s.connectH) (h4 : s1.nextOut = s.nextOut) :
    (tcpCloseEof (n.setTcp name s1) now name s1).2 = (tcpCloseEof n now name s).2 := by
  cases hb : s.chan.bind n.chan? with
  | none =>
    rw [tcpCloseEof_noChan n now name s hb, tcpCloseEof_noChan _ now name s1 (by rw [h1]; exact hb)]
  | some ch =>
    obtain ⟨cid, hc, hch⟩ := Option.bind_eq_some_iff.mp hb
    rw [tcpCloseEof_conn n now name s cid ch hc hch,
      tcpCloseEof_conn (n.setTcp name s1) now name s1 cid ch (h1.trans hc) hch, h2, h3]
    split
    · simp only [eofPkt, h2, h4]; rfl
    · rfl

theorem tcpCloseEof_step (s0 : TcpSock) (hs : n.tcp? name = some s0) :
    NStep n (tcpCloseEof n now name s0).1 name (fun s s' => s'.afterClose = s.afterClose) := by
  rcases tcpCloseEof_cases n now name s0 with e | ⟨cid, ch, -, hch, e⟩ <;> rw [e]
  · exact .refl fun _ => rfl
  · exact .put rfl (CountersOnly.setChan hch (Chan.bump_static ..)).static rfl hs rfl

theorem tcpClose_none (n : NetSt) (now : Int) (name : String) (h : n.tcp? name = none) :
    n.tcpClose now name = (n, []) := by
  unfold NetSt.tcpClose; rw [h]

theorem tcpClose_exact (n : NetSt) (now : Int) (name : String) (s0 : TcpSock) (hs : n.tcp? name = some s0) :
    ∃ cs, CountersOnly n s0.chan cs ∧ n.tcpClose now name =
      ((({ n with chans := cs } : NetSt).released name s0.bound s0.fwd).setTcp name s0.afterClose,
       (tcpCloseEof n now name s0).2 ++ tcpCancelEffs s0) := by
  rw [tcpClose_eq_of_some n now name s0 hs]
  rcases tcpCloseEof_cases n now name s0 with e | ⟨cid, ch, hc, hch, e⟩ <;> rw [e]
  · exact ⟨_, .refl n _, tcpCloseFin_some n name [] s0 hs⟩
  · refine ⟨_, hc ▸ CountersOnly.setChan hch (Chan.bump_static ch (ch.selfIdx s0.bound) 0), ?_⟩
    rw [tcpCloseFin_some _ name _ _ (tcp?_setTcp_same _ _ _), released_setTcp, setTcp_setTcp]
    rfl

theorem tcpClose_some (n : NetSt) (now : Int) (name : String) (s0 : TcpSock) (h : n.tcp? name = some s0) :
    (n.tcpClose now name).2 = (tcpCloseEof n now name s0).2 ++ tcpCancelEffs s0
    ∧ (n.tcpClose now name).1.tcp? name = some s0.afterClose := by
  obtain ⟨cs, -, e⟩ := tcpClose_exact n now name s0 h
  rw [e]; exact ⟨rfl, tcp?_setTcp_same _ _ _⟩

theorem tcpClose_step :
    NStep n (n.tcpClose now name).1 name (fun s s' => s' = s.afterClose) := by
  cases hs : n.tcp? name with
  | none => rw [tcpClose_none n now name hs]; exact .of_none hs
  | some s0 =>
    obtain ⟨cs, hb, e⟩ := tcpClose_exact n now name s0 hs
    rw [e]; exact .put rfl hb.static rfl hs rfl

theorem tcpOpen_none (v4 : Bool) (hs : n.tcp? name = none) :
    n.tcpOpen now name v4 = (n, []) := by
  unfold NetSt.tcpOpen; rw [tcpClose_none n now name hs]; dsimp only; rw [hs]

/-- `open()` = `close()`, then a fresh forwarder -/
theorem tcpOpen_exact (n : NetSt) (now : Int) (name : String) (v4 : Bool) (s0 : TcpSock) (hs : n.tcp? name = some s0) :
    ∃ cs, CountersOnly n s0.chan cs ∧ n.tcpOpen now name v4 =
      (((({ n with chans := cs } : NetSt).released name s0.bound s0.fwd).newFwd name).1.setTcp name
          { s0.afterClose with isOpen := true, isV4 := v4, fwd := some n.fwds.length },
       (tcpCloseEof n now name s0).2 ++ tcpCancelEffs s0) := by
  obtain ⟨cs, hb, e⟩ := tcpClose_exact n now name s0 hs
  refine ⟨cs, hb, ?_⟩
  unfold NetSt.tcpOpen
  simp only [e, tcp?_setTcp_same, newFwd_setTcp, setTcp_setTcp, released_fwds_length]

theorem tcpOpen_step (v4 : Bool) :
    NStep n (n.tcpOpen now name v4).1 name
      (fun s s' => ∃ fid, s' = { s.afterClose with isOpen := true, isV4 := v4, fwd := some fid }) := by
  cases hs : n.tcp? name with
  | none => rw [tcpOpen_none _ _ _ _ hs]; exact .of_none hs
  | some s0 =>
    obtain ⟨cs, hb, e⟩ := tcpOpen_exact n now name v4 s0 hs
    rw [e]; exact .put rfl hb.static rfl hs ⟨_, rfl⟩

/-- the socket an incoming connection is attached to: reset by `open()`, then bound and connected -/
def TcpSock.attached (p0 : TcpSock) (fid : Nat) (bindEp : Ep) (cid mss : Nat) : TcpSock :=
  { p0.afterClose with isOpen := true, isV4 := p0.isV4, fwd := some fid, bound := bindEp, chan := some cid,
                       mss := mss, cwnd := mss * 2 }

theorem tcpAttach_none (hp : n.tcp? peer = none) : n.tcpAttach now peer bindEp cid = (n, []) := by
  unfold NetSt.tcpAttach; rw [hp]

/-- `tcp::socket::internal_connect` = `open()`, then bound and attached if the channel exists -/
theorem tcpAttach_exact (n : NetSt) (now : Int) (peer : String) (bindEp : Ep) (cid : Nat) (p0 : TcpSock)
    (hp : n.tcp? peer = some p0) :
    ∃ cs, CountersOnly n p0.chan cs ∧ n.tcpAttach now peer bindEp cid =
      (match cs[cid]? with
        | some ch =>
          (((({ n with chans := cs } : NetSt).released peer p0.bound p0.fwd).newFwd peer).1.setChan cid
              { ch with hops1 := ch.hops1.dropLast ++ [fwdHop n.fwds.length] }).setTcp peer
            (p0.attached n.fwds.length bindEp cid (n.cfg.pathMtu bindEp.addr ch.ep0.addr))
        | none =>
          ((({ n with chans := cs } : NetSt).released peer p0.bound p0.fwd).newFwd peer).1.setTcp peer
            { p0.afterClose with isOpen := true, isV4 := p0.isV4, fwd := some n.fwds.length },
       (tcpCloseEof n now peer p0).2 ++ tcpCancelEffs p0) := by
  obtain ⟨cs, hb, e⟩ := tcpOpen_exact n now peer p0.isV4 p0 hp
  refine ⟨cs, hb, ?_⟩
  unfold NetSt.tcpAttach
  simp only [hp, e, tcp?_setTcp_same, chan?_setTcp, chan?_newFwd, chan?_released]
  rw [chan?_withChans]
  cases cs[cid]? with
  | none => rfl
  | some ch => dsimp only; rw [setTcp_setTcp]; rfl

end close

/-- the resets a closed acceptor answers its queued connections with -/
def rstEffs (n : NetSt) (conns : List Nat) (src : String) : List NEff :=
  conns.filterMap (fun c => (n.chan? c).map (fun ch =>
    NEff.forward { id := 0, ty := .err, ec := .reset, len := 0, ovh := 28, hops := ch.hops0, src := src }))

theorem rstEffs_countersOnly {n : NetSt} {c : Option Nat} {cs : List Chan} (hb : CountersOnly n c cs) (conns : List Nat)
    (src : String) : rstEffs { n with chans := cs } conns src = rstEffs n conns src := by
  unfold rstEffs
  congr 1
  exact funext (hb.map _ fun _ => rfl)

/-- first half of `check_accept_queue()`: a closed acceptor resets whatever is queued and aborts the accept -/
def accResetClosed (n : NetSt) (name : String) (s0 : TcpSock) (a0 : AccState) : NetSt × List NEff :=
  if !s0.isOpen then
    let rsts := rstEffs n a0.conns s0.bound.toString
    let s := { s0 with acc := some { a0 with conns := [] } }
    let (s, ea) := s.abortAccept
    (n.setTcp name s, rsts ++ ea)
  else (n, [])

/-- second half: hand the oldest queued connection to the outstanding accept -/
def accTryAccept (n : NetSt) (now : Int) (name : String) : NetSt × List NEff :=
  match n.tcp? name with
  | none => (n, [])
  | some s =>
    match s.acc with
    | none => (n, [])
    | some a =>
      match a.acceptOp, a.conns with
      | none, _ => (n, [])
      | _, [] => (n, [])
      | some op, c :: rest =>
        let n := n.setTcp name { s with acc := some { a with conns := rest, acceptOp := none } }
        let peer := match op with | .into _ pn _ => pn | .fresh _ nn => nn
        let vis := ((n.chan? c).map (·.vis0)).getD {}
        let (n, e1) := n.tcpAttach now peer s.bound c
        match n.chan? c with
        | none => (n, e1)
        | some ch =>
          let synack : Pkt := { id := 0, ty := .synack, len := 0, ovh := 28, hops := ch.hops0,
                                src := s.bound.toString, chan := some c }
          let done := match op with
            | .into h _ withEp => NEff.post { h := h, ec := .ok, extra := if withEp then "ep=" ++ vis.toString else "" }
            | .fresh h _ => NEff.post { h := h, ec := .ok }
          (n, e1 ++ [.forward synack, done])

/-- the hand-over of `check_accept_queue()`, once accept and connection are taken out of the acceptor -/
def accHandOver (n1 : NetSt) (now : Int) (bound : Ep) (op : AcceptOp) (c : Nat) : NetSt × List NEff :=
  let vis := ((n1.chan? c).map (·.vis0)).getD {}
  let r := n1.tcpAttach now op.peer bound c
  match r.1.chan? c with
  | none => r
  | some ch =>
    (r.1, r.2 ++ [.forward { id := 0, ty := .synack, len := 0, ovh := 28, hops := ch.hops0, src := bound.toString, chan := some c },
                  .post { h := op.h, ec := .ok, extra := if op.withEp then "ep=" ++ vis.toString else "" }])

section
variable {n : NetSt} {name : String} {s : TcpSock} {a : AccState} (hs : n.tcp? name = some s) (ha : s.acc = some a)
  (now : Int)
include hs ha

theorem accTryAccept_idle (hidle : a.acceptOp = none ∨ a.conns = []) : accTryAccept n now name = (n, []) := by
  unfold accTryAccept
  rw [hs]; dsimp only; rw [ha]; dsimp only
  rcases hidle with h | h <;> rw [h]
  cases a.acceptOp <;> rfl

theorem accTryAccept_pop {op : AcceptOp} {c : Nat} {rest : List Nat} (hop : a.acceptOp = some op)
    (hc : a.conns = c :: rest) :
    accTryAccept n now name =
      accHandOver (n.setTcp name { s with acc := some { a with conns := rest, acceptOp := none } }) now s.bound op c := by
  unfold accTryAccept accHandOver
  rw [hs]; dsimp only; rw [ha]; dsimp only; rw [hop, hc]
  cases op <;> rfl

end

theorem accCheckQueue_eq (n : NetSt) (now : Int) (name : String) :
    n.accCheckQueue now name = match n.tcp? name with
      | none => (n, [])
      | some s0 =>
        match s0.acc with
        | none => (n, [])
        | some a0 =>
          ((accTryAccept (accResetClosed n name s0 a0).1 now name).1,
            (accResetClosed n name s0 a0).2 ++ (accTryAccept (accResetClosed n name s0 a0).1 now name).2) := by
  unfold NetSt.accCheckQueue
  cases hs0 : n.tcp? name with
  | none => rfl
  | some s0 =>
    dsimp only
    cases ha0 : s0.acc with
    | none => rfl
    | some a0 =>
      dsimp only
      unfold accResetClosed rstEffs
      dsimp only
      generalize (if (!s0.isOpen) = true then _ else _ : NetSt × List NEff) = r
      unfold accTryAccept
      cases h1 : r.1.tcp? name with
      | none => simp
      | some s =>
        dsimp only
        cases h2 : s.acc with
        | none => simp
        | some a =>
          dsimp only
          cases h3 : a.acceptOp with
          | none => simp
          | some op =>
            cases h4 : a.conns with
            | nil => simp
            | cons c rest =>
              dsimp only
              generalize NetSt.tcpAttach _ _ _ _ _ = x
              cases h5 : x.1.chan? c <;> simp <;> (cases op <;> rfl)

theorem accCheckQueue_open {n : NetSt} {name : String} {s : TcpSock} {a : AccState} (hs : n.tcp? name = some s)
    (ha : s.acc = some a) (now : Int) (ho : s.isOpen = true) : n.accCheckQueue now name = accTryAccept n now name := by
  rw [accCheckQueue_eq, hs]; dsimp only; rw [ha]; dsimp only
  unfold accResetClosed; rw [ho]; simp

theorem accCheckQueue_closed (n : NetSt) (now : Int) (name : String) (s0 : TcpSock) (a0 : AccState)
    (hs : n.tcp? name = some s0) (ha : s0.acc = some a0) (ho : s0.isOpen = false) :
    n.accCheckQueue now name =
      (n.setTcp name { s0 with acc := some { a0 with conns := [], acceptOp := none } },
       rstEffs n a0.conns s0.bound.toString ++ (a0.acceptOp.map acceptAbortEff).toList) := by
  have hl (t : TcpSock) : (n.setTcp name t).tcp? name = some t := lookup_setAssoc_same _ _ _
  unfold NetSt.accCheckQueue
  simp only [hs, ha, ho, Bool.not_false, if_true, TcpSock.abortAccept_eq, hl]
  rfl

theorem accCheckQueue_noacc (n : NetSt) (now : Int) (name : String) (s0 : TcpSock)
    (hs : n.tcp? name = some s0) (ha : s0.acc = none) : n.accCheckQueue now name = (n, []) := by
  unfold NetSt.accCheckQueue
  simp only [hs, ha]

/-- stage 0 of `async_accept`: close the peer socket / create the socket to be returned -/
def accAcceptPrep (n : NetSt) (now : Int) (name : String) (op : AcceptOp) : NetSt × List NEff :=
  match op with
  | .into _ peer _ =>
    (match n.tcp? peer with
     | some p => if p.isOpen then n.tcpClose now peer else (n, [])
     | none => (n, []))
  | .fresh _ nn =>
    (match n.tcp? name with
     | some s => (n.setTcp nn { node := s.node }, [])
     | none => (n, []))

theorem accAsyncAccept_eq (n : NetSt) (now : Int) (name : String) (op : AcceptOp) :
    n.accAsyncAccept now name op =
      match (accAcceptPrep n now name op).1.tcp? name with
      | none => ((accAcceptPrep n now name op).1, (accAcceptPrep n now name op).2)
      | some s =>
        match s.abortAccept.1.acc with
        | none => ((accAcceptPrep n now name op).1, (accAcceptPrep n now name op).2 ++ s.abortAccept.2)
        | some a =>
          ((((accAcceptPrep n now name op).1.setTcp name
              { s.abortAccept.1 with acc := some { a with acceptOp := some op } }).accCheckQueue now name).1,
            (accAcceptPrep n now name op).2 ++ s.abortAccept.2 ++
            (((accAcceptPrep n now name op).1.setTcp name
              { s.abortAccept.1 with acc := some { a with acceptOp := some op } }).accCheckQueue now name).2) := by
  unfold NetSt.accAsyncAccept accAcceptPrep
  rfl

/-- the preconditions of `async_accept`: the object is an acceptor; the socket a socket-returning
    accept creates does not exist yet -/
def AcceptPre (n : NetSt) (name : String) (op : AcceptOp) : Prop :=
  (∃ s0, n.tcp? name = some s0 ∧ s0.acc.isSome) ∧ (∀ h nn, op = .fresh h nn → n.tcp? nn = none)

/-- `acceptor::close()`; on a plain socket object it is `close()` -/
theorem accClose_exact (n : NetSt) (now : Int) (name : String) (s : TcpSock) (hs : n.tcp? name = some s) :
    ∃ cs, CountersOnly n s.chan cs ∧ n.accClose now name =
      ((({ n with chans := cs } : NetSt).released name s.bound s.fwd).setTcp name
          { s.afterClose with acc := s.acc.map fun _ => { queueLimit := -1, conns := [], acceptOp := none } },
       tcpAbortAcceptEffs s ++ ((tcpCloseEof n now name s).2 ++ tcpCancelEffs s)
         ++ rstEffs n ((s.acc.map (·.conns)).getD []) ({} : Ep).toString) := by
  obtain ⟨s1, hs1⟩ : ∃ s1 : TcpSock, s1 = { s with acc := s.acc.map fun a => { a with queueLimit := -1, acceptOp := none } } :=
    ⟨_, rfl⟩
  obtain ⟨cs, hb, e⟩ := tcpClose_exact (n.setTcp name s1) now name s1 (tcp?_setTcp_same _ _ _)
  have hb' : CountersOnly n s.chan cs := by rw [hs1] at hb; exact ⟨hb.len, hb.static, hb.other⟩
  have he := tcpCloseEof_effs_congr n now name s s1 (by rw [hs1]) (by rw [hs1]) (by rw [hs1]) (by rw [hs1])
  have hst : (({ n with chans := cs } : NetSt).setTcp name s1).released name s1.bound s1.fwd
      = (({ n with chans := cs } : NetSt).released name s.bound s.fwd).setTcp name s1 := by
    rw [released_setTcp, hs1]
  refine ⟨cs, hb', ?_⟩
  cases ha : s.acc with
  | none =>
    have key : n.accClose now name =
        ((((n.setTcp name s1).tcpClose now name).1.accCheckQueue now name).1,
         ((n.setTcp name s1).tcpClose now name).2 ++ (((n.setTcp name s1).tcpClose now name).1.accCheckQueue now name).2) := by
      unfold NetSt.accClose; simp only [hs, ha, TcpSock.abortAccept_eq]; rw [hs1, ha]; rfl
    rw [key, accCheckQueue_noacc _ now name s1.afterClose (by rw [e]; exact tcp?_setTcp_same _ _ _) (by rw [hs1, ha]; rfl), e]
    refine Prod.ext ?_ ?_
    · show (((({ n with chans := cs } : NetSt).setTcp name s1).released name s1.bound s1.fwd).setTcp name _) = _
      rw [hst, setTcp_setTcp, hs1, ha]; rfl
    · dsimp only
      rw [he, hs1, List.append_nil]
      unfold tcpAbortAcceptEffs TcpSock.acceptOp; rw [ha]
      exact (List.append_nil _).symm
  | some a =>
    have hta : tcpAbortAcceptEffs s = (a.acceptOp.map acceptAbortEff).toList := by
      unfold tcpAbortAcceptEffs TcpSock.acceptOp; rw [ha]; obtain ⟨_, _, op⟩ := a; cases op <;> rfl
    have hcq := accCheckQueue_closed ((n.setTcp name s1).tcpClose now name).1 now name s1.afterClose
      { queueLimit := -1, conns := a.conns, acceptOp := none } (by rw [e]; exact tcp?_setTcp_same _ _ _)
      (by rw [hs1, ha]; rfl) rfl
    have key : n.accClose now name =
        ((((n.setTcp name s1).tcpClose now name).1.accCheckQueue now name).1,
         (a.acceptOp.map acceptAbortEff).toList ++ ((n.setTcp name s1).tcpClose now name).2
           ++ (((n.setTcp name s1).tcpClose now name).1.accCheckQueue now name).2) := by
      unfold NetSt.accClose; simp only [hs, ha, TcpSock.abortAccept_eq]; rw [hs1, ha]; rfl
    rw [key, hcq, e]
    refine Prod.ext ?_ ?_
    · dsimp only
      rw [setTcp_setTcp]
      show (((({ n with chans := cs } : NetSt).setTcp name s1).released name s1.bound s1.fwd).setTcp name _) = _
      rw [hst, setTcp_setTcp, hs1, ha]; rfl
    · dsimp only
      rw [hta, ← rstEffs_countersOnly hb', he, hs1]
      simp only [Option.map_none, Option.toList_none, List.append_nil]
      rfl

theorem accIncoming_syn (n : NetSt) (now : Int) (a : String) (pk : Pkt) (c : Nat) (s0 : TcpSock) (ac : AccState)
    (hs : n.tcp? a = some s0) (hac : s0.acc = some ac) (hty : pk.ty = .syn) (hc : pk.chan = some c) :
    n.accIncoming now a pk
      = (n.setTcp a { s0 with acc := some { ac with conns := ac.conns ++ [c] } }).accCheckQueue now a := by
  unfold NetSt.accIncoming
  simp only [hs, hty, hc, hac]

theorem accIncoming_err (n : NetSt) (now : Int) (a : String) (pk : Pkt) (s0 : TcpSock)
    (hs : n.tcp? a = some s0) (hty : pk.ty = .err) :
    n.accIncoming now a pk = (n.setTcp a s0.abortAccept.1, s0.abortAccept.2) := by
  unfold NetSt.accIncoming
  simp only [hs, hty]

def NetSt.Listening (n : NetSt) (target : Ep) : Prop :=
  ∃ rname rs, n.reg.tcp.lookup target = some rname ∧ n.tcp? rname = some rs ∧ rs.isListening = true

/-- the channel a dial from `s` to the listening `r` creates -/
def dialChan (n : NetSt) (s r : TcpSock) (target : Ep) : Chan :=
  { hops0 := n.cfg.outRoute r.bound.addr ++ n.cfg.netRoute s.bound.addr target.addr ++ n.incomingRoute s.bound s.fwd
    hops1 := n.cfg.outRoute s.bound.addr ++ n.cfg.netRoute s.bound.addr target.addr ++ n.incomingRoute r.bound r.fwd
    ep0 := s.bound, ep1 := r.bound, vis0 := s.bound, vis1 := r.bound }

/-- … and its SYN, sent along the route towards the listener -/
def dialSyn (s : TcpSock) (cid : Nat) (hops : List String) : Pkt :=
  { id := 0, ty := .syn, len := 0, ovh := 28, src := s.bound.toString, chan := some cid, hops := hops }

theorem internalConnect_refused (n : NetSt) (name : String) (target : Ep) (h : ¬ n.Listening target) :
    n.internalConnect name target = (n, [], none) := by
  unfold NetSt.internalConnect
  cases n.tcp? name with
  | none => rfl
  | some s =>
    dsimp only
    cases hl : n.reg.tcp.lookup target with
    | none => rfl
    | some rname =>
      dsimp only
      cases hr : n.tcp? rname with
      | none => rfl
      | some r =>
        dsimp only
        cases hli : r.isListening with
        | false => rfl
        | true => exact absurd ⟨rname, r, hl, hr, hli⟩ h

theorem internalConnect_dial {n : NetSt} {name rname : String} {target : Ep} {s r : TcpSock}
    (hs : n.tcp? name = some s) (hl : n.reg.tcp.lookup target = some rname) (hr : n.tcp? rname = some r)
    (hli : r.isListening = true) :
    n.internalConnect name target =
      ({ n with chans := n.chans ++ [dialChan n s r target] },
       [.forward (dialSyn s n.chans.length (dialChan n s r target).hops1)], some n.chans.length) := by
  unfold NetSt.internalConnect
  simp only [hs, hl, hr, hli, Bool.not_true, Bool.false_eq_true, if_false]
  rfl

theorem internalConnect_table (n : NetSt) (name : String) (target : Ep) :
    n.internalConnect name target = (n, [], none)
    ∨ ∃ s rname r, n.tcp? name = some s ∧ n.reg.tcp.lookup target = some rname ∧ n.tcp? rname = some r
        ∧ r.isListening = true
        ∧ n.internalConnect name target =
          ({ n with chans := n.chans ++ [dialChan n s r target] },
           [.forward (dialSyn s n.chans.length (dialChan n s r target).hops1)], some n.chans.length) := by
  cases hs : n.tcp? name with
  | none => exact .inl (by unfold NetSt.internalConnect; rw [hs])
  | some s =>
    by_cases h : n.Listening target
    · obtain ⟨rname, r, hl, hr, hli⟩ := h
      exact .inr ⟨s, rname, r, rfl, hl, hr, hli, internalConnect_dial hs hl hr hli⟩
    · exact .inl (internalConnect_refused n name target h)

/-- the implicit bind of `async_connect` -/
def NetSt.tcpConnectBind (n : NetSt) (name : String) (target : Ep) (s : TcpSock) : NetSt × Ec :=
  if s.bound.addr == "0.0.0.0" then
    let anyEp : Ep := { addr := if target.isV4 then "0.0.0.0" else "::", port := 0 }
    match ioResolve (n.cfg.ipsOf s.node) anyEp with
    | .error e => (n, e)
    | .ok ep1 =>
      let (tbl, np, r) := simBind n.reg.tcp n.reg.nextPort name ep1
      let n := { n with reg := { n.reg with tcp := tbl, nextPort := np } }
      match r with
      | .error e => (n, e)
      | .ok ep2 => (n.setTcp name { s with bound := ep2 }, .ok)
  else (n, .ok)

/-- `async_connect` from the family check on -/
def NetSt.tcpConnectFinish (n : NetSt) (name : String) (target : Ep) (h : Nat) (e0 : List NEff) :
    NetSt × List NEff :=
  match n.tcp? name with
  | none => (n, e0)
  | some s =>
    if s.bound.isV4 != target.isV4 then (n, e0 ++ [.post { h := h, ec := .afNoSupport }])
    else
      let (n, e1, cid) := n.internalConnect name target
      let mss := n.cfg.pathMtu s.bound.addr target.addr
      match n.tcp? name with
      | none => (n, e0)
      | some s =>
        let s := { s with mss := mss, cwnd := mss * 2 }
        match cid with
        | none =>
          (n.setTcp name { s with chan := none },
            e0 ++ e1 ++ [.armAfter name 0 50000000 (.tcpConnectRefused name h)])
        | some c => (n.setTcp name { s with chan := some c, connectH := some h }, e0 ++ e1)

def NetSt.tcpConnectOpen (n : NetSt) (now : Int) (name : String) (target : Ep) (s0 : TcpSock) :
    NetSt × List NEff :=
  if !s0.isOpen then n.tcpOpen now name target.isV4 else (n, [])

/-- the registry half of a bind, explicit or `async_connect`'s: `simBind`, then the object takes
    the endpoint -/
def NetSt.tcpBound (n : NetSt) (name : String) (s : TcpSock) (ep1 : Ep) : NetSt × Ec :=
  match simBind n.reg.tcp n.reg.nextPort name ep1 with
  | (tbl, np, .error e) => ({ n with reg := { n.reg with tcp := tbl, nextPort := np } }, e)
  | (tbl, np, .ok ep2) =>
    (({ n with reg := { n.reg with tcp := tbl, nextPort := np } }).setTcp name { s with bound := ep2 }, .ok)

theorem tcpConnectBind_eq (n : NetSt) (name : String) (target : Ep) (s : TcpSock) :
    n.tcpConnectBind name target s =
      if s.bound.addr == "0.0.0.0" then
        match ioResolve (n.cfg.ipsOf s.node) { addr := if target.isV4 then "0.0.0.0" else "::", port := 0 } with
        | .error e => (n, e)
        | .ok ep1 => n.tcpBound name s ep1
      else (n, .ok) := by
  unfold NetSt.tcpConnectBind NetSt.tcpBound
  split
  · dsimp only
    generalize ioResolve (n.cfg.ipsOf s.node) _ = io
    cases io with
    | error e => rfl
    | ok ep1 =>
      dsimp only
      rcases simBind n.reg.tcp n.reg.nextPort name ep1 with ⟨tbl, np, r⟩
      cases r <;> rfl
  · rfl

section connect

variable (n : NetSt) (now : Int) (name : String) (target : Ep) (h : Nat)

theorem tcpConnect_eq (s0 : TcpSock) (hs : n.tcp? name = some s0) :
    n.tcpConnect now name target h =
      match (n.tcpConnectOpen now name target s0).1.tcp? name with
      | none => n.tcpConnectOpen now name target s0
      | some s =>
        let r := (n.tcpConnectOpen now name target s0).1.tcpConnectBind name target s
        if r.2 != .ok then (r.1, (n.tcpConnectOpen now name target s0).2 ++ [.post { h := h, ec := r.2 }])
        else r.1.tcpConnectFinish name target h (n.tcpConnectOpen now name target s0).2 := by
  unfold NetSt.tcpConnect; rw [hs]; rfl

theorem tcpConnectOpen_spec (s0 : TcpSock) (hs : n.tcp? name = some s0) :
    (n.tcpConnectOpen now name target s0).1.cfg = n.cfg
    ∧ ∃ s, (n.tcpConnectOpen now name target s0).1.tcp? name = some s
        ∧ (s0.connectH = none → s.connectH = none) := by
  unfold NetSt.tcpConnectOpen
  split
  · have ho := tcpOpen_step n now name target.isV4
    obtain ⟨s, h1, _, rfl⟩ := ho.self s0 hs
    exact ⟨ho.cfg, _, h1, fun _ => rfl⟩
  · exact ⟨rfl, s0, hs, id⟩

theorem tcpConnectBind_spec (s : TcpSock) (hs : n.tcp? name = some s) :
    (n.tcpConnectBind name target s).1.cfg = n.cfg
    ∧ ∃ s', (n.tcpConnectBind name target s).1.tcp? name = some s' ∧ s'.connectH = s.connectH := by
  unfold NetSt.tcpConnectBind
  split
  · dsimp only
    split
    · exact ⟨rfl, s, hs, rfl⟩
    · split
      · exact ⟨rfl, s, hs, rfl⟩
      · exact ⟨rfl, _, tcp?_setTcp_same _ _ _, rfl⟩
  · exact ⟨rfl, s, hs, rfl⟩

theorem tcpConnect_none (hs : n.tcp? name = none) : n.tcpConnect now name target h = (n, []) := by
  unfold NetSt.tcpConnect; rw [hs]

/-- the three rows: wrong family; refused (the connect timer delivers it after 50 ms); dialled -/
theorem tcpConnectFinish_rows (e0 : List NEff) (s : TcpSock) (hs : n.tcp? name = some s) :
    (s.bound.isV4 ≠ target.isV4
      ∧ n.tcpConnectFinish name target h e0 = (n, e0 ++ [.post { h := h, ec := .afNoSupport }]))
    ∨ (¬ n.Listening target ∧ n.tcpConnectFinish name target h e0 =
        (n.setTcp name { s with mss := n.cfg.pathMtu s.bound.addr target.addr,
                                cwnd := n.cfg.pathMtu s.bound.addr target.addr * 2, chan := none },
         e0 ++ [.armAfter name 0 50000000 (.tcpConnectRefused name h)]))
    ∨ ∃ rname r, n.reg.tcp.lookup target = some rname ∧ n.tcp? rname = some r ∧ r.isListening = true
        ∧ n.tcpConnectFinish name target h e0 =
          (({ n with chans := n.chans ++ [dialChan n s r target] } : NetSt).setTcp name
              { s with mss := n.cfg.pathMtu s.bound.addr target.addr,
                       cwnd := n.cfg.pathMtu s.bound.addr target.addr * 2,
                       chan := some n.chans.length, connectH := some h },
           e0 ++ [.forward (dialSyn s n.chans.length (dialChan n s r target).hops1)]) := by
  unfold NetSt.tcpConnectFinish
  simp only [hs]
  split
  · rename_i hfam
    exact .inl ⟨by simpa using hfam, rfl⟩
  · by_cases hl : n.Listening target
    · obtain ⟨rname, r, l1, l2, l3⟩ := hl
      rw [internalConnect_dial hs l1 l2 l3]
      simp only [show ({ n with chans := n.chans ++ [dialChan n s r target] } : NetSt).tcp? name = some s from hs]
      exact .inr (.inr ⟨rname, r, l1, l2, l3, rfl⟩)
    · rw [internalConnect_refused n name target hl]
      simp only [hs, List.append_nil]
      exact .inr (.inl ⟨hl, trivial⟩)

end connect

/-- the acknowledgement `incoming_packet` answers a payload or error packet with -/
def ackPkt (id : Nat) (hops : List String) : Pkt :=
  { id := id, ty := .ack, len := 0, ovh := 20, hops := hops, src := "0.0.0.0:0" }

/-- an ACK for `k` on the socket alone -/
def ackSock (t : TcpSock) (k : Nat) : TcpSock :=
  { t with outstanding := t.outstanding.filter (fun e => e.1 != k),
           inFlight := t.inFlight - ((t.outstanding.lookup k).getD 0 : Nat) }

/-- the socket inside `incoming_packet` just before `maybe_wakeup_reader()`, for a payload / error
    packet that arrives in order: it is queued together with everything that was waiting for it -/
def TcpSock.preWake (t : TcpSock) (p : Pkt) : TcpSock :=
  let d := drainReorder (t.reorder.length + 1) (t.nextIn + 1) t.reorder (t.inq ++ [p])
  { t with nextIn := d.1, reorder := d.2.1, inq := d.2.2 }

/-- `incoming_packet` for a payload / error packet on the socket alone: parked in the reorder
    buffer, or `preWake` followed by `maybe_wakeup_reader()` -/
def TcpSock.rxData (tp : TParams) (t : TcpSock) (p : Pkt) : TcpSock × List NEff :=
  if p.id != t.nextIn then
    ({ t with reorder := if (t.reorder.lookup p.id).isSome then t.reorder else t.reorder ++ [(p.id, p)] }, [])
  else (t.preWake p).maybeWakeupReader tp

theorem tcpIncoming_none (tp : TParams) (n : NetSt) (now : Int) (name : String) (p : Pkt)
    (hs : n.tcp? name = none) : n.tcpIncoming tp now name p = (n, []) := by
  unfold NetSt.tcpIncoming; rw [hs]

theorem tcpIncoming_ack {n : NetSt} {name : String} {t : TcpSock} (hs : n.tcp? name = some t) (tp : TParams)
    (now : Int) (p : Pkt) (hty : p.ty = .ack) :
    n.tcpIncoming tp now name p
      = (n.setTcp name (ackSock t p.id),
         [.tcpResend name, .tcpAckPost name (decide (t.inFlight + t.mss > t.cwnd)) ((t.outstanding.lookup p.id).getD 0)]) := by
  unfold NetSt.tcpIncoming; simp only [hs, hty]; rfl

section incoming

variable {n : NetSt} {name : String} {t : TcpSock} (hs : n.tcp? name = some t) (tp : TParams) (now : Int) (p : Pkt)

include hs

theorem tcpIncoming_data (hty : p.ty = .payload ∨ p.ty = .err) :
    n.tcpIncoming tp now name p = match t.chan.bind n.chan? with
      | none => (n, [])
      | some ch => (n.setTcp name (t.rxData tp p).1,
          .forward (ackPkt p.id (ch.hops (ch.remoteIdx t.bound))) :: (t.rxData tp p).2) := by
  unfold NetSt.tcpIncoming TcpSock.rxData
  rw [hs]
  rcases hty with h | h <;> simp only [h] <;> cases t.chan.bind n.chan? <;> dsimp only <;> split <;> rfl

theorem tcpIncoming_synack (hty : p.ty = .synack) :
    n.tcpIncoming tp now name p
      = match t.connectH with
        | none => (n, [])
        | some x => (n.setTcp name { t with connectH := none }, [NEff.post { h := x, ec := .ok }, .tcpWake name]) := by
  unfold NetSt.tcpIncoming; simp only [hs, hty]
  cases t.connectH <;> rfl

theorem tcpIncoming_ignored (hty : p.ty = .uninit ∨ p.ty = .syn) : n.tcpIncoming tp now name p = (n, []) := by
  unfold NetSt.tcpIncoming; rw [hs]
  rcases hty with h | h <;> simp only [h]

end incoming

/-- the rows of `incoming_packet` that change the socket `t`: the new socket and the effects -/
inductive InRow (tp : TParams) (name : String) (t : TcpSock) (p : Pkt) : TcpSock → List NEff → Prop
  | ack : p.ty = .ack → InRow tp name t p (ackSock t p.id)
      [.tcpResend name, .tcpAckPost name (decide (t.inFlight + t.mss > t.cwnd)) ((t.outstanding.lookup p.id).getD 0)]
  | synack (h : Nat) : p.ty = .synack → t.connectH = some h →
      InRow tp name t p { t with connectH := none } [.post { h := h, ec := .ok }, .tcpWake name]
  | data (hops : List String) : p.ty = .payload ∨ p.ty = .err → t.chan.isSome = true →
      InRow tp name t p (t.rxData tp p).1 (.forward (ackPkt p.id hops) :: (t.rxData tp p).2)

theorem tcpIncoming_cases {n : NetSt} {name : String} {t : TcpSock} (hs : n.tcp? name = some t) (tp : TParams)
    (now : Int) (p : Pkt) :
    n.tcpIncoming tp now name p = (n, [])
    ∨ ∃ t' e, InRow tp name t p t' e ∧ n.tcpIncoming tp now name p = (n.setTcp name t', e) := by
  cases hty : p.ty with
  | uninit => exact .inl (tcpIncoming_ignored hs tp now p (.inl hty))
  | syn => exact .inl (tcpIncoming_ignored hs tp now p (.inr hty))
  | ack => exact .inr ⟨_, _, .ack hty, tcpIncoming_ack hs tp now p hty⟩
  | synack =>
    rw [tcpIncoming_synack hs tp now p hty]
    cases hc : t.connectH with
    | none => exact .inl rfl
    | some h => exact .inr ⟨_, _, .synack h hty hc, rfl⟩
  | err =>
    rw [tcpIncoming_data hs tp now p (.inr hty)]
    cases hb : t.chan.bind n.chan? with
    | none => exact .inl rfl
    | some ch => exact .inr ⟨_, _, .data _ (.inr hty) (by cases hc : t.chan <;> simp_all), rfl⟩
  | payload =>
    rw [tcpIncoming_data hs tp now p (.inl hty)]
    cases hb : t.chan.bind n.chan? with
    | none => exact .inl rfl
    | some ch => exact .inr ⟨_, _, .data _ (.inl hty) (by cases hc : t.chan <;> simp_all), rfl⟩

/-- the `.forward` packets of an effect list, in order -/
def NEff.fwd? : NEff → Option Pkt
  | .forward p => some p
  | _ => none
def s5_forwards (l : List NEff) : List Pkt := l.filterMap NEff.fwd?

/-- posted completions forward nothing (`fwdPkts`, `Prog.forwards` and `fwdsOf` are this `filterMap`
    under other names; `s5_fwdsOf` is bridged by `s5_fwdsOf_eq`) -/
theorem Posts.fwds {l : List NEff} (h : Posts l) : s5_forwards l = [] :=
  List.filterMap_eq_nil_iff.mpr fun e he => by obtain ⟨c, rfl⟩ := h e he; rfl

theorem mem_s5_forwards (l : List NEff) (p : Pkt) : p ∈ s5_forwards l ↔ NEff.forward p ∈ l := by
  unfold s5_forwards
  rw [List.mem_filterMap]
  constructor
  · rintro ⟨e, he, hp⟩
    cases e <;> simp [NEff.fwd?] at hp
    subst hp; exact he
  · intro h; exact ⟨_, h, rfl⟩

@[simp] theorem s5_forwards_append (a b : List NEff) : s5_forwards (a ++ b) = s5_forwards a ++ s5_forwards b := by
  simp [s5_forwards]
@[simp] theorem forwards_nil : s5_forwards [] = [] := rfl
@[simp] theorem forwards_forward (p : Pkt) (l : List NEff) : s5_forwards (.forward p :: l) = p :: s5_forwards l := rfl

theorem s5_forwards_sendEffs (pcap : Bool) (now : Int) (src dst : Ep) (seq : Nat) (p : Pkt) :
    s5_forwards (sendEffs pcap now src dst seq p) = [{ p with bc := seq }] := by
  cases pcap <;> rfl

end SimVerif
