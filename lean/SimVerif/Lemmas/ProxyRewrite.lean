/-
  SimVerif.Lemmas.ProxyRewrite — `rewrite` (the std::string part of `http_proxy::forward_request`)
  computes the expected host / port / outgoing request for every well-formed absolute `http://` target.

  `rewrite` is a guard and three functions of the target (`rewrite_eq`: `reqHost`, `reqPort`,
  `reqPath`), which all start from the first '/' after `http://` and the ':' that separates the port
  (`portSep`); each is evaluated once on a rendered well-formed `Target`.
-/
import SimVerif.HttpProxy

namespace SimVerif.HttpProxy

open SimVerif.Http

/-- an absolute `http://` target as written on the wire: host (brackets included), optional port digits, path -/
structure Target where
  host : Bytes
  port : Option Bytes
  path : Bytes
  deriving Repr, DecidableEq

def Target.render (t : Target) : Bytes :=
  HTTP_PFX ++ t.host ++ (match t.port with | some ds => 58 :: ds | none => []) ++ t.path

/-- well-formed authority: non-empty host without '/', and without ':' unless it ends in ']' (meant for a
    bracketed IPv6 literal; any host ending in ']' passes); port = non-empty decimal digits with value < 65536;
    path empty or starting with '/' -/
def Target.wf (t : Target) : Prop :=
  t.host ≠ [] ∧ 47 ∉ t.host ∧ (58 ∉ t.host ∨ t.host.getLast? = some 93) ∧
  (t.path = [] ∨ t.path.head? = some 47) ∧
  (∀ ds, t.port = some ds → ds ≠ [] ∧ (∀ c ∈ ds, isDigit c = true) ∧ digitsVal 0 ds < 65536)

def Target.portVal (t : Target) : Int := match t.port with | some ds => (digitsVal 0 ds : Int) | none => 80

/-- what `forward_request` must compute for method `m`, target `t`, parsed headers `hs` -/
def expectedRewrite (m : Bytes) (t : Target) (hs : HMap) : Rewritten :=
  { host := stripBrackets t.host, port := t.portVal,
    out := m ++ [32] ++ (if t.path = [] then [47] else t.path) ++ HTTP11 ++ headerLines hs
           ++ (if hs.any (fun h => h.1 == HOST_KEY) then [] else HOST_HDR ++ stripBrackets t.host ++ CRLF) ++ CRLF }

theorem findFirst_notMem {c : UInt8} {l : Bytes} (h : c ∉ l) : findFirst c l = none := by
  induction l with
  | nil => rfl
  | cons x t ih =>
    rw [List.mem_cons, not_or] at h
    rw [findFirst, if_neg (Ne.symm h.1), ih h.2]
    rfl

theorem findFirst_append_hit {c : UInt8} {a b : Bytes} (h : c ∉ a) :
    findFirst c (a ++ c :: b) = some a.length := by
  induction a with
  | nil => exact if_pos rfl
  | cons x t ih =>
    rw [List.mem_cons, not_or] at h
    rw [List.cons_append, findFirst, if_neg (Ne.symm h.1), ih h.2]
    rfl

theorem findLast_append (a b : Bytes) (c : UInt8) :
    findLast (a ++ b) c = match findLast b c with
      | some i => some (a.length + i)
      | none => findLast a c := by
  induction a with
  | nil => cases h : findLast b c <;> simp [findLast, h]
  | cons x t ih =>
    simp only [List.cons_append, findLast, ih]
    cases findLast b c <;> simp <;> omega

theorem findLast_notMem {c : UInt8} {l : Bytes} (h : c ∉ l) : findLast l c = none := by
  induction l with
  | nil => rfl
  | cons x t ih =>
    rw [List.mem_cons, not_or] at h
    rw [findLast, ih h.2]
    exact if_neg (Ne.symm h.1)

theorem findLast_lt {c : UInt8} {l : Bytes} {i : Nat} (h : findLast l c = some i) : i < l.length := by
  induction l generalizing i with
  | nil => cases h
  | cons x t ih =>
    rw [findLast] at h
    cases h' : findLast t c with
    | some j =>
      simp only [h'] at h
      cases h
      exact Nat.succ_lt_succ (ih h')
    | none =>
      simp only [h'] at h
      split at h <;> cases h
      exact Nat.succ_pos _

theorem findLast_append_hit {c : UInt8} (a : Bytes) {b : Bytes} (h : c ∉ b) :
    findLast (a ++ c :: b) c = some a.length := by
  rw [findLast_append, findLast, findLast_notMem h]
  simp

theorem findLast_append_notMem {c : UInt8} (a : Bytes) {b : Bytes} (h : c ∉ b) :
    findLast (a ++ b) c = findLast a c := by
  rw [findLast_append, findLast_notMem h]

theorem isSpace_digit (d : UInt8) (h : isDigit d = true) : isSpace d = false := by
  simp only [isDigit, Bool.and_eq_true, decide_eq_true_eq] at h
  simp only [isSpace, Bool.or_eq_false_iff, beq_eq_false_iff_ne, Bool.and_eq_false_iff, decide_eq_false_iff_not]
  exact ⟨by rintro rfl; exact absurd h.1 (by decide), .inr (fun h13 => absurd (UInt8.le_trans h.1 h13) (by decide))⟩

theorem digits_notMem {ds : Bytes} (hd : ∀ c ∈ ds, isDigit c = true) {c : UInt8} (hc : isDigit c = false) : c ∉ ds :=
  fun hm => by rw [hd c hm] at hc; cases hc

theorem digitsVal_append (ds rest : Bytes) (acc : Nat) (hd : ∀ c ∈ ds, isDigit c = true)
    (hr : rest = [] ∨ rest.head? = some 47) : digitsVal acc (ds ++ rest) = digitsVal acc ds := by
  induction ds generalizing acc with
  | nil =>
    rcases hr with rfl | hr
    · rfl
    · cases rest with
      | nil => rfl
      | cons x r =>
        simp at hr; subst hr
        simp [digitsVal, isDigit]
  | cons d ds ih =>
    have h1 := hd d (by simp)
    simp only [List.cons_append, digitsVal, h1, if_true]
    exact ih _ (fun c hc => hd c (by simp [hc]))

theorem toInt32_small (v : Int) (h0 : 0 ≤ v) (h1 : v < 2147483648) : toInt32 v = v := by
  rw [toInt32, Int.emod_eq_of_lt h0 (by omega), if_neg (by omega)]

/-- no white space or sign to skip, no saturation, no truncation -/
theorem atoi_digits (ds rest : Bytes) (hne : ds ≠ []) (hd : ∀ c ∈ ds, isDigit c = true)
    (hr : rest = [] ∨ rest.head? = some 47) (hv : digitsVal 0 ds < 65536) :
    atoi (ds ++ rest) = (digitsVal 0 ds : Int) := by
  obtain ⟨d, ds', rfl⟩ := List.exists_cons_of_ne_nil hne
  have hdig := hd d List.mem_cons_self
  have hdv := digitsVal_append (d :: ds') rest 0 hd hr
  unfold atoi
  simp only [List.cons_append, List.dropWhile_cons, isSpace_digit d hdig, Bool.false_eq_true, if_false]
  split
  · rename_i h; cases (List.cons.inj h).1; cases hdig
  · rename_i h; cases (List.cons.inj h).1; cases hdig
  · dsimp only
    rw [← List.cons_append, hdv, if_neg (by decide), if_neg (by omega)]
    exact toInt32_small _ (by omega) (by omega)

/-- `req.req.substr(0, path_start)` -/
def reqAuthority (req : Bytes) : Bytes :=
  match findFirstFrom req 47 7 with
  | none => req
  | some ps => req.take ps

/-- the `host_end` that `forward_request` uses, from the last ':' and the last ']' of the authority:
    that ':', unless a ']' follows it or it lies within `http://` -/
def sepOf (colon bracket : Option Nat) : Option Nat :=
  match (match bracket, colon with
         | some b, some he => if he < b then none else some he
         | _, _ => colon) with
  | some he => if he > 7 then some he else none
  | none => none

theorem sepOf_none {colon bracket : Option Nat}
    (h : ∀ c, colon = some c → c ≤ 7 ∨ ∃ b, bracket = some b ∧ c < b) : sepOf colon bracket = none := by
  cases colon with
  | none => cases bracket <;> rfl
  | some c =>
    rcases h c rfl with h7 | ⟨b, rfl, hb⟩
    · cases bracket with
      | none => simp [sepOf, Nat.not_lt.2 h7]
      | some b => by_cases hb : c < b <;> simp [sepOf, hb, Nat.not_lt.2 h7]
    · simp [sepOf, hb]

theorem sepOf_some {c : Nat} {bracket : Option Nat} (hc : 7 < c) (hb : ∀ b, bracket = some b → b ≤ c) :
    sepOf (some c) bracket = some c := by
  cases bracket with
  | none => simp [sepOf, hc]
  | some b => simp [sepOf, hc, Nat.not_lt.2 (hb b rfl)]

def portSep (req : Bytes) : Option Nat := sepOf (findLast (reqAuthority req) 58) (findLast (reqAuthority req) 93)

/-- `host` of `forward_request` -/
def reqHost (req : Bytes) : Bytes :=
  stripBrackets (match portSep req with
    | some he => (req.drop 7).take (he - 7)
    | none => match findFirstFrom req 47 7 with
      | some ps => (req.drop 7).take (ps - 7)
      | none => req.drop 7)

/-- the path that goes into the request line -/
def reqPath (req : Bytes) : Bytes :=
  match findFirstFrom req 47 7 with
  | none => [47]
  | some ps => req.drop ps

theorem reqPort_eq (req : Bytes) :
    reqPort req = match portSep req with
      | none => 80
      | some he => atoi (match findFirstFrom req 47 7 with
                         | some ps => (req.drop (he + 1)).take ps
                         | none => req.drop (he + 1)) := rfl

/-- `forward_request`'s string part: its two `throw`s, then the rewritten request -/
theorem rewrite_eq (r : Request) :
    rewrite r =
      if r.req.take 7 ≠ HTTP_PFX ∨ reqPort r.req < 0 ∨ reqPort r.req > 65535 then .error ()
      else .ok { host := reqHost r.req, port := reqPort r.req,
                 out := r.method ++ [32] ++ reqPath r.req ++ HTTP11 ++ headerLines r.headers
                        ++ (if r.headers.any (fun h => h.1 == HOST_KEY) then [] else HOST_HDR ++ reqHost r.req ++ CRLF)
                        ++ CRLF } := by
  by_cases h7 : r.req.take 7 ≠ HTTP_PFX
  · exact (if_pos h7).trans (if_pos (.inl h7)).symm
  · by_cases hp : reqPort r.req < 0 ∨ reqPort r.req > 65535
    · exact ((if_neg h7).trans (if_pos hp)).trans (if_pos (.inr hp)).symm
    · exact ((if_neg h7).trans (if_neg hp)).trans (if_neg (not_or.2 ⟨h7, hp⟩)).symm

def Target.authority (t : Target) : Bytes :=
  HTTP_PFX ++ t.host ++ (match t.port with | some ds => 58 :: ds | none => [])

theorem Target.render_eq (t : Target) : t.render = t.authority ++ t.path := rfl

theorem take_head (path : Bytes) (n : Nat) (hp : path = [] ∨ path.head? = some 47) :
    path.take n = [] ∨ (path.take n).head? = some 47 := by
  cases path with
  | nil => simp
  | cons x p => cases n <;> simp_all

theorem drop7 (x : Bytes) : (HTTP_PFX ++ x).drop 7 = x := rfl

theorem Target.authority_length (t : Target) :
    t.authority.length = 7 + (t.host ++ (match t.port with | some ds => 58 :: ds | none => [])).length := by
  rw [Target.authority, List.append_assoc, List.length_append]
  rfl

theorem Target.wf.pathStart {t : Target} (h : t.wf) :
    findFirstFrom t.render 47 7 = if t.path = [] then none else some t.authority.length := by
  obtain ⟨-, h47, -, hp, hport⟩ := h
  have hn : 47 ∉ t.host ++ (match t.port with | some ds => 58 :: ds | none => []) := by
    cases hpo : t.port with
    | none => simpa using h47
    | some ds => simp [h47, digits_notMem (hport ds hpo).2.1 (c := 47) rfl]
  rw [findFirstFrom, Target.render_eq, t.authority_length, Target.authority, List.append_assoc, List.append_assoc,
    drop7, ← List.append_assoc]
  cases hpa : t.path with
  | nil => rw [List.append_nil, findFirst_notMem hn]; rfl
  | cons x p =>
    rw [hpa] at hp
    obtain rfl : x = 47 := by simpa using hp
    rw [findFirst_append_hit hn, if_neg (List.cons_ne_nil _ _), Nat.add_comm]
    rfl

theorem Target.wf.authority_render {t : Target} (h : t.wf) : reqAuthority t.render = t.authority := by
  rw [reqAuthority, h.pathStart]
  by_cases hp : t.path = []
  · rw [if_pos hp, Target.render_eq, hp, List.append_nil]
  · rw [if_neg hp]
    exact List.take_left' rfl

theorem Target.wf.portSep_render {t : Target} (h : t.wf) :
    portSep t.render = t.port.map (fun _ => 7 + t.host.length) := by
  rw [portSep, h.authority_render, Target.authority]
  obtain ⟨hne, -, hb, -, hport⟩ := h
  cases hpo : t.port with
  | none =>
    apply sepOf_none
    intro c hc
    simp only [List.append_nil] at hc ⊢
    rcases hb with hb | hb
    · rw [findLast_append_notMem _ hb] at hc
      cases hc
      exact .inl (by decide)
    · obtain ⟨init, hi⟩ := List.getLast?_eq_some_iff.mp hb
      rw [hi, ← List.append_assoc] at hc ⊢
      rw [findLast_append_notMem _ (by decide)] at hc
      exact .inr ⟨_, findLast_append_hit _ (List.not_mem_nil), findLast_lt hc⟩
  | some ds =>
    have hd := (hport ds hpo).2.1
    have d58 : 58 ∉ ds := digits_notMem hd rfl
    have d93 : 93 ∉ ds := digits_notMem hd rfl
    have hl : (HTTP_PFX ++ t.host).length = 7 + t.host.length := by rw [List.length_append]; rfl
    simp only [Option.map_some]
    rw [findLast_append_hit _ d58, findLast_append_notMem _ (by simp [d93]), hl]
    refine sepOf_some ?_ (fun b hb => ?_)
    · have := List.length_pos_iff.mpr hne
      omega
    · have := findLast_lt hb
      omega

theorem Target.wf.reqPath_render {t : Target} (h : t.wf) :
    reqPath t.render = if t.path = [] then [47] else t.path := by
  rw [reqPath, h.pathStart]
  by_cases hp : t.path = []
  · rw [if_pos hp, if_pos hp]
  · rw [if_neg hp, if_neg hp]
    exact List.drop_left' rfl

theorem Target.render_drop7 (t : Target) :
    t.render.drop 7 = t.host ++ ((match t.port with | some ds => 58 :: ds | none => []) ++ t.path) := by
  rw [Target.render, List.append_assoc, List.append_assoc, drop7]

theorem Target.wf.reqHost_render {t : Target} (h : t.wf) : reqHost t.render = stripBrackets t.host := by
  rw [reqHost, h.portSep_render, h.pathStart, t.render_drop7]
  congr 1
  cases hpo : t.port with
  | some ds =>
    dsimp only [Option.map_some]
    rw [Nat.add_sub_cancel_left, List.take_left' rfl]
  | none =>
    by_cases hp : t.path = []
    · rw [if_pos hp, hp]
      exact List.append_nil _
    · rw [if_neg hp, t.authority_length, hpo]
      dsimp only [Option.map_none]
      rw [Nat.add_sub_cancel_left, List.append_nil, List.take_left' rfl]

theorem Target.wf.reqPort_render {t : Target} (h : t.wf) : reqPort t.render = t.portVal := by
  rw [reqPort_eq, h.portSep_render, h.pathStart, Target.portVal]
  cases hpo : t.port with
  | none => rfl
  | some ds =>
    obtain ⟨hdne, hd, hv⟩ := h.2.2.2.2 ds hpo
    have hr : t.render = (HTTP_PFX ++ t.host ++ [58]) ++ (ds ++ t.path) := by
      simp [Target.render, hpo]
    have hD : t.render.drop (7 + t.host.length + 1) = ds ++ t.path := by
      rw [hr]
      exact List.drop_left' (by simp [HTTP_PFX]; omega)
    dsimp only [Option.map_some]
    rw [hD]
    by_cases hp : t.path = []
    · rw [if_pos hp, hp]
      exact atoi_digits ds [] hdne hd (.inl rfl) hv
    · have hle : ds.length ≤ t.authority.length := by
        rw [t.authority_length, hpo]; simp; omega
      rw [if_neg hp]
      dsimp only
      rw [List.take_append, List.take_of_length_le hle]
      exact atoi_digits ds _ hdne hd (take_head _ _ h.2.2.2.1) hv

theorem rewrite_wf (m path' : Bytes) (t : Target) (hs : HMap) (h : t.wf) :
    rewrite { method := m, req := t.render, path := path', headers := hs } = .ok (expectedRewrite m t hs) := by
  have hport : ¬ (t.portVal < 0 ∨ t.portVal > 65535) := by
    unfold Target.portVal
    cases hpo : t.port with
    | none => decide
    | some ds => have := (h.2.2.2.2 ds hpo).2.2; dsimp only; omega
  rw [rewrite_eq]
  dsimp only
  rw [h.reqPort_render, h.reqHost_render, h.reqPath_render, if_neg (not_or.2 ⟨fun hc => hc rfl, hport⟩)]
  rfl

/-- the port clause of `Target.wf`, by cases on the port -/
def portOk : Option Bytes → Prop
  | some ds => ds ≠ [] ∧ (∀ c ∈ ds, isDigit c = true) ∧ digitsVal 0 ds < 65536
  | none => True

instance : (p : Option Bytes) → Decidable (portOk p)
  | some ds => inferInstanceAs (Decidable (ds ≠ [] ∧ (∀ c ∈ ds, isDigit c = true) ∧ digitsVal 0 ds < 65536))
  | none => inferInstanceAs (Decidable True)

theorem portOk_iff (p : Option Bytes) :
    portOk p ↔ ∀ ds, p = some ds → ds ≠ [] ∧ (∀ c ∈ ds, isDigit c = true) ∧ digitsVal 0 ds < 65536 := by
  cases p with
  | none => exact ⟨fun _ _ h => (nomatch h), fun _ => trivial⟩
  | some ds => exact ⟨fun h _ e => Option.some.inj e ▸ h, fun h => h ds rfl⟩

instance (t : Target) : Decidable t.wf :=
  decidable_of_iff (t.host ≠ [] ∧ 47 ∉ t.host ∧ (58 ∉ t.host ∨ t.host.getLast? = some 93) ∧
    (t.path = [] ∨ t.path.head? = some 47) ∧ portOk t.port) (by unfold Target.wf; rw [portOk_iff])

/-- `GET http://10.0.0.3:8080/a/b?c=d` -/
example : rewrite { method := [71, 69, 84], req := Target.render { host := [49, 48, 46, 48, 46, 48, 46, 51], port := some [56, 48, 56, 48], path := [47, 97, 47, 98, 63, 99, 61, 100] }, path := [], headers := [] } = .ok (expectedRewrite [71, 69, 84] { host := [49, 48, 46, 48, 46, 48, 46, 51], port := some [56, 48, 56, 48], path := [47, 97, 47, 98, 63, 99, 61, 100] } []) :=
  rewrite_wf _ _ _ _ (by decide +kernel)

/-- `GET http://[2001:db8::3]` (bracketed IPv6 literal, no port, empty path), with a `host` header already present -/
example : rewrite { method := [71, 69, 84], req := Target.render { host := [91, 50, 48, 48, 49, 58, 100, 98, 56, 58, 58, 51, 93], port := none, path := [] }, path := [], headers := [(HOST_KEY, [120])] } = .ok (expectedRewrite [71, 69, 84] { host := [91, 50, 48, 48, 49, 58, 100, 98, 56, 58, 58, 51, 93], port := none, path := [] } [(HOST_KEY, [120])]) :=
  rewrite_wf _ _ _ _ (by decide +kernel)

/-- `GET http://example.com:65535` (largest port, empty path) -/
example : rewrite { method := [71, 69, 84], req := Target.render { host := [101, 120, 97, 109, 112, 108, 101, 46, 99, 111, 109], port := some [54, 53, 53, 51, 53], path := [] }, path := [], headers := [] } = .ok (expectedRewrite [71, 69, 84] { host := [101, 120, 97, 109, 112, 108, 101, 46, 99, 111, 109], port := some [54, 53, 53, 51, 53], path := [] } []) :=
  rewrite_wf _ _ _ _ (by decide +kernel)

/-- what the expected result is, concretely: brackets stripped, default port, `/` as path, `host:` header added -/
example : expectedRewrite [71, 69, 84] { host := [91, 58, 58, 49, 93], port := none, path := [] } [] = { host := [58, 58, 49], port := 80, out := [71, 69, 84, 32, 47, 32, 72, 84, 84, 80, 47, 49, 46, 49, 13, 10, 104, 111, 115, 116, 58, 32, 58, 58, 49, 13, 10, 13, 10] } := by
  decide +kernel

end SimVerif.HttpProxy
