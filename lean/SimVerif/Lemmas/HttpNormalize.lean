/-
  `normalize`: the pointer loop over `c_str()` stays inside the C string and computes the
  functional specification `normSpec` (split at '/', fold the segments over a stack).
-/
import SimVerif.Lemmas.HttpBasic

namespace SimVerif.Http

/-! ### C-string scanning

  The memory is a variable `mem`; a pointer `p` into it is described by what lies ahead of it,
  `mem.drop p = …`. -/

theorem strchr_spec (mem : Bytes) (c x : UInt8) (post seg : Bytes) : ∀ p : Nat,
    mem.drop p = seg ++ x :: post → (∀ y ∈ seg, y ≠ c ∧ y ≠ 0) → (x = c ∨ x = 0) →
    strchr mem c p = .ok (if x = c then some (p + seg.length) else none) := by
  induction seg with
  | nil =>
    intro p h _ hx
    obtain ⟨hp, hx', _⟩ := drop_cons h
    unfold strchr
    rw [dif_pos hp, hx']
    by_cases hxc : x = c
    · rw [if_pos hxc, if_pos hxc]; rfl
    · rw [if_neg hxc, if_pos (hx.resolve_left hxc), if_neg hxc]
  | cons a t ih =>
    intro p h hseg hx
    obtain ⟨hp, ha', hd⟩ := drop_cons h
    have ha := hseg a (List.mem_cons_self ..)
    unfold strchr
    rw [dif_pos hp, ha', if_neg ha.1, if_neg ha.2,
      ih (p + 1) hd (fun y hy => hseg y (List.mem_cons_of_mem _ hy)) hx,
      List.length_cons, Nat.add_assoc, Nat.add_comm 1]

theorem cstr_spec (mem post seg : Bytes) : ∀ p : Nat,
    mem.drop p = seg ++ 0 :: post → (∀ y ∈ seg, y ≠ 0) → cstr mem p = .ok seg := by
  induction seg with
  | nil =>
    intro p h _
    obtain ⟨hp, hx', _⟩ := drop_cons h
    unfold cstr
    rw [dif_pos hp, hx', if_pos rfl]
  | cons a t ih =>
    intro p h hseg
    obtain ⟨hp, ha', hd⟩ := drop_cons h
    unfold cstr
    rw [dif_pos hp, ha', if_neg (hseg a (List.mem_cons_self ..)),
      ih (p + 1) hd (fun y hy => hseg y (List.mem_cons_of_mem _ hy))]

theorem normLoop_none (mem : Bytes) (start : Nat) (st : List Bytes)
    (h : strchr mem 47 start = .ok none) : normLoop mem start st = .ok (start, st) := by
  rw [normLoop]
  split
  · rename_i e he; rw [h] at he; simp at he
  · rfl
  · rename_i sl he; rw [h] at he; simp at he

theorem normLoop_some (mem : Bytes) (start sl : Nat) (st : List Bytes) (el : Bytes)
    (h : strchr mem 47 start = .ok (some sl)) (hr : readRange mem start sl = .ok el) :
    normLoop mem start st = normLoop mem (sl + 1) (stackStep st el) := by
  have hpop : (if st ≠ [] then st.dropLast else st) = st.dropLast := by cases st <;> rfl
  rw [normLoop]
  split
  · rename_i e he; rw [h] at he; simp at he
  · rename_i he; rw [h] at he; simp at he
  · rename_i sl' he
    rw [h] at he
    simp at he
    subst he
    rw [hr]
    dsimp only
    congr 1
    rw [hpop, stackStep]
    by_cases hel : el = [46, 46] <;> simp [hel]

theorem splitOn_ne_nil (c : UInt8) (l : Bytes) : splitOn c l ≠ [] := by
  cases l with
  | nil => simp [splitOn]
  | cons a t =>
    unfold splitOn
    split
    · simp
    · split <;> simp

theorem splitOn_noSep (c : UInt8) (seg : Bytes) (h : ∀ y ∈ seg, y ≠ c) : splitOn c seg = [seg] := by
  induction seg with
  | nil => rfl
  | cons a t ih =>
    unfold splitOn
    rw [if_neg (h a (by simp)), ih (fun y hy => h y (by simp [hy]))]

theorem splitOn_sep (c : UInt8) (seg rest : Bytes) (h : ∀ y ∈ seg, y ≠ c) :
    splitOn c (seg ++ c :: rest) = seg :: splitOn c rest := by
  induction seg with
  | nil => simp [splitOn]
  | cons a t ih =>
    simp only [List.cons_append]
    conv => lhs; unfold splitOn
    rw [if_neg (h a (by simp)), ih (fun y hy => h y (by simp [hy]))]

def normSegs (st : List Bytes) : List Bytes → List Bytes
  | [] => st
  | [e] => st ++ [e]
  | e :: e' :: es => normSegs (stackStep st e) (e' :: es)

theorem normSegs_eq (segs : List Bytes) : ∀ st, segs ≠ [] →
    normSegs st segs = segs.dropLast.foldl stackStep st ++ [segs.getLastD []] := by
  induction segs with
  | nil => intro st h; exact absurd rfl h
  | cons e es ih =>
    intro st _
    cases es with
    | nil => simp [normSegs]
    | cons e' es' =>
      rw [normSegs, ih (stackStep st e) (by simp)]
      simp [List.dropLast, List.getLastD]

/-- `normalize` from the loop on: `normLoop`, `elements.push_back(start)`, the join. -/
def normTail (mem : Bytes) (start : Nat) (st : List Bytes) : Except Err Bytes :=
  match normLoop mem start st with
  | .error e => .error e
  | .ok (start', elements) =>
    match cstr mem start' with
    | .error e => .error e
    | .ok last => .ok (joinSlash (elements ++ [last]))

/-- The loop, started at `p` with the element `cur` it has begun to scan ahead of it: by
    induction on the bytes behind `cur` (`strchr` runs over `cur`, a '/' ends the element). -/
theorem normTail_spec (mem post rest : Bytes) : ∀ (p : Nat) (cur : Bytes) (st : List Bytes),
    mem.drop p = cur ++ (rest ++ 0 :: post) →
    (∀ y ∈ cur, y ≠ 47 ∧ y ≠ 0) → (∀ y ∈ rest, y ≠ 0) →
    normTail mem p st = .ok (joinSlash (normSegs st (splitOn 47 (cur ++ rest)))) := by
  induction rest with
  | nil =>
    intro p cur st h hcur _
    have hs := strchr_spec mem 47 0 post cur p h hcur (Or.inr rfl)
    rw [if_neg (by decide)] at hs
    unfold normTail
    rw [normLoop_none _ _ _ hs]
    dsimp only
    rw [cstr_spec mem post cur p h (fun y hy => (hcur y hy).2), List.append_nil,
      splitOn_noSep 47 cur (fun y hy => (hcur y hy).1)]
    rfl
  | cons a t ih =>
    intro p cur st h hcur hnul
    have ht : ∀ y ∈ t, y ≠ 0 := fun y hy => hnul y (List.mem_cons_of_mem _ hy)
    by_cases ha : a = 47
    · subst ha
      have hs := strchr_spec mem 47 47 (t ++ 0 :: post) cur p h hcur (Or.inl rfl)
      rw [if_pos rfl] at hs
      have hd : mem.drop (p + cur.length) = 47 :: (t ++ 0 :: post) := drop_skip h
      obtain ⟨hp, -, hd'⟩ := drop_cons hd
      have := ih (p + cur.length + 1) [] (stackStep st cur) hd' (fun _ h => nomatch h) ht
      unfold normTail at this ⊢
      rw [normLoop_some _ _ _ _ _ hs (readRange_drop mem cur _ p _ h (by omega) rfl), this,
        splitOn_sep 47 cur t (fun y hy => (hcur y hy).1), List.nil_append]
      cases hsp : splitOn 47 t with
      | nil => exact absurd hsp (splitOn_ne_nil 47 t)
      | cons e es => rw [normSegs]
    · have := ih p (cur ++ [a]) st (by rw [List.append_assoc]; exact h)
        (fun y hy => (List.mem_append.mp hy).elim (hcur y)
          (fun hy => by cases hy with
            | head => exact ⟨ha, hnul a (List.mem_cons_self ..)⟩
            | tail _ h' => cases h')) ht
      rwa [List.append_assoc] at this

theorem joinSlash_eq (els : List Bytes) (h : els ≠ []) :
    joinSlash els = 47 :: [47].intercalate els := by
  induction els with
  | nil => exact absurd rfl h
  | cons e es ih =>
    cases es with
    | nil => simp [joinSlash, List.intercalate]
    | cons e' es' =>
      rw [joinSlash, ih (by simp)]
      simp [List.intercalate, List.intersperse]

theorem cstr_mem_split (s : Bytes) :
    ∃ junk, s ++ [0] = s.takeWhile (· != 0) ++ 0 :: junk := by
  induction s with
  | nil => exact ⟨[], by simp⟩
  | cons a t ih =>
    by_cases ha : a = 0
    · exact ⟨t ++ [0], by simp [ha]⟩
    · obtain ⟨junk, hj⟩ := ih
      refine ⟨junk, ?_⟩
      simp [ha]
      exact hj

theorem normalize_eq_spec (s : Bytes) : normalize s = .ok (normSpec s) := by
  obtain ⟨junk, hj⟩ := cstr_mem_split s
  have hnul : ∀ y ∈ s.takeWhile (· != 0), y ≠ 0 :=
    fun y hy => by simpa using List.all_eq_true.mp List.all_takeWhile y hy
  have hn : normalize s = normTail (s ++ [0]) (if (s ++ [0]).take 1 = [47] then 1 else 0) [] := by
    unfold normalize
    dsimp only
    rw [readN_ok (s ++ [0]) 0 1 (by simp)]
    rfl
  rw [hn, hj]
  unfold normSpec
  dsimp only
  generalize s.takeWhile (· != 0) = t at hj hnul
  have hfin : ∀ u : Bytes, (47 :: [47].intercalate
        ((splitOn 47 u).dropLast.foldl stackStep [] ++ [(splitOn 47 u).getLastD []]))
      = joinSlash (normSegs [] (splitOn 47 u)) := by
    intro u
    rw [normSegs_eq _ _ (splitOn_ne_nil 47 u), joinSlash_eq _ (by simp)]
  have hno : ∀ u : Bytes, (∀ y ∈ u, y ≠ 0) → (u ++ 0 :: junk).take 1 ≠ [47] →
      normTail (u ++ 0 :: junk) (if (u ++ 0 :: junk).take 1 = [47] then 1 else 0) []
        = .ok (joinSlash (normSegs [] (splitOn 47 u))) := by
    intro u hu h47
    rw [if_neg h47]
    exact normTail_spec _ junk u 0 [] [] rfl (fun _ h => nomatch h) hu
  cases t with
  | nil => rw [hno [] hnul (fun h => nomatch h), hfin]
  | cons a r =>
    by_cases ha : a = 47
    · subst ha
      rw [show (if (47 :: r ++ 0 :: junk).take 1 = [47] then 1 else 0) = 1 from if_pos rfl, hfin]
      exact normTail_spec _ junk r 1 [] [] rfl (fun _ h => nomatch h)
        (fun y hy => hnul y (List.mem_cons_of_mem _ hy))
    · rw [hno (a :: r) hnul (fun h => ha (List.cons.inj h).1), hfin]
      split
      · rename_i heq; cases heq; exact absurd rfl ha
      · rfl

theorem normalize_ne_oob (s : Bytes) : normalize s ≠ .error .oob := by
  rw [normalize_eq_spec]; simp

end SimVerif.Http
