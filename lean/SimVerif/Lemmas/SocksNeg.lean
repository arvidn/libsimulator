/-
  SimVerif.Lemmas.SocksNeg — the negotiation of the SOCKS proxy model on a connection with its
  real array sizes: the reads and writes of the greeting, the method list, the host name and the
  reply succeed, so each handler is a plain case distinction.
-/
import SimVerif.Lemmas.SocksTable

namespace SimVerif.Socks

theorem out_get {c : Conn} (hs : c.Sized) (i : Int) (h0 : 0 ≤ i) (h1 : i < 65536) :
    c.outBuf.get i = .ok (c.outBuf.byte i.toNat) :=
  Buf.get_ok _ _ h0 (by rw [hs.out]; omega)

theorem exactRead_ok {c : Conn} {cnt : List Int} (hs : c.Sized) {off : Nat} {n : Int} {k : Kind} (h0 : 0 ≤ n) (h : off + n ≤ 65536) :
    exactRead c cnt off n k = .ok (c, cnt, [.read .client n.toNat (.exact off n.toNat 0 k)]) := by
  unfold exactRead
  rw [Buf.inb_of _ _ _ (by omega) h0 (by rw [hs.out]; omega), if_pos rfl, show min n.toNat 65536 = n.toNat by omega]

theorem in_write0 {c : Conn} (hs : c.Sized) (bytes : Bytes) (h : bytes.length ≤ 65536) :
    c.inBuf.write 0 bytes = .ok (c.inBuf.store 0 bytes) :=
  Buf.write_ok _ _ _ (by omega) (by rw [hs.inn]; omega)

theorem writeFrom_stored {c : Conn} {cnt : List Int} {bytes : Bytes} {k : Kind} (h : bytes.length ≤ c.inBuf.cap) :
    writeFrom { c with inBuf := c.inBuf.store 0 bytes } cnt .client bytes.length k
      = .ok ({ c with inBuf := c.inBuf.store 0 bytes }, cnt, [.write .client bytes (.write .client bytes.length k)]) := by
  unfold writeFrom
  simp only
  rw [Buf.store0_readAll _ _ h]

theorem reply_eq {c : Conn} (hs : c.Sized) {cnt : List Int} {addr port r : Nat} {k : Kind} :
    reply c cnt addr port r k
      = .ok ({ c with inBuf := c.inBuf.store 0 (replyMsg c.ver r addr port) }, cnt,
          [.write .client (replyMsg c.ver r addr port) (.write .client (replyMsg c.ver r addr port).length k)]) := by
  have hb : (if c.ver = 5 then [u8 c.ver.toNat, u8 r, 0, 1] ++ addr4 addr ++ port2 port
      else [0, u8 r] ++ port2 port ++ addr4 addr) = replyMsg c.ver r addr port := by
    unfold replyMsg; split
    · rename_i h; rw [h]; rfl
    · rfl
  have hl : (replyMsg c.ver r addr port).length ≤ 10 := by unfold replyMsg; split <;> simp [addr4, port2]
  unfold reply formatResponse
  dsimp only
  rw [hb, in_write0 hs _ (by omega)]
  exact writeFrom_stored (by rw [hs.inn]; omega)

theorem bindConnection2_eq_reply (c : Conn) (cnt : List Int) (ec : Ec) (loc : Nat × Nat) :
    bindConnection2 c cnt ec loc = reply c cnt loc.1 loc.2 (bindCode c.ver ec)
      (if ec = .ok then .startAccept else .closeAfter) := by
  unfold bindConnection2 bindCode reply
  simp only [ne_eq, ite_not]
  rfl

theorem onConnected_eq_reply (c : Conn) (cnt : List Int) (ec : Ec) (remote : Option (Nat × Nat)) :
    onConnected c cnt ec remote = if ec = .aborted ∨ ec = .badDesc then .ok (c, cnt, []) else
      reply c cnt (remote.getD (0, 0)).1 (remote.getD (0, 0)).2 (connCode c.ver ec)
        (if ec = .ok then .relayStart else .closeAfter) := by
  unfold onConnected connCode reply
  simp only [ne_eq, ite_not]
  rfl

/-- the rest of a host name arrived: look it up (name = bytes 5 … 5+len, port follows) -/
theorem dom_good (c : Conn) (cnt : List Int) (n : Nat) (hs : c.Sized) :
    onRequestDomainName {} c cnt .ok n
      = .ok (c, cnt, [.resolve ((List.range (c.outBuf.byte 4).toNat).map (fun j => c.outBuf.byte (5 + j)))
                        (be16 (c.outBuf.byte (5 + (c.outBuf.byte 4).toNat)) (c.outBuf.byte (6 + (c.outBuf.byte 4).toNat))) .resolve]) := by
  unfold onRequestDomainName
  have hlt := UInt8.toNat_lt (c.outBuf.byte 4)
  rw [out_get hs 4 (by omega) (by omega)]
  simp only [ne_eq, not_true_eq_false, if_false, if_true, ux, Int.reduceToNat]
  rw [out_get hs _ (by omega) (by omega), out_get hs _ (by omega) (by omega),
    Buf.readN_ok _ _ _ (by omega) (by omega) (by rw [hs.out]; omega)]
  have e1 : (7 + ((c.outBuf.byte 4).toNat : Int) - 2).toNat = 5 + (c.outBuf.byte 4).toNat := by omega
  have e2 : (7 + ((c.outBuf.byte 4).toNat : Int) - 1).toNat = 6 + (c.outBuf.byte 4).toNat := by omega
  rw [e1, e2]
  simp

theorem onHandshake1_sized {c : Conn} (hs : c.Sized) {cnt : List Int} {ec : Ec} {n : Nat} :
    onHandshake1 {} c cnt ec n =
      if ec ≠ .ok ∨ n ≠ 2 then closeConnection c cnt
      else if c.outBuf.byte 0 ≠ 4 ∧ c.outBuf.byte 0 ≠ 5 then closeConnection c cnt
      else exactRead c cnt 0 (ux (c.outBuf.byte 1)) .hs2 := by
  unfold onHandshake1
  rw [out_get hs 0 (by omega) (by omega), out_get hs 1 (by omega) (by omega)]
  rfl

/-- greeting accepted: read exactly NMETHODS further bytes (as an unsigned byte) -/
theorem hs1_good (c : Conn) (cnt : List Int) (hs : c.Sized) (h : c.outBuf.byte 0 = 4 ∨ c.outBuf.byte 0 = 5) :
    onHandshake1 {} c cnt .ok 2
      = .ok (c, cnt, [.read .client (c.outBuf.byte 1).toNat (.exact 0 (c.outBuf.byte 1).toNat 0 .hs2)]) := by
  have hlt := UInt8.toNat_lt (c.outBuf.byte 1)
  rw [onHandshake1_sized hs, if_neg (by simp), if_neg (by rcases h with h | h <;> simp [h]),
    exactRead_ok hs (by simp [ux]) (by simp [ux]; omega)]
  simp [ux]

theorem onHandshake2_sized {c : Conn} (hs : c.Sized) {cnt : List Int} {ec : Ec} {n : Nat} (hn : n ≤ 65536) :
    onHandshake2 c cnt ec n =
      if ec ≠ .ok ∨ (0 : UInt8) ∉ c.outPrefix n then closeConnection c cnt
      else .ok ({ c with inBuf := c.inBuf.store 0 [5, 0] }, cnt, [.write .client [5, 0] (.write .client 2 .hs3)]) := by
  unfold onHandshake2
  rw [out_readN0 hs hn, in_write0 hs _ (by simp)]
  simp only [List.count_eq_zero]
  by_cases he : ec ≠ .ok
  · rw [if_pos he, if_pos (.inl he)]
  · by_cases h0 : (0 : UInt8) ∉ c.outPrefix n
    · rw [if_neg he, if_pos h0, if_pos (.inr h0)]
    · rw [if_neg he, if_neg h0, if_neg (fun a => a.elim he h0)]
      exact writeFrom_stored (bytes := [5, 0]) (by rw [hs.inn]; simp)

/-- method list offering "no authentication": reply `05 00`, nothing else -/
theorem hs2_good (c : Conn) (cnt : List Int) (n : Nat) (hs : c.Sized) (hn : n ≤ 65536)
    (h : (0 : UInt8) ∈ c.outPrefix n) :
    ∃ c', onHandshake2 c cnt .ok n = .ok (c', cnt, [.write .client [5, 0] (.write .client 2 .hs3)])
      ∧ c'.outBuf = c.outBuf ∧ c'.Sized :=
  ⟨{ c with inBuf := c.inBuf.store 0 [5, 0] }, by rw [onHandshake2_sized hs hn, if_neg (by simp [h])], rfl, hs.out, hs.inn, hs.udp⟩

end SimVerif.Socks
