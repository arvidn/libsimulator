/-
  SimVerif.Lemmas.HttpServerCb — one characterisation per callback of the HTTP test server
  model: `close_connection`, `read`, `on_read` (an equation in terms of the pending bytes, then
  the table of what it does for each outcome of `reqStep`), `on_write`, `on_accept`, and what
  `m_close` (stopping) implies for all of them.
-/
import SimVerif.HttpServerSys

namespace SimVerif.HttpServer

open SimVerif.Http

theorem closeConnection_eq (s : Srv) :
    s.closeConnection = ({ s with buf := [], used := 0 }, closeActs s) := by
  simp only [Srv.closeConnection, closeActs]
  cases s.closing <;> rfl

theorem resize_length (b : Bytes) (n : Nat) : (resize b n).length = n := by
  simp [resize]; omega

theorem resize_take (b : Bytes) (n k : Nat) (h1 : k ≤ b.length) (h2 : k ≤ n) :
    (resize b n).take k = b.take k := by
  unfold resize
  rw [List.take_append_of_le_length (by simp; omega), List.take_take, Nat.min_eq_left h2]

theorem read_spec (t : Srv) (hwf : t.wf) :
    ∃ s', t.read = (s', [.asyncReadSome (s'.buf.length - s'.used)]) ∧
      s'.used < s'.buf.length ∧ s'.pend = t.pend ∧ t.sameCfg s' := by
  unfold Srv.wf at hwf
  unfold Srv.read
  dsimp only
  split
  · have hN : t.used < max 500 (t.used * 2) := by omega
    dsimp only
    rw [if_neg (by rw [resize_length]; exact Nat.not_lt.mpr (Nat.le_of_lt hN))]
    exact ⟨_, rfl, by dsimp only; rwa [resize_length],
      by simp only [Srv.pend]; exact resize_take _ _ _ hwf (Nat.le_of_lt hN), rfl, rfl, rfl, rfl⟩
  · have hlt : t.used < t.buf.length := by omega
    rw [if_neg (Nat.not_lt.mpr (Nat.le_of_lt hlt))]
    exact ⟨_, rfl, hlt, rfl, rfl, rfl, rfl, rfl⟩

/-- the state after the transport stored `data` at `&buf[used]` -/
def merged (s : Srv) (data : Bytes) : Srv :=
  { s with buf := s.buf.take s.used ++ data ++ s.buf.drop (s.used + data.length), used := s.used + data.length }

/-- the state after `erase(begin, begin + n); used -= n` -/
def erased (s : Srv) (n : Nat) : Srv := { s with buf := s.buf.drop n, used := s.used - n }

theorem pend_length (s : Srv) (hwf : s.wf) : s.pend.length = s.used := by
  unfold Srv.pend Srv.wf at *
  simp; omega

theorem merged_length (s : Srv) (data : Bytes) (hfit : s.used + data.length ≤ s.buf.length) :
    (merged s data).buf.length = s.buf.length := by
  simp [merged]; omega

theorem merged_pend (s : Srv) (data : Bytes) (hfit : s.used + data.length ≤ s.buf.length) :
    (merged s data).pend = s.pend ++ data := by
  have h1 : (s.buf.take s.used ++ data).length = s.used + data.length := by simp; omega
  simp only [merged, Srv.pend]
  rw [List.take_append_of_le_length (by omega), ← h1, List.take_length]

theorem erased_pend (s : Srv) (n : Nat) : (erased s n).pend = s.pend.drop n := by
  simp only [Srv.pend, erased, List.drop_take]

theorem erased_wf (s : Srv) (n : Nat) (hwf : s.wf) : (erased s n).wf := by
  simp only [Srv.wf, erased, List.length_drop] at hwf ⊢
  omega

/-- `on_read` with room for the received bytes, in terms of the pending bytes: the parser looks
    at `pend ++ data` only, whatever else is in the buffer. -/
theorem onRead_eq (s : Srv) (data : Bytes) (hfit : s.used + data.length ≤ s.buf.length) :
    s.onRead .ok data =
      match firstBlank (s.pend ++ data) with
      | none => (merged s data).read
      | some n =>
        match parseRequest (s.pend ++ data) n with
        | .oob => (merged s data, [.ub])
        | .parseFailed => (merged s data).closeConnection
        | .ok req =>
          match answer s req with
          | .stall => (erased (merged s data) n, [])
          | .fail => (erased (merged s data) n).closeConnection
          | .ub => (erased (merged s data) n, [.ub])
          | .respond r c => ({ erased (merged s data) n with sendBuf := r }, [.asyncWrite r c]) := by
  have hlen := merged_length s data hfit
  have hp := merged_pend s data hfit
  have hpl : (s.pend ++ data).length = s.used + data.length := by
    rw [← hp]; exact pend_length _ (by simp only [Srv.wf, hlen]; simp only [merged]; omega)
  obtain ⟨v, hv, hb⟩ : ∃ v : Int, findRequestLen (s.pend ++ data) (s.pend ++ data).length = .ok v ∧
      (v = -1 ∨ (4 ≤ v ∧ v ≤ (s.pend ++ data).length)) := by
    rcases findRequestLen_whole (s.pend ++ data) with h | ⟨n, h, h4, hn⟩
    · exact ⟨_, h, .inl rfl⟩
    · exact ⟨_, h, .inr ⟨by omega, by omega⟩⟩
  have hfrl : findRequestLen (merged s data).buf ((s.used + data.length : Nat) : Int) = .ok v := by
    rw [findRequestLen_take _ _ (by omega)]
    show findRequestLen (merged s data).pend _ = _
    rw [hp, ← hpl, hv]
  have hparse : ∀ n, n ≤ s.used + data.length →
      parseRequest (merged s data).buf n = parseRequest (s.pend ++ data) n := by
    intro n hn
    rw [← List.take_append_drop (s.used + data.length) (merged s data).buf]
    show parseRequest ((merged s data).pend ++ _) n = _
    rw [hp, parseRequest_append _ _ _ (by omega)]
  unfold firstBlank
  rw [hv]
  unfold Srv.onRead
  rw [if_neg (by decide), if_neg (by omega)]
  simp only [merged] at hfrl hparse hlen ⊢
  rw [hfrl]
  rcases hb with rfl | hb
  · rfl
  · rw [if_neg (by omega)]
    dsimp only
    rw [if_neg (by omega), hparse _ (by omega)]
    cases parseRequest (s.pend ++ data) v.toNat with
    | oob => rfl
    | parseFailed => rfl
    | ok req =>
      simp only
      rw [if_neg (by omega)]
      rfl

theorem onRead_ok (s : Srv) (data : Bytes) (hfit : s.used + data.length ≤ s.buf.length) :
    match reqStep s (s.pend ++ data) with
    | .more => ∃ s', s.onRead .ok data = (s', [.asyncReadSome (s'.buf.length - s'.used)]) ∧
        s'.used < s'.buf.length ∧ s'.pend = s.pend ++ data ∧ s.sameCfg s'
    | .fail => s.onRead .ok data = ({ s with buf := [], used := 0 }, closeActs s)
    | .stall rest => ∃ s', s.onRead .ok data = (s', []) ∧ s'.wf ∧ s'.pend = rest ∧ s.sameCfg s'
    | .respond r c rest =>
      ∃ s', s.onRead .ok data = (s', [.asyncWrite r c]) ∧ s'.wf ∧ s'.pend = rest ∧ s.sameCfg s'
    | .ub => ∃ s', s.onRead .ok data = (s', [.ub]) ∧ s.sameCfg s' := by
  have hwf : (merged s data).wf := by
    simp only [Srv.wf, merged_length s data hfit]; exact hfit
  have hp := merged_pend s data hfit
  have he : ∀ n, (erased (merged s data) n).wf ∧ (erased (merged s data) n).pend = (s.pend ++ data).drop n ∧
      s.sameCfg (erased (merged s data) n) :=
    fun n => ⟨erased_wf _ n hwf, by rw [erased_pend, hp], rfl, rfl, rfl, rfl⟩
  rw [onRead_eq s data hfit, reqStep]
  cases firstBlank (s.pend ++ data) with
  | none =>
    obtain ⟨s', h1, h2, h3, h4⟩ := read_spec _ hwf
    exact ⟨s', h1, h2, h3.trans hp, h4⟩
  | some n =>
    dsimp only
    cases parseRequest (s.pend ++ data) n with
    | oob => exact ⟨_, rfl, rfl, rfl, rfl, rfl⟩
    | parseFailed => rw [closeConnection_eq]; rfl
    | ok req =>
      dsimp only
      cases answer s req with
      | stall => exact ⟨_, rfl, he n⟩
      | fail => rw [closeConnection_eq]; rfl
      | ub => exact ⟨_, rfl, (he n).2.2⟩
      | respond r c => exact ⟨_, rfl, he n⟩

theorem onRead_err (s : Srv) (ec : Ec) (data : Bytes) (h : ec ≠ .ok) :
    s.onRead ec data = ({ s with buf := [], used := 0 }, closeActs s) := by
  unfold Srv.onRead
  rw [if_pos (by simpa using h), closeConnection_eq]

theorem onWrite_ok (s : Srv) (close : Bool) :
    s.onWrite .ok close =
      if !close && s.keepAlive then (s, [.postOnRead])
      else ({ s with buf := [], used := 0 }, closeActs s) := by
  unfold Srv.onWrite
  rw [closeConnection_eq]
  rfl

theorem onWrite_err (s : Srv) (ec : Ec) (c : Bool) (h : ec ≠ .ok) :
    s.onWrite ec c = ({ s with buf := [], used := 0 }, closeActs s) := by
  unfold Srv.onWrite
  rw [if_pos (by simpa using h), closeConnection_eq]

theorem onAccept_err (s : Srv) (ec : Ec) (h : ec ≠ .ok) :
    s.onAccept ec = ({ s with buf := [], used := 0 }, closeActs s) := by
  unfold Srv.onAccept
  rw [if_pos (by simpa using h), closeConnection_eq]

theorem read_closing (s : Srv) : s.read.1.closing = s.closing ∧ Act.asyncAccept ∉ s.read.2 := by
  unfold Srv.read
  dsimp only
  split <;> split <;> simp

theorem close_closing (s : Srv) (hc : s.closing = true) :
    ({ s with buf := [], used := 0 } : Srv).closing = true ∧ Act.asyncAccept ∉ closeActs s :=
  ⟨hc, by simp [closeActs, hc]⟩

theorem onRead_closing (s : Srv) (hc : s.closing = true) (ec : Ec) (data : Bytes) :
    (s.onRead ec data).1.closing = true ∧ Act.asyncAccept ∉ (s.onRead ec data).2 := by
  by_cases hec : ec = .ok
  · subst hec
    by_cases hfit : s.used + data.length ≤ s.buf.length
    · have ht := onRead_ok s data hfit
      split at ht
      · obtain ⟨s', h, _, _, hcfg⟩ := ht; rw [h]; exact ⟨hcfg.1 ▸ hc, by simp⟩
      · rw [ht]; exact close_closing s hc
      · obtain ⟨s', h, _, _, hcfg⟩ := ht; rw [h]; exact ⟨hcfg.1 ▸ hc, by simp⟩
      · obtain ⟨s', h, _, _, hcfg⟩ := ht; rw [h]; exact ⟨hcfg.1 ▸ hc, by simp⟩
      · obtain ⟨s', h, hcfg⟩ := ht; rw [h]; exact ⟨hcfg.1 ▸ hc, by simp⟩
    · have : s.onRead .ok data = (s, [.ub]) := by
        unfold Srv.onRead
        rw [if_neg (by decide), if_pos (by omega)]
      rw [this]; exact ⟨hc, by simp⟩
  · rw [onRead_err s ec data hec]; exact close_closing s hc

theorem onAccept_closing (s : Srv) (hc : s.closing = true) (ec : Ec) :
    (s.onAccept ec).1.closing = true ∧ Act.asyncAccept ∉ (s.onAccept ec).2 := by
  unfold Srv.onAccept
  split
  · rw [closeConnection_eq]; exact close_closing s hc
  · exact hc ▸ read_closing s

theorem onWrite_closing (s : Srv) (hc : s.closing = true) (ec : Ec) (c : Bool) :
    (s.onWrite ec c).1.closing = true ∧ Act.asyncAccept ∉ (s.onWrite ec c).2 := by
  unfold Srv.onWrite
  rw [closeConnection_eq]
  split
  · exact close_closing s hc
  · split
    · exact ⟨hc, by simp⟩
    · exact close_closing s hc

end SimVerif.HttpServer
