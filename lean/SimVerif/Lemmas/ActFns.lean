/-
  The functions of `tcp::socket` (SimVerif/Tcp.lean) that reach `send_packet`, `async_connect` and
  `incoming_packet`, summarised (`Act` / `Own`, Lemmas/Act.lean): one walk per function, along its
  equation in Lemmas/TcpEq.lean. `own_f` / `act_f` is the summary of model function `f`; where no
  `Act` can be stated (the wire part needs a hypothesis on the packet handed in) `f_parts` gives the
  fields separately.
-/
import SimVerif.Lemmas.Act

namespace SimVerif

open HL

theorem tcpSendPacket_parts (n : NetSt) (now : Int) (a : String) (p : Pkt) :
    Act True (some now) n (n.tcpSendPacket now a p).1 [] []
    ∧ silent (n.tcpSendPacket now a p).2 ∧ (∀ c ∈ wireOf (n.tcpSendPacket now a p).2, p.chan = some c)
    ∧ CapBlocks n.cfg.pcap now (n.tcpSendPacket now a p).2
    ∧ (n.tcpSendPacket now a p).1.chans.length = n.chans.length := by
  rcases tcpSendPacket_eq n now a p with ⟨-, e⟩ | ⟨s, cid, ch, hs, -, -, e⟩ <;> rw [e]
  · exact ⟨.refl n, rfl, fun _ h => (nomatch h), .nil, rfl⟩
  · obtain ⟨h1, h2, -⟩ := effs_sendEffs n.cfg.pcap now s.bound (ch.ep (ch.remoteIdx s.bound)) (ch.sent (ch.selfIdx s.bound)) p
    exact ⟨.setTcp hs .keep (hl := Nat.le_of_eq (Hs.setChan_length ..).symm), h1,
      fun c hm => by rw [h2] at hm; exact Option.mem_toList.mp hm, .one_sent .., Hs.setChan_length ..⟩

/-- `r` is what `send_packet(p)` returns after an update of socket `a` that changes only its sequence
    counter and its list of packets to retransmit, which shrinks, `p` being one of them or a
    packet without channel id — or nothing happened at all: the callers of `send_packet` -/
def ViaSend (n : NetSt) (now : Int) (a : String) (r : NetSt × List NEff) : Prop :=
  r = (n, []) ∨ ∃ s s' p, n.tcp? a = some s ∧ r = (n.setTcp a s').tcpSendPacket now a p
    ∧ s' = { s with nextOut := s'.nextOut, resend := s'.resend } ∧ (∀ q ∈ s'.resend, q ∈ s.resend)
    ∧ (p.chan = none ∨ p ∈ s.resend)

theorem viaSend_sendSeg (n : NetSt) (now : Int) (a : String) (hops : List String) (seg : List UInt8) :
    ViaSend n now a (n.tcpSendSeg now a hops seg) := by
  cases hs : n.tcp? a with
  | none => exact .inl (tcpSendSeg_none n now a hops seg hs)
  | some s => exact .inr ⟨s, _, _, hs, tcpSendSeg_some n now a hops seg s hs, rfl, fun _ h => h, .inl rfl⟩

theorem viaSend_resendOne (n : NetSt) (now : Int) (a : String) (r : NetSt × List NEff)
    (h : n.tcpResendOne now a = some r) : ViaSend n now a r := by
  obtain ⟨s, p, rest, hs, hr, _, _, rfl⟩ := tcpResendOne_some n now a r h
  exact .inr ⟨s, _, p, hs, rfl, rfl, fun _ h => hr ▸ List.mem_cons_of_mem _ h, .inr (hr ▸ List.mem_cons_self)⟩

theorem viaSend_tcpCloseEof (n : NetSt) (now : Int) (a : String) (s0 : TcpSock) (hs : n.tcp? a = some s0) :
    ViaSend n now a (tcpCloseEof n now a s0) := by
  cases hb : s0.chan.bind n.chan? with
  | none => exact .inl (tcpCloseEof_noChan n now a s0 hb)
  | some ch =>
    unfold tcpCloseEof
    simp only [hb]
    split
    · exact .inr ⟨s0, _, _, hs, rfl, rfl, fun _ h => h, .inl rfl⟩
    · exact .inl rfl

section
variable {n : NetSt} {now : Int} {a : String} {r : NetSt × List NEff}

theorem ViaSend.act (h : ViaSend n now a r) : Act True (some now) n r.1 r.2 [] := by
  rcases h with rfl | ⟨s, s', p, hs, rfl, e, hre, hp⟩
  · exact .refl n
  · obtain ⟨h2, hsil, hw, hcap, hlen⟩ := tcpSendPacket_parts (n.setTcp a s') now a p
    refine ((Act.setTcp hs (.keep (by rw [e]) (by rw [e]) (by rw [e]) (by rw [e]) (acceptOp_congr (by rw [e]))
      (by rw [conns_congr (s := s) (by rw [e])]; exact fun _ h => h) hre)).trans h2).with_effs hsil
      (fun hr c hm => ?_) hcap
    rw [hlen]
    rcases hp with hp | hp
    · rw [hp] at hw; exact nomatch hw c hm
    · exact hr.ok a s hs p hp c (hw c hm)

theorem ViaSend.silent (h : ViaSend n now a r) : silent r.2 := by
  rcases h with rfl | ⟨s, s', p, -, rfl, -⟩
  · rfl
  · exact (tcpSendPacket_parts ..).2.1

end

theorem effs_tcpCloseEof (n : NetSt) (now : Int) (name : String) (s0 : TcpSock) :
    silent (tcpCloseEof n now name s0).2 ∧ wireOf (tcpCloseEof n now name s0).2 = []
    ∧ CapBlocks n.cfg.pcap now (tcpCloseEof n now name s0).2 ∧ parkedOf (tcpCloseEof n now name s0).2 = [] := by
  rcases tcpCloseEof_cases n now name s0 with e | ⟨_, _, -, -, e⟩ <;> rw [e]
  · exact ⟨silent_nil, rfl, .nil, rfl⟩
  · exact ⟨(effs_sendEffs ..).1, (effs_sendEffs ..).2.1, .one_sent .., (effs_sendEffs ..).2.2⟩

theorem sstep_close (s : TcpSock) : SStep s s.afterClose (tcpCancelEffs s) [] := by
  have h : SStep s _ (tcpCancelEffs s) [] := TcpSock.cancel_eq s ▸ sstep_cancel s
  have := h.trans (SStep.keep (s' := s.afterClose) (resend := fun _ h => nomatch h))
  rwa [List.append_nil] at this

theorem own_tcpClose (n : NetSt) (now : Int) (a : String) (s0 : TcpSock) (hs : n.tcp? a = some s0) :
    Own a s0.fwd s0.chan True (some now) n (n.tcpClose now a).1 (n.tcpClose now a).2 [] := by
  obtain ⟨cs, hb, e⟩ := tcpClose_exact n now a s0 hs
  obtain ⟨h1, h2, h3, -⟩ := effs_tcpCloseEof n now a s0
  rw [e]
  exact (Own.countersOnly (t := some now) a _ hb h1 h2 h3).trans (Own.setTcp (n := { n with chans := cs }) hs (sstep_close s0) (.released ..))

theorem own_tcpOpen (n : NetSt) (now : Int) (a : String) (v4 : Bool) (s0 : TcpSock) (hs : n.tcp? a = some s0) :
    Own a s0.fwd s0.chan True (some now) n (n.tcpOpen now a v4).1 (n.tcpOpen now a v4).2 [] := by
  obtain ⟨cs, hb, e⟩ := tcpOpen_exact n now a v4 s0 hs
  obtain ⟨h1, h2, h3, -⟩ := effs_tcpCloseEof n now a s0
  rw [e]
  exact (Own.countersOnly (t := some now) a _ hb h1 h2 h3).trans (Own.setTcp (n := { n with chans := cs }) hs ((sstep_close s0).trans .keep)
    ((TcpFrame.released ..).trans (.newFwd ..))) (he := by rw [List.append_nil])

theorem act_tcpClose (n : NetSt) (now : Int) (a : String) :
    Act True (some now) n (n.tcpClose now a).1 (n.tcpClose now a).2 [] := by
  cases hs : n.tcp? a with
  | none => rw [tcpClose_none n now a hs]; exact .refl n
  | some s0 => exact (own_tcpClose n now a s0 hs).toAct

theorem act_tcpOpen (n : NetSt) (now : Int) (a : String) (v4 : Bool) :
    Act True (some now) n (n.tcpOpen now a v4).1 (n.tcpOpen now a v4).2 [] := by
  cases hs : n.tcp? a with
  | none => rw [tcpOpen_none n now a v4 hs]; exact .refl n
  | some s0 => exact (own_tcpOpen n now a v4 s0 hs).toAct

theorem HL.ni_tcpOpen' {n n' : NetSt} {now : Int} {name : String} {v4 : Bool} {e : List NEff}
    (h : n.tcpOpen now name v4 = (n', e)) : noInvoke e := by
  have := (act_tcpOpen n now name v4).noInvoke
  rw [h] at this; exact this

theorem own_tcpBound (n : NetSt) (a : String) (s : TcpSock) (ep1 : Ep) (hs : n.tcp? a = some s) :
    Own a none none True none n (n.tcpBound a s ep1).1 [] [] := by
  unfold NetSt.tcpBound
  have hf := simBind_filter n.reg.tcp n.reg.nextPort a ep1
  generalize simBind n.reg.tcp n.reg.nextPort a ep1 = sb at hf ⊢
  obtain ⟨tbl, np, r⟩ := sb
  cases r with
  | error e => exact .state (.of_reg a _ _ n hf)
  | ok ep2 => exact Own.setTcp hs .keep (.of_reg a _ _ n hf)

theorem own_tcpConnectBind (n : NetSt) (a : String) (s : TcpSock) (target : Ep) (hs : n.tcp? a = some s) :
    Own a none none True none n (n.tcpConnectBind a target s).1 [] [] := by
  rw [tcpConnectBind_eq]
  split
  · split
    · exact .refl ..
    · exact own_tcpBound n a s _ hs
  · exact .refl ..

/-- the last stage, row by row: the new handler is posted at once (wrong family), bound into the
    connect timer (refused), or parked in the connect slot — which the code asserts to be empty —
    while the SYN goes out directly with the id the channel was just appended under -/
theorem own_tcpConnectFinish (n : NetSt) (a : String) (target : Ep) (h : Nat) (s : TcpSock) (e0 : List NEff)
    (hs : n.tcp? a = some s) :
    ∃ n' fin new, n.tcpConnectFinish a target h e0 = (n', e0 ++ fin)
      ∧ Own a none none (s.connectH = none) none n n' fin new ∧ (new ++ parkedOf fin).Perm [h] := by
  rcases tcpConnectFinish_rows n a target h e0 s hs with ⟨-, e⟩ | ⟨-, e⟩ | ⟨rname, r, -, -, -, e⟩
  · exact ⟨_, _, [h], e, .post n _, .refl _⟩
  · exact ⟨_, _, [], e, (Own.setTcp hs .keep).trans (.emit _ (q := [.armAfter ..]) rfl ⟨rfl, rfl, rfl⟩), .refl _⟩
  · have hd : Own a none none (s.connectH = none) none n { n with chans := n.chans ++ [dialChan n s r target] }
        [.forward (dialSyn s n.chans.length (dialChan n s r target).hops1)] [] :=
      (Own.state (.addChan ..)).with_effs rfl (fun _ c hc => by
          have hc : c = n.chans.length := by simpa [wireOf, dialSyn] using hc
          rw [hc]; simp) (.of_none fun _ _ => .one_direct _ _ _ (.inl rfl))
    exact ⟨_, _, [h], e, hd.trans (Own.setTcpIf (n := { n with chans := _ }) hs
      (fun hc hx => ⟨ids_connectH (by rw [hc]; exact .refl _), hx⟩) (fun _ _ h => .inl h) (fun _ h => h) .nil)
      (he := (List.append_nil _).symm), .refl _⟩

/-- **`async_connect`** brings in `h`: a closed socket is opened first, an unbound one bound, then
    the connection attempt. Precondition of the code, needed for the id account only:
    `assert(!m_connect_handler)` when the socket is open. -/
theorem own_tcpConnect (n : NetSt) (now : Int) (a : String) (target : Ep) (h : Nat) (s0 : TcpSock)
    (hs0 : n.tcp? a = some s0) :
    ∃ new, Own a s0.fwd s0.chan (s0.isOpen = true → s0.connectH = none) (some now) n
        (n.tcpConnect now a target h).1 (n.tcpConnect now a target h).2 new
      ∧ (new ++ parkedOf (n.tcpConnect now a target h).2).Perm [h] := by
  rw [tcpConnect_eq n now a target h s0 hs0]
  generalize ha : n.tcpConnectOpen now a target s0 = x
  have hA : ∃ s, x.1.tcp? a = some s ∧ ((s0.isOpen = true → s0.connectH = none) → s.connectH = none)
      ∧ Own a s0.fwd s0.chan (s0.isOpen = true → s0.connectH = none) (some now) n x.1 x.2 []
      ∧ parkedOf x.2 = [] := by
    subst ha; unfold NetSt.tcpConnectOpen; split
    · obtain ⟨cs, -, e⟩ := tcpOpen_exact n now a target.isV4 s0 hs0
      refine ⟨_, by rw [e]; exact tcp?_setTcp_same .., fun _ => rfl, (own_tcpOpen n now a _ s0 hs0).weaken, ?_⟩
      rw [e, parkedOf_append, (effs_tcpCloseEof n now a s0).2.2.2, (sstep_close s0).posts.postsOnly.parkedOf]; rfl
    · rename_i ho
      exact ⟨s0, hs0, fun hpre => hpre (by simpa using ho), .refl .., rfl⟩
  obtain ⟨s, hs, hc, hta, hpa⟩ := hA
  rw [hs]; dsimp only
  have htb := hta.trans (own_tcpConnectBind x.1 a s target hs).widen.weaken (he := (List.append_nil _).symm)
  obtain ⟨s', hs', hc'⟩ := (tcpConnectBind_spec x.1 a target s hs).2
  split
  · exact ⟨[h], htb.trans (.post _ _), by rw [parkedOf_append, hpa]; exact .refl _⟩
  · obtain ⟨n', fin, new, e, htc, hperm⟩ :=
      own_tcpConnectFinish (x.1.tcpConnectBind a target s).1 a target h s' x.2 hs'
    rw [e]
    exact ⟨new, htb.trans (htc.widen.mono fun hp => by rw [hc']; exact hc hp),
      by rw [parkedOf_append, hpa]; exact hperm⟩

/-- `async_connect` in every state (without the socket nothing happens): the two fields of
    `own_tcpConnect` that C04 and C19 state without the object -/
theorem tcpConnect_parts (n : NetSt) (now : Int) (a : String) (target : Ep) (h : Nat) :
    noInvoke (n.tcpConnect now a target h).2 ∧ CapBlocks n.cfg.pcap now (n.tcpConnect now a target h).2 := by
  cases hs0 : n.tcp? a with
  | none => rw [tcpConnect_none n now a target h hs0]; exact ⟨noInvoke_nil, .nil⟩
  | some s0 =>
    obtain ⟨_, hc, _⟩ := own_tcpConnect n now a target h s0 hs0
    exact ⟨hc.noInvoke, hc.shape⟩

theorem sstep_rxData (tp : TParams) (t : TcpSock) (p : Pkt) : SStep t (t.rxData tp p).1 (t.rxData tp p).2 [] := by
  unfold TcpSock.rxData
  split
  · exact .keep
  · exact SStep.trans .keep (sstep_maybeWakeupReader tp _)

/-- the ACK of a payload / error packet goes out directly, not through `send_packet` -/
theorem own_tcpIncoming (tp : TParams) (n : NetSt) (now : Int) (a : String) (p : Pkt) :
    Own a none none True none n (n.tcpIncoming tp now a p).1 (n.tcpIncoming tp now a p).2 [] := by
  cases hs : n.tcp? a with
  | none => rw [tcpIncoming_none tp n now a p hs]; exact .refl ..
  | some s =>
    rcases tcpIncoming_cases hs tp now p with e | ⟨_, _, row, e⟩ <;> rw [e]
    · exact .refl ..
    · cases row with
      | ack _ => exact (Own.setTcp hs .keep).trans (.emit _ (q := [.tcpResend a, .tcpAckPost ..]) rfl ⟨rfl, rfl, rfl⟩)
      | synack h _ hc =>
        -- the connect handler leaves its slot and is posted
        have hp : SStep s { s with connectH := none } [.post { h := h, ec := .ok }] [] :=
          ⟨fun hx => ⟨ids_connectH (by rw [hc]; exact .refl _), hx⟩, fun _ h => h, fun _ h => h, .one _⟩
        exact (Own.setTcp hs hp).trans (.emit _ (q := [.tcpWake a]) rfl ⟨rfl, rfl, rfl⟩)
      | data hops _ _ =>
        exact (Own.direct0 n _ (.inr (.inr (.inl rfl))) rfl).trans (Own.setTcp hs (sstep_rxData tp s p))

end SimVerif
