/-
  Evaluating one concrete run once.  A conjunction proved by `and_of_decide (by decide +kernel)` is
  checked by the kernel in ONE evaluation, and the kernel keeps the weak head normal form of every
  closed term it has met.  So facts about the same history — its side condition (`okRunB`), states at
  prefixes (`ls.take k`, or a shorter list the longer one extends), the final state — share the work:
  `X.run p s ls` unfolds to nested `X.step p (… (X.step p s l₁) …) lₖ` over the same label terms,
  whichever of them asks.  Different parameters or start states share nothing.
-/
namespace SimVerif

/-- each conjunct's `Decidable` instance is found on its own: a long conjunction exceeds the
    instance-size limit -/
theorem and_of_decide {p q : Prop} [Decidable p] [Decidable q] (h : (decide p && decide q) = true) : p ∧ q := by
  simpa using h

theorem and3_of_decide {p q r : Prop} [Decidable p] [Decidable q] [Decidable r]
    (h : (decide p && (decide q && decide r)) = true) : p ∧ q ∧ r := by
  simpa using h

end SimVerif
