/-
  `trim`: the index loops of the C++ never leave `[0, size()]` and compute the functional
  specification `trimSpec` (drop white space — including NUL — at both ends).
-/
import SimVerif.Lemmas.HttpBasic

namespace SimVerif.Http

theorem strAt_nat (s : Bytes) (i : Nat) (h : i ≤ s.length) : strAt s (i : Int) = .ok (s.getD i 0) := by
  unfold strAt
  rw [if_pos ⟨by omega, by omega⟩]
  rfl

theorem trimFwd_spec (s : Bytes) : ∀ (l : Bytes) (p : Nat), s.drop p = l → p ≤ s.length →
    trimFwd s p s.length = .ok (p + (l.takeWhile isWs).length) := by
  intro l
  induction l with
  | nil =>
    intro p h hp
    have : p = s.length := Nat.le_antisymm hp (List.drop_eq_nil_iff.mp h)
    subst this
    unfold trimFwd
    rw [strAt_nat s _ hp]
    simp
  | cons a t ih =>
    intro p h _
    obtain ⟨hp, ha, hd⟩ := drop_cons h
    unfold trimFwd
    rw [strAt_nat s p (Nat.le_of_lt hp), List.getD_eq_getElem?_getD, List.getElem?_eq_getElem hp,
      Option.getD_some, ha]
    dsimp only
    by_cases hw : isWs a = true
    · rw [if_pos ⟨hw, hp⟩, ih (p + 1) hd hp, List.takeWhile_cons_of_pos hw, List.length_cons]
      congr 1; omega
    · rw [if_neg (fun h => hw h.1), List.takeWhile_cons_of_neg hw]
      rfl

/-- The backward loop from `e` down to `start`. It reads `s[start-1]` when it reaches `start`,
    hence the last hypothesis (in `trim`: `start = 0` only if `s[0]` is not white space). -/
theorem trimBwd_spec (s : Bytes) (start : Nat) : ∀ e : Nat, start ≤ e → e ≤ s.length →
    (start = 0 → ∃ i, i < e ∧ isWs (s.getD i 0) = false) →
    trimBwd s start e
      = .ok (start + (((s.take e).drop start).reverse.dropWhile isWs).length) := by
  intro e
  induction e with
  | zero =>
    intro h0 _ hg
    obtain ⟨i, hi, _⟩ := hg (Nat.le_zero.mp h0)
    exact absurd hi (Nat.not_lt_zero i)
  | succ e ih =>
    intro hs he hg
    have hc : strAt s (((e + 1 : Nat) : Int) - 1) = .ok (s.getD e 0) := by
      rw [show ((e + 1 : Nat) : Int) - 1 = (e : Int) by omega, strAt_nat s e (by omega)]
    unfold trimBwd
    rw [hc]
    dsimp only
    by_cases hse : start = e + 1
    · rw [if_neg (by omega), hse,
        List.drop_of_length_le (by rw [List.length_take]; exact Nat.min_le_left _ _)]
      rfl
    · have hx : (s.take (e + 1)).drop start = (s.take e).drop start ++ [s.getD e 0] := by
        rw [List.take_add_one, List.getD_eq_getElem?_getD, List.getElem?_eq_getElem (by omega),
          List.drop_append_of_le_length (by simp; omega)]
        rfl
      rw [hx, List.reverse_append, List.reverse_singleton, List.singleton_append]
      by_cases hw : isWs (s.getD e 0) = true
      · rw [if_pos ⟨hw, by omega⟩, Nat.add_sub_cancel, List.dropWhile_cons_of_pos hw]
        refine ih (by omega) (by omega) (fun h0 => ?_)
        obtain ⟨i, hi, hiw⟩ := hg h0
        refine ⟨i, Nat.lt_of_le_of_ne (Nat.le_of_lt_succ hi) (fun h => ?_), hiw⟩
        rw [h, hw] at hiw
        cases hiw
      · rw [if_neg (fun h => hw h.1), List.dropWhile_cons_of_neg hw]
        simp only [List.length_cons, List.length_reverse, List.length_drop, List.length_take]
        congr 1; omega

theorem reverse_dropWhile_reverse (p : UInt8 → Bool) (l : Bytes) :
    (l.reverse.dropWhile p).reverse = l.take (l.reverse.dropWhile p).length := by
  have h := List.takeWhile_append_dropWhile (p := p) (l := l.reverse)
  have h2 : l = (l.reverse.dropWhile p).reverse ++ (l.reverse.takeWhile p).reverse := by
    have := congrArg List.reverse h
    rw [List.reverse_append, List.reverse_reverse] at this
    exact this.symm
  conv => rhs; arg 2; rw [h2]
  simp

theorem trim_eq_spec (s : Bytes) : trim s = .ok (trimSpec s) := by
  unfold trim
  by_cases hs : s = []
  · rw [if_pos hs, hs]; rfl
  · have hd : s.drop (s.takeWhile isWs).length = s.dropWhile isWs := by
      conv => lhs; arg 2; rw [← List.takeWhile_append_dropWhile (p := isWs) (l := s)]
      exact List.drop_left
    have hle : (s.takeWhile isWs).length ≤ s.length := (List.takeWhile_prefix _).length_le
    have h1 := trimFwd_spec s s 0 rfl (Nat.zero_le _)
    rw [Nat.zero_add] at h1
    have h2 := trimBwd_spec s (s.takeWhile isWs).length s.length hle (Nat.le_refl _) (fun h0 => by
      cases s with
      | nil => exact absurd rfl hs
      | cons x t =>
        refine ⟨0, Nat.zero_lt_succ _, ?_⟩
        by_cases hx : isWs x = true
        · rw [List.takeWhile_cons_of_pos hx] at h0; cases h0
        · simpa using hx)
    rw [if_neg hs, h1]
    dsimp only
    rw [h2, List.take_length, hd]
    dsimp only
    rw [Nat.add_sub_cancel_left, trimSpec, reverse_dropWhile_reverse]

theorem trimSpec_crlf (s : Bytes) : trimSpec (CRLF ++ s) = trimSpec s := by
  simp [trimSpec, CRLF, isWs]

theorem trim_ne_oob (s : Bytes) : trim s ≠ .error .oob := by
  rw [trim_eq_spec]; simp

end SimVerif.Http
