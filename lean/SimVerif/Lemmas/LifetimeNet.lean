/-
  C12 helper lemmas about the network state: closing detaches the forwarder. The frames (an operation on object `a` leaves every other object, forwarder, channel
  and registry entry alone) of the TCP functions are fields of their summaries `Own`
  (Lemmas/Act.lean); here: UDP `close` and `open`, and `acceptor::close` off its equation.
-/
import SimVerif.Lemmas.Frames

namespace SimVerif

namespace HL

theorem udpClose_detaches (n : NetSt) (a : String) (u : UdpSock) (f : Nat) (h : n.udp? a = some u)
    (hf : u.fwd = some f) : (n.udpClose a).1.fwdTarget f = none := by
  rw [udpClose_exact n a u h]; exact (fwdTarget_detach (fo := u.fwd) rfl f).trans (if_pos hf)

theorem uframe_udpClose (n : NetSt) (a : String) (u : UdpSock) (h : n.udp? a = some u) :
    UdpFrame a u.fwd n (n.udpClose a).1 := by
  rw [udpClose_exact n a u h]; exact (UdpFrame.releasedU ..).setUdp _

theorem uframe_udpOpen (n : NetSt) (a : String) (v4 : Bool) (u : UdpSock) (h : n.udp? a = some u) :
    UdpFrame a u.fwd n (n.udpOpen a v4).1 := by
  rw [udpOpen_exact n a v4 u h]
  exact ((uframe_udpClose n a u h).trans (.newFwd a _ _ a)).setUdp _

theorem tcpClose_detaches (n : NetSt) (now : Int) (name : String) (s : TcpSock) (f : Nat)
    (hs : n.tcp? name = some s) (hf : s.fwd = some f) : (n.tcpClose now name).1.fwdTarget f = none := by
  obtain ⟨cs, -, e⟩ := tcpClose_exact n now name s hs
  rw [e, fwdTarget_setTcp, fwdTarget_released, if_pos hf]

theorem tframe_accClose (n : NetSt) (now : Int) (name : String) (s : TcpSock) (hs : n.tcp? name = some s) :
    TcpFrame name s.fwd s.chan n (n.accClose now name).1 := by
  obtain ⟨cs, hb, e⟩ := accClose_exact n now name s hs
  rw [e]; exact ((TcpFrame.countersOnly name _ hb).trans (.released ..)).setTcp _

theorem accClose_detaches (n : NetSt) (now : Int) (name : String) (s : TcpSock) (f : Nat)
    (hs : n.tcp? name = some s) (hf : s.fwd = some f) :
    (n.accClose now name).1.fwdTarget f = none := by
  obtain ⟨cs, -, e⟩ := accClose_exact n now name s hs
  rw [e, fwdTarget_setTcp, fwdTarget_released, if_pos hf]

end HL

end SimVerif
