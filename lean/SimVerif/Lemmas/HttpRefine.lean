/-
  `parse_request` against a functional parser over the byte list it is given: `parseSpec` cuts at
  SP, SP, CR LF, then header line by header line at CR LF and ':' — no memory, no offsets, no
  bounds. On a buffer that holds `len` bytes the checked-memory parser is `parseSpec` of the first
  `len` bytes (`parseRequestE_eq`): one walk through `parseRequestE`/`headerLoop`. In bounds, prefix
  independence and totality are read off that equation; the round trip is a fact about `parseSpec`
  on rendered requests.
-/
import SimVerif.Lemmas.HttpTrim
import SimVerif.Lemmas.HttpNormalize

namespace SimVerif.Http

theorem cut_lt {needle b x y : Bytes} (h : cut needle b = some (x, y)) (hn : needle ≠ []) :
    y.length < b.length := by
  have := congrArg List.length (cut_eq_some.1 h).2
  simp only [List.length_append] at this
  have := List.length_pos_iff.2 hn
  omega

/-- the header lines behind a CR LF (`rest` = what follows it), folded into `m`: each line ends at
    the next CR LF and is cut at its first ':'. The C++ stops as soon as two bytes are left,
    whatever they are. -/
def headersSpec (rest : Bytes) (m : HMap) : Option HMap :=
  if rest.length = 2 then some m
  else match h : cut CRLF rest with
    | none => none
    | some (line, rest') =>
      match cut [58] line with
      | none => none
      | some (name, value) => headersSpec rest' (mapInsert (lowerCase (trimSpec name)) (trimSpec value) m)
termination_by rest.length
decreasing_by exact cut_lt h (by decide)

/-- method SP target SP version CR LF headers -/
def parseSpec (b : Bytes) : Option Request :=
  match cut [32] b with
  | none => none
  | some (method, r1) =>
    match cut [32] r1 with
    | none => none
    | some (target, r2) =>
      match cut CRLF r2 with
      | none => none
      | some (_, r3) =>
        (headersSpec r3 []).map fun hs =>
          { method := method, req := target, path := canonPath method target, headers := hs }

/-- `throw std::runtime_error("parse failed")` where the functional parser has no result -/
def orFail {α : Type} : Option α → Except Err α
  | some a => .ok a
  | none => .error .parseFailed

theorem headerLoop_none (bs : Bytes) (len : Nat) (hdrs : HMap) :
    headerLoop bs len none hdrs = failParse bs len := by
  rw [headerLoop]

theorem headerLoop_exit (bs : Bytes) (len h : Nat) (hdrs : HMap) (he : (h : Int) = (len : Int) - 4) :
    headerLoop bs len (some h) hdrs = .ok hdrs := by
  rw [headerLoop, if_pos he]

/-- The body of one iteration once `next` and `value` are known. -/
def headerBody (bs : Bytes) (len h : Nat) (hdrs : HMap) (next value : Option Nat) : Except Err HMap :=
  match next, value with
  | some n, some v =>
    if v > n then failParse bs len
    else
      match readRange bs h v with
      | .error e => .error e
      | .ok rawName =>
        match readRange bs (v + 1) n with
        | .error e => .error e
        | .ok rawValue =>
          match trim rawName with
          | .error e => .error e
          | .ok tn =>
            match trim rawValue with
            | .error e => .error e
            | .ok tv => headerLoop bs len (some n) (mapInsert (lowerCase tn) tv hdrs)
  | _, _ => failParse bs len

theorem headerLoop_step (bs : Bytes) (len h : Nat) (hdrs : HMap) (next value : Option Nat)
    (hne : (h : Int) ≠ (len : Int) - 4)
    (hf : find bs (h + 2) ((len : Int) - ((h : Int) + 2 - 0)) CRLF = .ok next)
    (hm : memchr bs h 58 ((len : Int) - ((h : Int) - 0)) = .ok value) :
    headerLoop bs len (some h) hdrs = headerBody bs len h hdrs next value := by
  rw [headerLoop, if_neg hne]
  split
  · rename_i e he; rw [hf] at he; simp at he
  · rename_i next' he
    rw [hf] at he
    simp at he
    subst he
    rw [hm]
    dsimp only
    unfold headerBody
    split <;> rename_i h1
    · rfl
    · split
      · rename_i n v h2 h3
        exact absurd HEq.rfl (h1 n v h2 rfl rfl)
      · rfl

section
variable {bs : Bytes} {len : Nat} (hlen : len ≤ bs.length)
include hlen

theorem headerLoop_searches {h : Nat} {rest : Bytes} (m : HMap) (hd : (bs.take len).drop h = CRLF ++ rest)
    (h2 : rest.length ≠ 2) :
    headerLoop bs len (some h) m =
      headerBody bs len h m ((search CRLF rest).map (· + (h + 2))) (((search [58] rest).map (· + 2)).map (· + h)) := by
  have hl := congrArg List.length hd
  simp only [List.length_drop, List.length_take, Nat.min_eq_left hlen, List.length_append, CRLF,
    List.length_cons, List.length_nil] at hl
  have hf := find_eq_search hlen (h + 2) ((len : Int) - ((h : Int) + 2 - 0)) CRLF (by omega) (.inl nofun)
  have hm := find_eq_search hlen h ((len : Int) - ((h : Int) - 0)) [58] (by omega) (.inl nofun)
  rw [show (bs.take len).drop (h + 2) = rest from drop_skip (l := CRLF) hd] at hf
  rw [hd, search_byte_append rest (a := CRLF) rfl, ← memchr_eq_find _ _ _ _ (by omega)] at hm
  exact headerLoop_step _ _ _ _ _ _ (by omega) hf hm

theorem headerLoop_eq (rest : Bytes) (m : HMap) : ∀ h : Nat, (bs.take len).drop h = CRLF ++ rest →
    headerLoop bs len (some h) m = orFail (headersSpec rest m) := by
  fun_induction headersSpec rest m with
  | case1 rest m h2 =>
    intro h hd
    have hl := congrArg List.length hd
    simp only [List.length_drop, List.length_take, Nat.min_eq_left hlen, List.length_append, CRLF,
      List.length_cons, List.length_nil] at hl
    exact headerLoop_exit _ _ _ _ (by omega)
  | case2 rest m h2 hc =>
    intro h hd
    rw [headerLoop_searches hlen m hd h2, cut_eq_none.1 hc]
    exact failParse_eq _ _ hlen
  | case3 rest m h2 line rest' hc hv =>
    intro h hd
    obtain ⟨hs, rfl⟩ := cut_eq_some.1 hc
    rw [headerLoop_searches hlen m hd h2, hs, search_byte_append _ (cut_eq_none.1 hv),
      search_byte_append rest' (a := CRLF) rfl]
    cases search [58] rest' with
    | none => exact failParse_eq _ _ hlen
    | some j =>
      simp only [headerBody, Option.map_some]
      rw [if_pos (by simp only [CRLF, List.length_cons, List.length_nil]; omega)]
      exact failParse_eq _ _ hlen
  | case4 rest m h2 line rest' hc name value hv ih =>
    intro h hd
    obtain ⟨hs, rfl⟩ := cut_eq_some.1 hc
    obtain ⟨hs', rfl⟩ := cut_eq_some.1 hv
    rw [headerLoop_searches hlen m hd h2, hs, search_append_left _ hs']
    simp only [headerBody, Option.map_some]
    have hl := congrArg List.length hd
    simp only [List.length_drop, List.length_take, Nat.min_eq_left hlen, List.length_append, CRLF,
      List.length_cons, List.length_nil] at hl
    -- the bytes ahead: CRLF name ':' value CRLF rest'
    have d1 : (bs.take len).drop h = (CRLF ++ name) ++ ([58] ++ (value ++ (CRLF ++ rest'))) := by
      rw [hd]; simp only [List.append_assoc]
    have d2 : (bs.take len).drop (name.length + 2 + h + 1) = value ++ (CRLF ++ rest') :=
      drop_skip_at (drop_skip d1) (by simp only [CRLF, List.length_append, List.length_cons, List.length_nil]; omega)
    rw [if_neg (by simp only [List.length_append, List.length_cons]; omega),
      readRange_ahead hlen d1 (by omega) (by simp only [CRLF, List.length_append, List.length_cons, List.length_nil]; omega),
      readRange_ahead hlen d2 (by omega) (by simp only [List.length_append, List.length_cons, List.length_nil]; omega)]
    dsimp only
    rw [trim_eq_spec, trim_eq_spec, trimSpec_crlf]
    exact ih _ (drop_skip_at d2 (by simp only [List.length_append, List.length_cons, List.length_nil]; omega))

/-- the refinement: on a buffer that holds `len` bytes, `parse_request(start, len)` is the functional
    parser applied to those bytes -/
theorem parseRequestE_eq : parseRequestE bs len = orFail (parseSpec (bs.take len)) := by
  rw [parseRequestE, parseSpec, find_eq_search hlen 0 len [32] (by omega) (.inl nofun), List.drop_zero]
  cases hc1 : cut [32] (bs.take len) with
  | none => rw [cut_eq_none.1 hc1]; exact failParse_eq _ _ hlen
  | some x =>
    obtain ⟨method, r1⟩ := x
    obtain ⟨hs1, hb⟩ := cut_eq_some.1 hc1
    have hl := congrArg List.length hb
    simp only [List.length_take, Nat.min_eq_left hlen, List.length_append, List.length_cons, List.length_nil] at hl
    -- the bytes ahead: method SP r1
    have d0 : (bs.take len).drop 0 = method ++ ([32] ++ r1) := hb
    have d1 : (bs.take len).drop (method.length + 1) = r1 := drop_skip_at (drop_skip d0) (by simp)
    rw [hs1]
    simp only [Option.map_some, Nat.add_zero]
    rw [find_eq_search hlen (method.length + 1) _ [32] (by omega) (.inl nofun), d1]
    cases hc2 : cut [32] r1 with
    | none => rw [cut_eq_none.1 hc2]; exact failParse_eq _ _ hlen
    | some x =>
      obtain ⟨target, r2⟩ := x
      obtain ⟨hs2, rfl⟩ := cut_eq_some.1 hc2
      simp only [List.length_append, List.length_cons, List.length_nil] at hl
      -- r1 = target SP r2
      have d2 : (bs.take len).drop (target.length + (method.length + 1)) = 32 :: r2 :=
        drop_skip_at d1 (Nat.add_comm ..)
      rw [hs2]
      simp only [Option.map_some]
      rw [readRange_ahead hlen d0 (by omega) (by omega), readRange_ahead hlen d1 (by omega) (Nat.add_comm ..)]
      simp only []
      rw [show (if method ≠ CONNECT then normalize (target.takeWhile (· != 63)) else .ok target)
          = .ok (canonPath method target) by rw [normalize_eq_spec]; exact (apply_ite Except.ok ..).symm]
      simp only []
      rw [find_eq_search hlen _ _ CRLF (by omega) (.inl nofun), d2, search_cons (by simp [CRLF])]
      cases hc3 : cut CRLF r2 with
      | none =>
        rw [cut_eq_none.1 hc3]
        simp only [Option.map_none]
        rw [headerLoop_none, failParse_eq _ _ hlen]
        rfl
      | some x =>
        obtain ⟨version, r3⟩ := x
        obtain ⟨hs3, rfl⟩ := cut_eq_some.1 hc3
        rw [hs3]
        simp only [Option.map_some]
        rw [headerLoop_eq hlen r3 [] _ (drop_skip_at (l := 32 :: version) (r := CRLF ++ r3) d2 (by simp; omega))]
        cases headersSpec r3 [] <;> rfl

end

theorem parseRequest_eq {bs : Bytes} {len : Nat} (hlen : len ≤ bs.length) :
    parseRequest bs len = match parseSpec (bs.take len) with
      | some r => .ok r
      | none => .parseFailed := by
  rw [parseRequest, parseRequestE_eq hlen]
  cases parseSpec (bs.take len) <;> rfl

theorem headersSpec_line {rest line rest' name value : Bytes} (m : HMap) (h2 : rest.length ≠ 2)
    (hc : cut CRLF rest = some (line, rest')) (hv : cut [58] line = some (name, value)) :
    headersSpec rest m = headersSpec rest' (mapInsert (lowerCase (trimSpec name)) (trimSpec value) m) := by
  rw [headersSpec, if_neg h2]
  split <;> rename_i h <;> rw [hc] at h <;> cases h
  rw [hv]

theorem cut_byte {c : UInt8} {mid : Bytes} (post : Bytes) (h : c ∉ mid) : cut [c] (mid ++ ([c] ++ post)) = some (mid, post) :=
  cut_eq_some.2 ⟨by rw [search_byte_append _ (search_byte_none h), search_prefix (List.prefix_append ..)]; simp, rfl⟩

theorem cut_crlf {mid : Bytes} (post : Bytes) (h : hasCRLF mid = false) : cut CRLF (mid ++ (CRLF ++ post)) = some (mid, post) :=
  cut_eq_some.2 ⟨search_crlf mid post h, rfl⟩

theorem headersSpec_render : ∀ (hs : List (Bytes × Bytes)) (m : HMap),
    (∀ x ∈ hs, 58 ∉ x.1 ∧ hasCRLF x.1 = false ∧ hasCRLF x.2 = false) →
    headersSpec (renderHeaders hs ++ CRLF) m
      = some (hs.foldl (fun m h => mapInsert (lowerCase (trimSpec h.1)) (trimSpec h.2) m) m)
  | [], m, _ => by rw [headersSpec, if_pos (by rfl)]; rfl
  | (name, value) :: t, m, hok => by
    obtain ⟨hcolon, hname, hvalue⟩ := hok _ (List.mem_cons_self ..)
    have hr : renderHeaders ((name, value) :: t) ++ CRLF = (name ++ ([58] ++ value)) ++ (CRLF ++ (renderHeaders t ++ CRLF)) := by
      simp only [renderHeaders, List.append_assoc]
    rw [hr, headersSpec_line m (by simp [CRLF]; omega)
        (cut_crlf _ (hasCRLF_append _ _ hname (by rw [List.singleton_append, hasCRLF_cons_ne _ _ (by decide)]; exact hvalue)
          (by simp)))
        (cut_byte _ hcolon),
      headersSpec_render t _ (fun y hy => hok y (List.mem_cons_of_mem _ hy))]
    rfl

theorem parseSpec_render (r : RawRequest) (hwf : WellFormed r) : parseSpec (render r) = some (canon r) := by
  obtain ⟨method, target, version, hs⟩ := r
  obtain ⟨hm, ht, hv, hh⟩ := hwf
  have hr : render ⟨method, target, version, hs⟩
      = method ++ ([32] ++ (target ++ ([32] ++ (version ++ (CRLF ++ (renderHeaders hs ++ CRLF)))))) := by
    simp only [render, List.append_assoc]
  rw [parseSpec, hr, cut_byte _ hm]
  simp only []
  rw [cut_byte _ ht]
  simp only []
  rw [cut_crlf _ hv]
  simp only []
  rw [headersSpec_render hs [] hh]
  rfl

end SimVerif.Http
