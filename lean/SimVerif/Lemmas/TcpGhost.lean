/-
  SimVerif.Lemmas.TcpGhost — the ghost fields of the open system (StreamSys.lean) across a step:
  the start MSS never changes, the connection never reopens, end of file is reported once; with the
  list facts about `postsOf` and `TS.run` their users share.
-/
import SimVerif.Lemmas.TcpSysInv
namespace SimVerif

@[simp] theorem postsOf_nil : postsOf [] = [] := rfl
@[simp] theorem postsOf_append (a b : List NEff) : postsOf (a ++ b) = postsOf a ++ postsOf b := by
  induction a with
  | nil => rfl
  | cons e r ih => cases e <;> simp [postsOf, ih]

theorem TS.Move.ghost {c : TcpCfg} {l : TLbl} {s s' : TS} {eA eB : List NEff} (m : TS.Move c l s eA eB s') :
    s'.mss0 = s.mss0 ∧ (s.closed = true → s'.closed = true) ∧ ∀ k, s.eofAt = some k → s'.eofAt = some k := by
  induction m with
  | seq _ _ _ ih1 ih2 => exact ⟨ih2.1.trans ih1.1, ih2.2.1 ∘ ih1.2.1, fun k h => ih2.2.2 k (ih1.2.2 k h)⟩
  | dataArrive | read | readNb | waitRead =>
    rw [TS.note_eq]
    exact ⟨rfl, id, fun k h => (congrArg (eofNote · _ _) h).trans (eofNote_some ..)⟩
  | close => exact ⟨rfl, fun _ => rfl, fun _ h => h⟩
  | _ => exact ⟨rfl, id, fun _ h => h⟩

theorem TS.Move.closed {c : TcpCfg} {l : TLbl} {s s' : TS} {eA eB : List NEff} (m : TS.Move c l s eA eB s')
    (h : s'.closed = false) : s.closed = false :=
  Bool.eq_false_iff.mpr fun ht => Bool.eq_false_iff.mp h (m.ghost.2.1 ht)

theorem TS.step_mss0 (c : TcpCfg) (s : TS) (l : TLbl) : (s.step c l).mss0 = s.mss0 :=
  (TS.step_move c s l).ghost.1

theorem TS.run_mss0 (c : TcpCfg) (ls : List TLbl) : ∀ (s : TS), (TS.run c s ls).mss0 = s.mss0 := by
  induction ls with
  | nil => intro s; rfl
  | cons l rest ih => intro s; exact (ih (s.step c l)).trans (TS.step_mss0 c s l)

theorem TS.run_append (c : TcpCfg) (s : TS) (l1 l2 : List TLbl) :
    TS.run c s (l1 ++ l2) = TS.run c (TS.run c s l1) l2 := by
  simp [TS.run, List.foldl_append]

end SimVerif
