/-
  SimVerif.Lemmas.AcceptStep — every label of the open handshake system preserves the
  invariant (`HInv` + `HInv.work`), from the per-function summaries (Lemmas/TcpView.lean)
  and the update lemmas (Lemmas/AcceptInv.lean).
-/
import SimVerif.Lemmas.AcceptInv

namespace SimVerif
namespace Hs

structure HFull (s : HS) : Prop where
  inv  : HInv s
  work : HInv.work s

theorem isAcc_view {n : NetSt} {a : String} (h : n.isAcc a) : ∃ va ac, n.sv a = some va ∧ va.acc = some ac := by
  obtain ⟨sk, hs, hacc⟩ := h
  obtain ⟨ac, hac⟩ := Option.isSome_iff_exists.mp hacc
  exact ⟨sk.hview, ac, sv_of_tcp? hs, hac⟩

theorem isSock_view {n : NetSt} {o : String} (h : n.isSock o) : ∃ v, n.sv o = some v ∧ v.acc = none := by
  obtain ⟨sk, hs, hacc⟩ := h
  exact ⟨sk.hview, sv_of_tcp? hs, hacc⟩

theorem epochOf_of_sv {n : NetSt} {a : String} {va : SockV} (hva : n.sv a = some va) : n.epochOf a = va.fwd.getD 0 := by
  obtain ⟨s, hs, rfl⟩ := sv_some hva
  unfold NetSt.epochOf; rw [hs]; rfl

theorem boundOf_of_sv {n : NetSt} {a : String} {va : SockV} (hva : n.sv a = some va) : n.boundOf a = va.bound := by
  obtain ⟨s, hs, rfl⟩ := sv_some hva
  unfold NetSt.boundOf; rw [hs]; rfl

theorem pendingAccept_of_sv {n : NetSt} {a : String} {va : SockV} {ac : AccState}
    (hva : n.sv a = some va) (hac : va.acc = some ac) : n.pendingAccept a = ac.acceptOp := by
  obtain ⟨s0, hs0, hv0⟩ := sv_some hva
  have : s0.acc = some ac := by rw [← hac, ← hv0]; rfl
  simp [NetSt.pendingAccept, hs0, this]

theorem work_upd {s : HS} (hw : HInv.work s) (o : String) (v' : SockV) (n' : NetSt)
    (hsv : ∀ o', n'.sv o' = if o' = o then some v' else s.net.sv o')
    (hv' : ∀ ac, v'.acc = some ac → v'.isOpen = true → ac.acceptOp.isSome → ac.conns = [])
    (s' : HS) (hs' : s'.net = n') : HInv.work s' := by
  intro a va ac hva hac hop hpe
  rw [hs', hsv] at hva
  split at hva
  · cases hva; exact hv' ac hac hop hpe
  · exact hw a va ac hva hac hop hpe

theorem HInv.not_acc_of_chan {s : HS} (h : HInv s) (o : String) (v : SockV) (c : Nat)
    (hv : s.net.sv o = some v) (hc : v.chan = some c) : v.acc = none := by
  cases hacc : v.acc with
  | none => rfl
  | some ac => have := h.a_chan o v ac hv hacc; rw [hc] at this; cases this

theorem HInv.sameView {s : HS} (h : HInv s) (o : String) (v : SockV)
    (hv : s.net.sv o = some v) (n' : NetSt) (bag' : List Pkt)
    (hcfg : n'.cfg = s.net.cfg) (hfw : n'.fwds = s.net.fwds) (hch : n'.chans = s.net.chans)
    (hreg : n'.reg.tcp = s.net.reg.tcp) (hnp : 0 < n'.reg.nextPort) (hsv : ∀ o', n'.sv o' = s.net.sv o')
    (hbag : ∀ pk ∈ bag', pk ∈ s.bag ∨ (pk.ty ≠ .syn ∧ pk.ty ≠ .synack))
    (hbag1 : bag'.Pairwise (fun (p q : Pkt) => p.ty = PType.syn → q.ty = PType.syn → p.chan ≠ q.chan)) :
    HInv { s with net := n', bag := bag' } := by
  have := h.upd1 o v n' bag' [] (hcfg := hcfg) (hlen := by rw [hfw]; exact Nat.le_refl _) (hcl := by rw [hch])
    (hcv := fun c => by simp [NetSt.cv, NetSt.chan?, hch])
    (hsv := fun o' => by
      rw [hsv]; split
      · rename_i ho; rw [ho, hv]
      · rfl)
    (hreg1 := fun e he => by rw [hreg] at he; exact Or.inl he)
    (hreg3 := fun e he ho ac hac => by rw [hreg] at he; exact (h.reg_own e he v ac (by rw [ho]; exact hv) hac).symm)
    (hreg2 := fun k o' _ hl => by rw [hreg]; exact hl)
    (hnp := hnp) (hnd := fun e he => by rw [hreg] at he; exact h.reg_nodef e he)
    (hft := fun g => by
      simp only [hv, Option.bind_some, NetSt.fwdTarget, hfw]
      split
      · rename_i hg; exact (h.s_fwd o v g hv hg).2
      · rfl)
    (p1 := by simp [hv]) (p2 := fun hc => h.idle o v hv hc)
    (p3 := fun hc => by rw [hreg]; exact h.bound_reg o v hv hc)
    (p4 := fun c0 hc0 => ⟨v, hv, hc0, rfl, rfl, Or.inl rfl⟩)
    (p5 := Or.inl (by simp [hv])) (p6 := fun _ _ => by simp [hv]) (p7 := fun hop => h.o_fwd o v hv hop)
    (q1 := fun ac hac => h.a_chan o v ac hv hac) (q2 := fun ac hac hcl => h.a_closed o v ac hv hac hcl)
    (q3 := fun ac hac hq => h.a_lis o v ac hv hac hq)
    (q4 := fun ac hac hf => absurd (h.s_fwd o v _ hv hf).1 (Nat.lt_irrefl _))
    (q5 := fun v0 hv0 _ => by rw [hv] at hv0; cases hv0; exact Or.inl rfl)
    (hbag := hbag) (hbag1 := hbag1) (hx := Or.inl rfl)
  simp only [List.append_nil] at this
  exact this

theorem HFull.accSlot {s : HS} (h : HFull s) (a : String) (va : SockV) (ac ac' : AccState) (s1 : TcpSock)
    (hva : s.net.sv a = some va) (hac : va.acc = some ac)
    (hs1 : s1.hview = { va with acc := some ac' })
    (hconns : ac'.conns = ac.conns)
    (hop : ac'.acceptOp = ac.acceptOp ∨ ac'.acceptOp = none)
    (hql : va.isOpen = false → ac'.queueLimit ≤ 0)
    (hlis : 0 < ac'.queueLimit → va.bound.isDefault = false)
    (bag' : List Pkt) (hbag : ∀ pk ∈ bag', pk ∈ s.bag)
    (hbag1 : bag'.Pairwise (fun (p q : Pkt) => p.ty = PType.syn → q.ty = PType.syn → p.chan ≠ q.chan)) :
    HFull { s with net := s.net.setTcp a s1, bag := bag' } := by
  have hsv : ∀ o, (s.net.setTcp a s1).sv o = if o = a then some { va with acc := some ac' } else s.net.sv o :=
    fun o => by rw [sv_setTcp, hs1]
  have := h.inv.updA a va ac ac' hva hac s1 hs1 bag' s.synLog s.accCalls (hql := hql) (hlis := hlis)
    (hfifo := fun f hf => by rw [hconns]; exact h.inv.fifo a va ac f hva hac hf) (hfifo2 := fun _ _ => rfl)
    (hpend := fun op hop' => by
      rcases hop with ho | ho
      · rw [ho] at hop'; exact h.inv.pend a va ac op hva hac hop'
      · rw [ho] at hop'; cases hop')
    (hcalls := fun _ => Nat.le_refl _) (hcalls2 := fun _ _ => rfl)
    (hsyn1 := h.inv.syn_lt) (hsyn2 := h.inv.syn_nd) (hsyn3 := h.inv.syn_ep) (hbag := fun _ hp => Or.inl (hbag _ hp))
    (hbag1 := hbag1) (hbag2 := h.inv.syn_fresh fun _ hp => Or.inl (hbag _ hp))
  refine ⟨this, ?_⟩
  apply work_upd h.work a { va with acc := some ac' } _ hsv _ _ rfl
  intro ac1 hac1 hopn hpe
  simp only [Option.some.injEq] at hac1; subst hac1
  rw [hconns]
  rcases hop with ho | ho
  · rw [ho] at hpe; exact h.work a va ac hva hac hopn hpe
  · rw [ho] at hpe; cases hpe

theorem HFull.listen {s : HS} (h : HFull s) (a : String) (qs : Int) (hok : s.net.isAcc a) :
    HFull { s with net := (s.net.accListen a qs).1 } := by
  obtain ⟨va, ac, hva, hac⟩ := isAcc_view hok
  obtain ⟨s0, hs0, rfl⟩ := sv_some hva
  rcases accListen_cases hs0 qs with e | ⟨a1, ho, hb, ha, e⟩ <;> rw [e]
  · exact h
  · cases ha.symm.trans hac
    exact h.accSlot a _ ac { ac with queueLimit := if qs = -1 then 20 else qs } _ hva hac rfl rfl (Or.inl rfl)
      (fun hc => by cases ho.symm.trans hc) (fun _ => hb) s.bag (fun _ hp => hp) h.inv.b_syn1

/-- the outstanding accept, if any, is aborted: `acceptor::cancel`, an error packet at the acceptor -/
theorem HFull.abortAccept {s : HS} (h : HFull s) (a : String) (s0 : TcpSock) (hs0 : s.net.tcp? a = some s0)
    (hacc : s0.acc.isSome) (bag' : List Pkt) (hbag : ∀ pk ∈ bag', pk ∈ s.bag)
    (hbag1 : bag'.Pairwise (fun (p q : Pkt) => p.ty = PType.syn → q.ty = PType.syn → p.chan ≠ q.chan)) :
    HFull { s with net := s.net.setTcp a s0.abortAccept.1, bag := bag' ++ fwdPkts s0.abortAccept.2 } := by
  obtain ⟨va, ac, hva, hac⟩ := isAcc_view ⟨s0, hs0, hacc⟩
  have hv0 : s0.hview = va := by
    have := hva; rw [NetSt.sv, hs0] at this; exact Option.some.inj this
  have hs0acc : s0.acc = some ac := by rw [← hac, ← hv0]; rfl
  obtain ⟨b1, _, b3⟩ := abortAccept_sum s0
  rw [b3, List.append_nil]
  exact h.accSlot a va ac { ac with acceptOp := none } _ hva hac
    (by rw [b1, hv0, hs0acc]; rfl) rfl (Or.inr rfl)
    (fun hc => (h.inv.a_closed a va ac hva hac hc).1) (fun hq => h.inv.a_lis a va ac hva hac hq)
    bag' hbag hbag1

theorem HFull.cancelAcc {s : HS} (h : HFull s) (a : String) (hok : s.net.isAcc a) :
    HFull { s with net := (s.net.accCancel a).1, bag := s.bag ++ fwdPkts (s.net.accCancel a).2 } := by
  obtain ⟨s0, hs0, hacc⟩ := hok
  rw [accCancel_eq s.net a s0 hs0]
  exact h.abortAccept a s0 hs0 hacc s.bag (fun _ hp => hp) h.inv.b_syn1

theorem HFull.deliverErr {s : HS} (h : HFull s) (i : Nat) (a : String) (tp : TParams)
    (hok : s.ok (.deliverErr i a)) : HFull (s.step tp (.deliverErr i a)) := by
  obtain ⟨⟨s0, hs0, hacc⟩, pk, hi, hty, _⟩ := hok
  simp only [HS.step, hi]
  rw [accIncoming_err s.net s.now a pk s0 hs0 hty]
  exact h.abortAccept a s0 hs0 hacc (s.bag.eraseIdx i) (fun _ hp => List.mem_of_mem_eraseIdx hp)
    (h.inv.b_syn1.eraseIdx i)

theorem HInv.no_own_entry {s : HS} (h : HInv s) (o : String) (v : SockV) (ac : AccState)
    (hv : s.net.sv o = some v) (hac : v.acc = some ac) (tbl' : List (Ep × String))
    (hreg : tbl' = (if v.bound.isDefault then s.net.reg.tcp else simUnbind s.net.reg.tcp o v.bound))
    (e : Ep × String) (he : e ∈ tbl') (ho : e.2 = o) : e.1 = ({} : Ep) := by
  have hb := h.reg_own e ((reg_after_unbind hreg).1 e he) v ac (by rw [ho]; exact hv) hac
  rw [hreg] at he
  split at he
  · rename_i hd; rw [← hb]
    cases hvb : v.bound with
    | mk ad po => rw [hvb] at hd; simp [Ep.isDefault] at hd; rw [hd.1, hd.2]
  · exact absurd ⟨hb.symm, ho⟩ ((mem_simUnbind _ _ _ _).mp he).2

/-- **A socket is reset**: `close` (`w = none`) or `open` (`w` the next fresh forwarder) — the
    user's, the one inside `acceptor::close` / `open` on an acceptor that no longer listens, inside
    `async_connect`, or on the socket `async_accept` accepts into; `extra` is the connect it aborts,
    if that is to be logged -/
theorem HInv.reset {s : HS} (h : HInv s) {o : String} {v : SockV} (hv : s.net.sv o = some v) (w : Option Nat)
    {r : NetSt × List NEff} (t : Reset s.net r o v ⟨w.isSome, {}, w, none, none, v.acc⟩)
    (hq : ∀ ac, v.acc = some ac → ac.queueLimit ≤ 0 ∧ (w.isSome → ac.conns = [])) (extra : List ConDone)
    (hx : extra = [] ∨ ∃ c hh k, v.chan = some c ∧ v.connectH = some hh ∧ extra = [k]
            ∧ k.cid = some c ∧ k.sock = o ∧ (k.ec = .ok → ∃ e ∈ s.accLog, e.cid = some c)) :
    HInv { s with net := r.1, bag := s.bag ++ fwdPkts r.2, conLog := s.conLog ++ extra } := by
  obtain ⟨hregm, hregl⟩ := reg_after_unbind t.reg
  obtain ⟨hb1, hb2⟩ := h.bag_errs t.errs
  -- the forwarder it had is not the fresh one
  have hnf : v.fwd ≠ some s.net.fwds.length := fun e => Nat.lt_irrefl _ (h.s_fwd o v _ hv e).1
  exact h.upd1 o _ r.1 _ extra
    (hcfg := t.cfg) (hlen := by rw [t.fl]; exact Nat.le_add_right _ _) (hcl := t.cl) (hcv := t.cv) (hsv := t.sv)
    (hreg1 := fun e he => Or.inl (hregm e he))
    (hreg3 := fun e he ho ac hac => h.no_own_entry o v ac hv hac _ t.reg e he ho)
    (hreg2 := hregl) (hnp := by rw [t.np]; exact h.np_pos) (hnd := fun e he => h.reg_nodef e (hregm e he))
    (hft := fun g => by rw [t.ft g, hv]; rfl)
    (p1 := by rw [hv]; rfl) (p2 := fun _ => rfl) (p3 := fun _ => Or.inl rfl) (p4 := nofun)
    (p5 := Or.inr (t.fresh.imp id fun e => ⟨e, by rw [t.fl, e]; exact Nat.lt_succ_self _⟩))
    (p6 := fun e hs => by
      rcases t.fresh with e0 | e0
      · rw [e0] at hs; cases hs
      · rw [hv] at e; exact absurd (e.symm.trans e0) hnf)
    (p7 := id) (q1 := fun _ _ => rfl)
    (q2 := fun ac hac hc => ⟨(hq ac hac).1, by cases w with | none => rfl | some _ => cases hc⟩)
    (q3 := fun ac hac hql => absurd hql (Int.not_lt.mpr (hq ac hac).1))
    (q4 := fun ac hac e => (hq ac hac).2 (Option.isSome_iff_exists.mpr ⟨_, e⟩))
    (q5 := fun _ _ _ => .inr fun d hd e' => by
      have hlt := (h.dial_lt d hd).1
      rcases t.fresh with e0 | e0 <;> rw [e0] at e'
      · cases e'
      · rw [← Option.some.inj e'] at hlt; exact Nat.lt_irrefl _ hlt)
    (hbag := hb1) (hbag1 := hb2)
    (hx := hx.imp id fun ⟨c, hh, k, x1, x2, x3, x4, x5, x6⟩ => ⟨v, c, hh, k, hv, x1, x2, x3, x4, x5, x6, nofun⟩)

/-- `bind` succeeded: the explicit call, or the implicit one of `async_connect` -/
theorem HInv.bindSock {s : HS} (h : HInv s) (o : String) (v : SockV) (hv : s.net.sv o = some v)
    (hvch : v.chan = none) (hdef : ∀ ac, v.acc = some ac → v.bound.isDefault = true)
    (ep2 : Ep) (hfree : s.net.reg.tcp.lookup ep2 = none) (hnd : ep2.isDefault = false)
    (n' : NetSt) (hcfg : n'.cfg = s.net.cfg) (hfw : n'.fwds = s.net.fwds) (hch : n'.chans = s.net.chans)
    (hnp : 0 < n'.reg.nextPort) (hreg : n'.reg.tcp = s.net.reg.tcp ++ [(ep2, o)])
    (hsv : ∀ o', n'.sv o' = if o' = o then some { v with bound := ep2 } else s.net.sv o') :
    HInv { s with net := n' } := by
  have hmem : ∀ e ∈ n'.reg.tcp, e ∈ s.net.reg.tcp ∨ e = (ep2, o) := by
    intro e he; rw [hreg] at he
    exact (List.mem_append.mp he).imp id List.mem_singleton.mp
  have := h.upd1 o { v with bound := ep2 } n' s.bag [] (hcfg := hcfg) (hlen := by rw [hfw]; exact Nat.le_refl _)
    (hcl := by rw [hch]) (hcv := fun d => by simp [NetSt.cv, NetSt.chan?, hch]) (hsv := hsv)
    (hreg1 := fun e he => (hmem e he).imp id (fun he => by rw [he]))
    (hreg3 := fun e he ho ac hac => by
      rcases hmem e he with he | he
      · -- no older entry of an acceptor: it was unbound, and the registry never holds `0.0.0.0:0`
        have hb := h.reg_own e he v ac (by rw [ho]; exact hv) hac
        have := h.reg_nodef e he
        rw [← hb, hdef ac hac] at this; cases this
      · rw [he])
    (hreg2 := fun k o' _ hl => by rw [hreg, List.lookup_append, hl]; rfl)
    (hnp := hnp)
    (hnd := fun e he => by
      rcases hmem e he with he | he
      · exact h.reg_nodef e he
      · rw [he]; exact hnd)
    (hft := fun g => by
      simp only [hv, Option.bind_some, NetSt.fwdTarget, hfw]
      split
      · rename_i hg; exact (h.s_fwd o v g hv hg).2
      · rfl)
    (p1 := by simp [hv]) (p2 := fun _ => h.idle o v hv hvch)
    (p3 := fun _ => Or.inr (by rw [hreg, List.lookup_append, hfree]; simp))
    (p4 := fun c0 hc0 => by simp only at hc0; rw [hvch] at hc0; cases hc0)
    (p5 := Or.inl (by simp [hv])) (p6 := fun _ _ => by simp [hv]) (p7 := fun hop => h.o_fwd o v hv hop)
    (q1 := fun _ _ => hvch) (q2 := fun ac hac hcl => h.a_closed o v ac hv hac hcl) (q3 := fun _ _ _ => hnd)
    (q4 := fun ac hac hf => absurd (h.s_fwd o v _ hv hf).1 (Nat.lt_irrefl _))
    (q5 := fun v0 _ _ => by
      right; intro d hd hdf
      obtain ⟨_, hb, hacc⟩ := h.d_acc d hd o v hv hdf
      obtain ⟨ac, hac⟩ := Option.isSome_iff_exists.mp hacc
      have ht := (h.dial_lt d hd).2.1
      rw [← hb, hdef ac hac] at ht; cases ht)
    (hbag := fun _ hp => Or.inl hp) (hbag1 := h.b_syn1) (hx := Or.inl rfl)
  simpa only [List.append_nil] using this

/-- a bind attempt — the explicit call or the implicit one of `async_connect` —: the socket comes out
    bound to some `ep'` (what it was bound to, if nothing was registered) and nothing else changes -/
theorem HInv.bound {s : HS} (h : HInv s) {o : String} {s0 : TcpSock} (hs0 : s.net.tcp? o = some s0)
    (hc : s0.chan = none) {r : NetSt × Ec} (b : Bound s.net r o s0)
    (hdef : ∀ ep2 ac, r.1.reg.tcp = s.net.reg.tcp ++ [(ep2, o)] → s0.acc = some ac → s0.bound.isDefault = true) :
    HInv { s with net := r.1 }
    ∧ ∃ ep', ∀ o', r.1.sv o' = if o' = o then some { s0.hview with bound := ep' } else s.net.sv o' := by
  have hv := sv_of_tcp? hs0
  rcases b.reg with ⟨r1, r2⟩ | ⟨_, ep2, r1, hnd, r2, r3⟩
  · have hsv : ∀ o', r.1.sv o' = s.net.sv o' := fun o' => by simp [NetSt.sv, r2 o']
    refine ⟨h.sameView o _ hv _ s.bag b.cfg b.fwds b.chans r1 b.np hsv (fun _ hp => Or.inl hp) h.b_syn1, s0.bound, fun o' => ?_⟩
    rw [hsv]; split
    · rename_i ho; rw [ho]; exact hv
    · rfl
  · have hsv : ∀ o', r.1.sv o' = if o' = o then some { s0.hview with bound := ep2 } else s.net.sv o' := by
      intro o'; simp only [NetSt.sv, r3 o']; split <;> rfl
    exact ⟨h.bindSock o _ hv hc (fun ac hac => hdef ep2 ac r2 hac) ep2 r1 hnd _ b.cfg b.fwds b.chans b.np r2 hsv, ep2, hsv⟩

theorem HFull.bind {s : HS} (h : HFull s) (a : String) (ep : Ep)
    (hok : ∃ sk, s.net.tcp? a = some sk ∧ sk.chan = none) :
    HFull { s with net := (s.net.tcpBind a ep).1 } := by
  obtain ⟨s0, hs0, hs0c⟩ := hok
  obtain ⟨b, hdef⟩ := tcpBind_sum s.net a ep s0 hs0 h.inv.np_pos
  obtain ⟨hi, ep', hsv⟩ := h.inv.bound hs0 hs0c b fun ep2 _ e _ => hdef ep2 e
  exact ⟨hi, work_upd h.work a _ _ hsv (h.work a s0.hview · (sv_of_tcp? hs0)) _ rfl⟩

theorem HFull.natRewrite {s : HS} (h : HFull s) (i : Nat) (ext : String) (tp : TParams) :
    HFull (s.step tp (.natRewrite i ext)) := by
  simp only [HS.step]
  split
  · exact h
  · rename_i pk hi
    by_cases hty : pk.ty = .syn
    · obtain ⟨c, cv0, q1, q2, q3, _⟩ := h.inv.b_syn pk (List.mem_of_getElem? hi) hty
      obtain ⟨ch, hch, -⟩ := cv_some q2
      rw [natApply_snd_syn ext pk s.net.chans c ch hty q1 hch, natApply_fst]
      simp only [hty, if_true, q1, Option.toList_some, List.map_cons, List.map_nil]
      -- the new table is `setChan c …` of the old one
      exact ⟨HInv.bagSet (h.inv.visRw c ext ch hch q3) i pk _ hi hty.symm q1.symm rfl,
        h.work⟩
    · rw [natApply_snd_nonsyn ext pk s.net.chans hty, natApply_fst]
      simp only [hty, if_false, List.append_nil]
      have h2 := h.inv.bagSet i pk { pk with src := SimVerif.natRewrite pk.src ext } hi rfl rfl rfl
      exact ⟨h2, h.work⟩

theorem pendAbort_cases (n : NetSt) (o : String) (v : SockV) (hv : n.sv o = some v) :
    (v.connectH = none ∧ pendAbort n o = [])
    ∨ (∃ hh, v.connectH = some hh ∧ pendAbort n o = [{ sock := o, h := hh, ec := .aborted, cid := v.chan }]) := by
  obtain ⟨s0, hs0, hv0⟩ := sv_some hv
  have e1 : s0.connectH = v.connectH := congrArg SockV.connectH hv0
  have e2 : s0.chan = v.chan := congrArg SockV.chan hv0
  unfold pendAbort
  simp only [hs0]
  cases hc : v.connectH with
  | none => left; rw [e1, hc]; exact ⟨rfl, rfl⟩
  | some hh => right; rw [e1, hc, e2]; exact ⟨hh, rfl, rfl⟩

/-- the connect a user `cancel` / `close` aborts, as the update lemmas want it -/
theorem HInv.pendAbort_ok {s : HS} (h : HInv s) (o : String) (v : SockV) (hv : s.net.sv o = some v) :
    pendAbort s.net o = [] ∨ ∃ c hh k, v.chan = some c ∧ v.connectH = some hh ∧ pendAbort s.net o = [k]
            ∧ k.cid = some c ∧ k.sock = o ∧ (k.ec = .ok → ∃ e ∈ s.accLog, e.cid = some c) := by
  rcases pendAbort_cases s.net o v hv with ⟨_, h2⟩ | ⟨hh, h1, h2⟩
  · exact Or.inl h2
  · right
    cases hc : v.chan with
    | none => have := h.idle o v hv hc; rw [h1] at this; cases this
    | some c => exact ⟨c, hh, _, rfl, h1, by rw [h2, hc], rfl, rfl, fun hx => by cases hx⟩

/-- a socket's pending connect is completed — with success by its SYN-ACK, with
    operation_aborted by `cancel` —, or it had none; nothing else of it changes -/
theorem HFull.clearConnect {s : HS} (h : HFull s) (o : String) (v : SockV) (hv : s.net.sv o = some v)
    (hvacc : v.acc = none) (t : TcpSock) (ht : t.hview = { v with connectH := none })
    (bag' : List Pkt) (extra : List ConDone) (hbag : ∀ pk ∈ bag', pk ∈ s.bag)
    (hbag1 : bag'.Pairwise (fun (p q : Pkt) => p.ty = PType.syn → q.ty = PType.syn → p.chan ≠ q.chan))
    (hx : extra = [] ∨ ∃ c hh k, v.chan = some c ∧ v.connectH = some hh ∧ extra = [k]
            ∧ k.cid = some c ∧ k.sock = o ∧ (k.ec = .ok → ∃ e ∈ s.accLog, e.cid = some c)) :
    HFull { s with net := s.net.setTcp o t, bag := bag', conLog := s.conLog ++ extra } := by
  have hsv : ∀ o', (s.net.setTcp o t).sv o' = if o' = o then some { v with connectH := none } else s.net.sv o' := by
    intro o'; rw [sv_setTcp, ht]
  have hna : ∀ ac, v.acc ≠ some ac := fun ac hac => by rw [hvacc] at hac; cases hac
  refine ⟨h.inv.upd1 o { v with connectH := none } (s.net.setTcp o t) bag' extra
    (hcfg := rfl) (hlen := Nat.le_refl _) (hcl := rfl) (hcv := fun _ => rfl) (hsv := hsv) (hreg1 := fun e he => Or.inl he)
    (hreg3 := fun e he ho ac hac => absurd hac (hna ac)) (hreg2 := fun _ _ _ hl => hl) (hnp := h.inv.np_pos) (hnd := h.inv.reg_nodef)
    (hft := fun g => by
      simp only [hv, Option.bind_some, fwdTarget_setTcp]
      split
      · rename_i hg; exact (h.inv.s_fwd o v g hv hg).2
      · rfl)
    (p1 := by simp [hv]) (p2 := fun _ => rfl) (p3 := fun hc => h.inv.bound_reg o v hv hc)
    (p4 := fun c1 hc1 => ⟨v, hv, hc1, rfl, rfl, Or.inr rfl⟩)
    (p5 := Or.inl (by simp [hv])) (p6 := fun _ _ => by simp [hv]) (p7 := fun hop => h.inv.o_fwd o v hv hop)
    (q1 := fun ac hac => absurd hac (hna ac)) (q2 := fun ac hac => absurd hac (hna ac)) (q3 := fun ac hac => absurd hac (hna ac))
    (q4 := fun ac hac => absurd hac (hna ac))
    (q5 := fun v0 hv0 _ => by rw [hv] at hv0; cases hv0; exact Or.inl rfl)
    (hbag := fun pk hp => Or.inl (hbag pk hp)) (hbag1 := hbag1)
    (hx := hx.imp id (fun ⟨c, hh, k, x1, x2, x3, x4, x5, x6⟩ => ⟨v, c, hh, k, hv, x1, x2, x3, x4, x5, x6, fun _ => rfl⟩)), ?_⟩
  apply work_upd h.work o _ _ hsv _ _ rfl
  intro ac hac; exact absurd hac (hna ac)

theorem HFull.deliverSynAck {s : HS} (h : HFull s) (i : Nat) (c : String) (tp : TParams)
    (hok : s.ok (.deliverSynAck i c)) : HFull (s.step tp (.deliverSynAck i c)) := by
  obtain ⟨pk, hi, hty, f, hlast, hft0⟩ := hok
  obtain ⟨v, hv, hvf⟩ := h.inv.f_own f c hft0
  obtain ⟨s0, hs0, rfl⟩ := sv_some hv
  simp only [HS.step, hi]
  rw [tcpIncoming_synack hs0 tp s.now pk hty]
  cases hch : s0.connectH with
  | none =>
    simp only [fwdPkts_nil, okPosts_nil, List.map_nil, List.append_nil]
    exact ⟨h.inv.sameView c _ hv s.net (s.bag.eraseIdx i) rfl rfl rfl rfl h.inv.np_pos (fun _ => rfl)
      (fun q hq => Or.inl (List.mem_of_mem_eraseIdx hq)) (h.inv.b_syn1.eraseIdx i), h.work⟩
  | some hh =>
    simp only [show fwdPkts [NEff.post { h := hh, ec := Ec.ok }, NEff.tcpWake c] = [] from rfl,
      show okPosts [NEff.post { h := hh, ec := Ec.ok }, NEff.tcpWake c] = [{ h := hh, ec := Ec.ok }] from rfl,
      List.map_cons, List.map_nil, hs0, Option.bind_some, List.append_nil]
    -- the SYN-ACK belongs to the channel this socket dialled, and that channel was accepted
    obtain ⟨c0, cv, q1, q2, q3, e, he', q4⟩ := h.inv.b_ack pk (List.mem_of_getElem? hi) hty
    have hlt : c0 < s.dialLog.length := by rw [h.inv.dial_len]; exact cv_lt q2
    have hd : s.dialLog[c0]? = some s.dialLog[c0] := List.getElem?_eq_getElem hlt
    obtain ⟨f0, k⟩ := h.inv.chan q2 hd
    have hff : f = f0 := by
      rw [q3, k.hops0, List.getLast?_append, List.getLast?_singleton] at hlast
      simp at hlast; exact (fwdHop_inj hlast).symm
    subst hff
    have hvc : s0.hview.chan = some c0 := by
      rw [h.inv.d_live _ (List.getElem_mem hlt) c _ f hv hvf k.fwd, k.cid]
    exact h.clearConnect c _ hv (h.inv.not_acc_of_chan c _ c0 hv hvc) _ rfl _ _
      (fun q hq => List.mem_of_mem_eraseIdx hq) (h.inv.b_syn1.eraseIdx i)
      (Or.inr ⟨c0, hh, _, hvc, hch, rfl, hvc, rfl, fun _ => ⟨e, he', q4⟩⟩)

theorem HFull.resetSock {s : HS} (h : HFull s) {o : String} {v : SockV} (hv : s.net.sv o = some v) (hvacc : v.acc = none)
    (w : Option Nat) {r : NetSt × List NEff} (t : Reset s.net r o v ⟨w.isSome, {}, w, none, none, v.acc⟩) :
    HFull { s with net := r.1, bag := s.bag ++ fwdPkts r.2, conLog := s.conLog ++ pendAbort s.net o } :=
  have hna : ∀ ac, v.acc ≠ some ac := fun _ e => by rw [hvacc] at e; cases e
  ⟨h.inv.reset hv w t (fun ac hac => absurd hac (hna ac)) _ (h.inv.pendAbort_ok o v hv),
   work_upd h.work o _ _ t.sv (fun ac hac => absurd hac (hna ac)) _ rfl⟩

theorem HFull.close {s : HS} (h : HFull s) (o : String) (tp : TParams) (hok : s.net.isSock o) :
    HFull (s.step tp (.close o)) := by
  obtain ⟨v, hv, hvacc⟩ := isSock_view hok
  exact h.resetSock hv hvacc none (tcpClose_sum s.net s.now o v hv)

theorem HFull.openSock {s : HS} (h : HFull s) (o : String) (v4 : Bool) (tp : TParams) (hok : s.net.isSock o) :
    HFull (s.step tp (.openSock o v4)) := by
  obtain ⟨v, hv, hvacc⟩ := isSock_view hok
  exact h.resetSock hv hvacc (some s.net.fwds.length) (tcpOpen_sum s.net s.now o v4 v hv)

theorem HFull.cancel {s : HS} (h : HFull s) (o : String) (tp : TParams) (hok : s.net.isSock o) :
    HFull (s.step tp (.cancel o)) := by
  obtain ⟨v, hv, hvacc⟩ := isSock_view hok
  obtain ⟨s0, hs0, rfl⟩ := sv_some hv
  simp only [HS.step]
  rw [tcpCancel_eq s.net o s0 hs0, (aborts_cancel s0).posts.fwdPkts, List.append_nil]
  exact h.clearConnect o _ hv hvacc _ (by rw [TcpSock.cancel_eq]; rfl) s.bag _ (fun _ hp => hp) h.inv.b_syn1
    (h.inv.pendAbort_ok o _ hv)

/-! `check_accept_queue`: the second half of `deliverSyn` and of `accept` -/

theorem HInv.check {s : HS} (h : HInv s) (a : String) (hacc : s.net.isAcc a)
    (hw : ∀ a1 va1 ac1, a1 ≠ a → s.net.sv a1 = some va1 → va1.acc = some ac1 → va1.isOpen = true →
            ac1.acceptOp.isSome → ac1.conns = []) :
    HFull { s with net := (s.net.accCheckQueue s.now a).1,
                   bag := s.bag ++ fwdPkts (s.net.accCheckQueue s.now a).2,
                   accLog := s.accLog ++ accDones a (s.net.epochOf a) (s.net.boundOf a) (s.accCalls a - 1)
                                (s.net.pendingAccept a)
                                (s.net.accCheckQueue s.now a).1 (s.net.accCheckQueue s.now a).2 } := by
  obtain ⟨va, ac, hva, hac⟩ := isAcc_view hacc
  have hvch := h.a_chan a va ac hva hac
  rw [pendingAccept_of_sv hva hac]
  have hwork : ∀ (n' : NetSt) (v' : SockV), (∀ o', o' ≠ a → n'.sv o' = s.net.sv o' ∨ ∃ v1, n'.sv o' = some v1 ∧ v1.acc = none) →
      n'.sv a = some v' → (∀ ac1, v'.acc = some ac1 → v'.isOpen = true → ac1.acceptOp.isSome → ac1.conns = []) →
      ∀ s' : HS, s'.net = n' → HInv.work s' := by
    intro n' v' ho ha hv' s' hs' a1 va1 ac1 hva1 hac1 hop1 hpe1
    rw [hs'] at hva1
    by_cases h1 : a1 = a
    · subst h1; rw [ha] at hva1; cases hva1; exact hv' ac1 hac1 hop1 hpe1
    · rcases ho a1 h1 with h2 | ⟨v1, h2, h3⟩
      · rw [h2] at hva1; exact hw a1 va1 ac1 h1 hva1 hac1 hop1 hpe1
      · rw [h2] at hva1; cases hva1; rw [h3] at hac1; cases hac1
  cases hopen : va.isOpen with
  | false =>
    obtain ⟨t, e, c1, c5, c6, c7⟩ := accCheckQueue_closed_sum s.net s.now a va ac hva hac hopen
    rw [c1]
    simp only [accDones, c6, List.map_nil, List.append_nil]
    have hfn : va.fwd = none := (h.a_closed a va ac hva hac hopen).2
    have := h.updA a va ac { ac with conns := [], acceptOp := none } hva hac t c5 (s.bag ++ fwdPkts e) s.synLog s.accCalls
      (hql := fun hc => (h.a_closed a va ac hva hac hc).1) (hlis := fun hq => h.a_lis a va ac hva hac hq)
      (hfifo := fun f hf => by rw [hfn] at hf; cases hf) (hfifo2 := fun _ _ => rfl)
      (hpend := fun op hop => by cases hop) (hcalls := fun _ => Nat.le_refl _) (hcalls2 := fun _ _ => rfl)
      (hsyn1 := h.syn_lt) (hsyn2 := h.syn_nd) (hsyn3 := h.syn_ep) (hbag := (h.bag_errs c7).1) (hbag1 := (h.bag_errs c7).2)
      (hbag2 := h.syn_fresh (h.bag_errs c7).1)
    refine ⟨this, hwork _ _ (fun o' ho' => Or.inl (by rw [sv_setTcp, if_neg ho'])) (by rw [sv_setTcp, if_pos rfl, c5]) ?_ _ rfl⟩
    intro ac1 _ hop1 _
    simp only at hop1; rw [hopen] at hop1; cases hop1
  | true =>
    by_cases hidle : ac.acceptOp = none ∨ ac.conns = []
    · rw [accCheckQueue_idle s.net s.now a va ac hva hac hopen hidle]
      simp only [fwdPkts_nil, List.append_nil, accDones, okPosts_nil, List.map_nil]
      refine ⟨h, hwork s.net va (fun _ _ => Or.inl rfl) hva ?_ _ rfl⟩
      intro ac1 hac1 _ hpe
      rw [hac] at hac1; cases hac1
      rcases hidle with hi | hi
      · rw [hi] at hpe; cases hpe
      · exact hi
    · obtain ⟨op, hop⟩ := Option.ne_none_iff_exists'.mp fun e => hidle (.inl e)
      obtain ⟨c, rest, hcs⟩ := List.exists_cons_of_ne_nil fun e => hidle (.inr e)
      obtain ⟨⟨vp, hvp, hvpa⟩, _, _⟩ := h.pend a va ac op hva hac hop
      have hpa : op.peer ≠ a := by
        intro hh; rw [hh, hva] at hvp; cases hvp; rw [hac] at hvpa; cases hvpa
      obtain ⟨f, hvf⟩ := Option.isSome_iff_exists.mp (h.o_fwd a va hva hopen)
      have hclt : c < s.net.chans.length :=
        (h.syn_lt _ (h.queued_syn a va ac f c hva hac hvf (by rw [hcs]; simp))).1
      obtain ⟨cv0, hcv0⟩ := cv_of_lt hclt
      have t := accCheckQueue_pop s.net s.now a va ac op c rest vp cv0 hva hac hopen hop hcs hpa hvp hcv0
      obtain ⟨sp, hsp, hspv⟩ := sv_some ((t.sv op.peer).trans (if_pos rfl))
      simp only [accDones, t.posts, List.map_cons, List.map_nil, hop, Option.bind_some, hsp,
        show sp.chan = some c from congrArg SockV.chan hspv, show sp.fwd = _ from congrArg SockV.fwd hspv,
        epochOf_of_sv hva, hvf, Option.getD_some, boundOf_of_sv hva]
      refine ⟨h.attach a va ac op c rest vp cv0 f hva hac hopen hvf hop hcs hvp hvpa hcv0 _ _ _ t.cfg t.fl t.cl t.reg
        (by rw [accCheckQueue_np]; exact h.np_pos) t.sv t.cv t.ft rfl t.fwds,
        hwork _ _ ?_ (by rw [t.sv a, if_neg (Ne.symm hpa), if_pos rfl]) ?_ _ rfl⟩
      · intro o' ho'
        by_cases hp : o' = op.peer
        · exact Or.inr ⟨_, (t.sv o').trans (if_pos hp), hvpa⟩
        · exact Or.inl (by rw [t.sv o', if_neg hp, if_neg ho'])
      · intro ac1 hac1 _ hpe1
        cases hac1; cases hpe1

/-! `acceptor::close`: stop listening and abort the accept, close the socket (the listening epoch
is over), reset what is still queued — the stages of `NetSt.accClose`, each with the invariant in
between; `acceptor::open`: close, then open (a new epoch) -/

theorem HFull.closeAcceptor {s : HS} (h : HFull s) (a : String) (hok : s.net.isAcc a) :
    HFull { s with net := (s.net.accClose s.now a).1, bag := s.bag ++ fwdPkts (s.net.accClose s.now a).2 } := by
  obtain ⟨va, ac, hva, hac⟩ := isAcc_view hok
  obtain ⟨s0, hs0, hv0⟩ := sv_some hva
  have hs0acc : s0.acc = some ac := by rw [← hac, ← hv0]; rfl
  unfold NetSt.accClose
  simp only [hs0, hs0acc]
  obtain ⟨b1, _, b3⟩ := abortAccept_sum { s0 with acc := some { ac with queueLimit := -1 } }
  generalize ({ s0 with acc := some { ac with queueLimit := -1 } } : TcpSock).abortAccept = ab at *
  obtain ⟨s1, e1⟩ := ab
  simp only at b1 b3 ⊢
  have hs1 : s1.hview = { va with acc := some { ac with queueLimit := -1, acceptOp := none } } := by rw [b1, ← hv0]; rfl
  have h1 := h.accSlot a va ac { ac with queueLimit := -1, acceptOp := none } s1 hva hac hs1 rfl (Or.inr rfl)
    (fun _ => by show (-1 : Int) ≤ 0; omega) (fun hq => by simp only at hq; omega) s.bag (fun _ hp => hp) h.inv.b_syn1
  have hv1 : (s.net.setTcp a s1).sv a = some { va with acc := some { ac with queueLimit := -1, acceptOp := none } } := by
    rw [sv_setTcp, if_pos rfl, hs1]
  have t := tcpClose_sum (s.net.setTcp a s1) s.now a _ hv1
  have h2 := h1.inv.reset hv1 none t (fun ac1 hac1 => by cases hac1; exact ⟨by show (-1 : Int) ≤ 0; omega, nofun⟩) []
    (Or.inl rfl)
  have c5 := t.sv
  clear t
  generalize (s.net.setTcp a s1).tcpClose s.now a = r2 at *
  obtain ⟨n2, e2⟩ := r2
  simp only [List.append_nil] at h2 c5 ⊢
  have hv2 : n2.sv a = some ⟨false, {}, none, none, none, some { ac with queueLimit := -1, acceptOp := none }⟩ := by
    rw [c5 a, if_pos rfl]
  obtain ⟨sk, hsk, hskv⟩ := sv_some hv2
  have h3 := h2.check a ⟨sk, hsk, by rw [show sk.acc = _ from congrArg SockV.acc hskv]; rfl⟩
    (fun a1 va1 ac1 hne hva1 => by
      simp only at hva1; rw [c5 a1, if_neg hne, sv_setTcp, if_neg hne] at hva1; exact h.work a1 va1 ac1 hva1)
  obtain ⟨_, _, d1, _, d6, _⟩ := accCheckQueue_closed_sum n2 s.now a _ _ hv2 rfl rfl
  rw [d1] at h3 ⊢
  simp only [accDones, d6, List.map_nil, List.append_nil] at h3
  rw [fwdPkts_append, fwdPkts_append, b3, List.nil_append, ← List.append_assoc]
  exact h3

theorem accOpen_sv (n : NetSt) (now : Int) (a : String) (v4 : Bool) (va : SockV) (ac : AccState)
    (hva : n.sv a = some va) (hac : va.acc = some ac) (o : String) :
    ((n.accClose now a).1.tcpOpen now a v4).1.sv o
      = if o = a then some ⟨true, {}, some n.fwds.length, none, none,
                            some { ac with queueLimit := -1, conns := [], acceptOp := none }⟩
        else n.sv o := by
  have t := accClose_sum n now a va ac hva hac
  rw [(tcpOpen_sum (n.accClose now a).1 now a v4 _ (by rw [t.sv a, if_pos rfl])).sv o, show _ = n.fwds.length from t.fl]
  split
  · rfl
  · rename_i ho; rw [t.sv o, if_neg ho]

theorem HFull.openAcc {s : HS} (h : HFull s) (a : String) (v4 : Bool) (tp : TParams) (hok : s.net.isAcc a) :
    HFull (s.step tp (.openAcc a v4)) := by
  have h1 := h.closeAcceptor a hok
  obtain ⟨va, ac, hva, hac⟩ := isAcc_view hok
  have t := accClose_sum s.net s.now a va ac hva hac
  have hv1 := (t.sv a).trans (if_pos rfl)
  have h2 := h1.inv.reset hv1 (some _) (tcpOpen_sum _ s.now a v4 _ hv1)
    (fun ac1 hac1 => by cases hac1; exact ⟨by show (-1 : Int) ≤ 0; omega, fun _ => rfl⟩) [] (Or.inl rfl)
  simp only [List.append_nil] at h2
  refine ⟨h2, work_upd h.work a _ _ (accOpen_sv s.net s.now a v4 va ac hva hac) ?_ _ rfl⟩
  intro ac1 hac1 _ hpe
  cases hac1; cases hpe

theorem pairwise_eraseIdx_rel {α : Type} {R : α → α → Prop} {l : List α} (h : l.Pairwise R) (i : Nat) (x y : α)
    (hx : l[i]? = some x) (hy : y ∈ l.eraseIdx i) : R x y ∨ R y x := by
  obtain ⟨hi, rfl⟩ := List.getElem?_eq_some_iff.mp hx
  obtain ⟨j, hj, hne, rfl⟩ := List.mem_eraseIdx_iff_getElem.mp hy
  rcases Nat.lt_or_gt_of_ne hne with hlt | hlt
  · exact .inr (List.pairwise_iff_getElem.mp h j i hj hi hlt)
  · exact .inl (List.pairwise_iff_getElem.mp h i j hi hj hlt)

theorem HFull.deliverSyn {s : HS} (h : HFull s) (i : Nat) (a : String) (tp : TParams)
    (hok : s.ok (.deliverSyn i a)) : HFull (s.step tp (.deliverSyn i a)) := by
  obtain ⟨pk, hi, hty, hrt⟩ := hok
  -- the SYN was dialled towards this very forwarder: `a` is the acceptor of that epoch
  obtain ⟨c, d, va, q1, hclt, q3, hd, hva, hvf, _, _, hvacc⟩ := h.inv.syn_routed pk (List.mem_of_getElem? hi) hty a hrt
  obtain ⟨f, hfe⟩ : ∃ f, d.epoch = f := ⟨_, rfl⟩
  rw [hfe] at hvf
  obtain ⟨ac, hac⟩ := Option.isSome_iff_exists.mp hvacc
  have hopen : va.isOpen = true := h.inv.open_of_fwd hva hac hvf
  obtain ⟨s0, hs0, hv0⟩ := sv_some hva
  have hs0acc : s0.acc = some ac := by rw [← hac, ← hv0]; rfl
  have hacc : s.net.isAcc a := ⟨s0, hs0, by rw [hs0acc]; rfl⟩
  simp only [HS.step, hi, hty, if_true, q1, Option.toList_some, List.map_cons, List.map_nil]
  rw [accIncoming_syn s.net s.now a pk c s0 ac hs0 hs0acc hty q1, epochOf_of_sv hva, hvf, Option.getD_some]
  -- first the SYN is queued …
  have hsv : ∀ o, (s.net.setTcp a { s0 with acc := some { ac with conns := ac.conns ++ [c] } }).sv o
      = if o = a then some { va with acc := some { ac with conns := ac.conns ++ [c] } } else s.net.sv o := by
    intro o; rw [sv_setTcp]; split
    · rw [← hv0]; rfl
    · rfl
  have hfifo := h.inv.fifo a va ac f hva hac hvf
  have hbag2 : ∀ q ∈ s.bag.eraseIdx i, q.ty = .syn → ∀ c', q.chan = some c' →
      c' ∉ (s.synLog ++ [(f, c)]).map (·.2) := by
    intro q hq hqt c' hc'
    have hqb := List.mem_of_mem_eraseIdx hq
    obtain ⟨c'', _, r1, _, r3, _⟩ := h.inv.b_syn q hqb hqt
    rw [hc'] at r1; cases r1
    intro hin
    rw [List.map_append] at hin
    rcases List.mem_append.mp hin with hin | hin
    · exact r3 hin
    · simp only [List.map_cons, List.map_nil, List.mem_singleton] at hin; subst hin
      rcases pairwise_eraseIdx_rel h.inv.b_syn1 i pk q hi hq with hr | hr
      · exact hr hty hqt (by rw [q1, hc'])
      · exact hr hqt hty (by rw [q1, hc'])
  have h1 := h.inv.updA a va ac { ac with conns := ac.conns ++ [c] } hva hac
    { s0 with acc := some { ac with conns := ac.conns ++ [c] } } (by rw [← hv0]; rfl)
    (s.bag.eraseIdx i) (s.synLog ++ [(f, c)]) s.accCalls (hql := fun hc => by rw [hopen] at hc; cases hc)
    (hlis := fun hq => h.inv.a_lis a va ac hva hac hq)
    (hfifo := fun f1 hf1 => by
      rw [hvf] at hf1; cases hf1
      rw [synAtL_append, synAtL_single_same, hfifo, List.append_assoc])
    (hfifo2 := fun f1 hf1 => by
      have : f ≠ f1 := fun hh => hf1 (by rw [hvf, hh])
      rw [synAtL_append, synAtL_single_other _ _ _ this, List.append_nil])
    (hpend := fun op hop => h.inv.pend a va ac op hva hac hop) (hcalls := fun _ => Nat.le_refl _) (hcalls2 := fun _ _ => rfl)
    (hsyn1 := fun x hx => by
      rcases List.mem_append.mp hx with hx | hx
      · exact h.inv.syn_lt x hx
      · rw [List.mem_singleton] at hx; subst hx; exact ⟨hclt, (h.inv.s_fwd a va f hva hvf).1⟩)
    (hsyn2 := nodup_map_concat h.inv.syn_nd (fun x hx hxc => q3 (List.mem_map.mpr ⟨x, hx, hxc⟩)))
    (hsyn3 := fun x hx d hdx => by
      rcases List.mem_append.mp hx with hx | hx
      · exact h.inv.syn_ep x hx d hdx
      · rw [List.mem_singleton] at hx; subst hx
        simp only at hdx ⊢
        rw [hd] at hdx; cases hdx; exact hfe)
    (hbag := fun q hq => Or.inl (List.mem_of_mem_eraseIdx hq))
    (hbag1 := h.inv.b_syn1.eraseIdx i) (hbag2 := hbag2)
  -- … then `check_accept_queue` runs
  have hacc1 : (s.net.setTcp a { s0 with acc := some { ac with conns := ac.conns ++ [c] } }).isAcc a :=
    ⟨_, tcp?_setTcp_same _ _ _, rfl⟩
  have h2 := h1.check a hacc1
    (fun a1 va1 ac1 hne hva1 hac1 hop1 hpe1 => by
      simp only at hva1; rw [hsv, if_neg hne] at hva1
      exact h.work a1 va1 ac1 hva1 hac1 hop1 hpe1)
  simp only at h2
  have hsa := (hsv a).trans (if_pos rfl)
  rw [pendingAccept_of_sv hsa rfl, epochOf_of_sv hsa, boundOf_of_sv hsa] at h2
  rw [pendingAccept_of_sv hva hac, boundOf_of_sv hva]
  simp only [hvf, Option.getD_some] at h2
  exact h2

theorem HFull.accept {s : HS} (h : HFull s) (a : String) (op : AcceptOp) (tp : TParams)
    (hok : s.ok (.accept a op)) : HFull (s.step tp (.accept a op)) := by
  have hacc : s.net.isAcc a := by cases op <;> exact hok.1
  obtain ⟨va, ac, hva, hac⟩ := isAcc_view hacc
  -- stage 0: the socket accepted into
  have h0 : HInv { s with net := (accAcceptPrep s.net s.now a op).1, bag := s.bag ++ fwdPkts (accAcceptPrep s.net s.now a op).2 }
      ∧ (∀ a1 va1 ac1, (accAcceptPrep s.net s.now a op).1.sv a1 = some va1 → va1.acc = some ac1 → s.net.sv a1 = some va1)
      ∧ (accAcceptPrep s.net s.now a op).1.sv a = some va
      ∧ (∃ vp, (accAcceptPrep s.net s.now a op).1.sv op.peer = some vp ∧ vp.acc = none)
      ∧ okPosts (accAcceptPrep s.net s.now a op).2 = [] := by
    cases op with
    | into hh peer w =>
      obtain ⟨p, hp, hpacc⟩ := hok.2
      simp only [accAcceptPrep, hp, AcceptOp.peer]
      have hv := sv_of_tcp? hp
      cases hpo : p.isOpen with
      | false =>
        simp only [Bool.false_eq_true, if_false, fwdPkts_nil, List.append_nil, okPosts_nil]
        exact ⟨h.inv, fun _ _ _ h1 _ => h1, hva, ⟨p.hview, hv, hpacc⟩, trivial⟩
      | true =>
        simp only [if_true]
        have t := tcpClose_sum s.net s.now peer p.hview hv
        have hc := h.inv.reset hv none t (fun ac hac => by rw [show p.hview.acc = none from hpacc] at hac; cases hac) []
          (Or.inl rfl)
        simp only [List.append_nil] at hc
        have c5 := t.sv
        have hpa : a ≠ peer := by
          intro hh'; rw [hh', hv] at hva; cases hva
          have hx : p.hview.acc = none := hpacc
          rw [hac] at hx; cases hx
        refine ⟨hc, ?_, by rw [c5 a, if_neg hpa]; exact hva, ⟨_, by rw [c5 peer, if_pos rfl], hpacc⟩, t.posts⟩
        intro a1 va1 ac1 hva1 hac1
        rw [c5 a1] at hva1
        split at hva1
        · cases hva1
          have hx : p.hview.acc = none := hpacc
          simp only at hac1; rw [hx] at hac1; cases hac1
        · exact hva1
    | fresh hh nn =>
      have hnn : s.net.tcp? nn = none := hok.2
      obtain ⟨s0, hs0, _⟩ := sv_some hva
      have hna : nn ≠ a := by intro he; rw [he, hs0] at hnn; cases hnn
      simp only [accAcceptPrep, hs0, AcceptOp.peer, fwdPkts_nil, List.append_nil, okPosts_nil]
      have hsvn : s.net.sv nn = none := by simp [NetSt.sv, hnn]
      have hsv : ∀ o', (s.net.setTcp nn { node := s0.node }).sv o'
          = if o' = nn then some ⟨false, {}, none, none, none, none⟩ else s.net.sv o' := by
        intro o'; rw [sv_setTcp]; split <;> rfl
      have := h.inv.upd1 nn ⟨false, {}, none, none, none, none⟩ (s.net.setTcp nn { node := s0.node }) s.bag []
        (hcfg := rfl) (hlen := Nat.le_refl _) (hcl := rfl) (hcv := fun _ => rfl) (hsv := hsv) (hreg1 := fun e he => Or.inl he)
        (hreg3 := fun _ _ _ _ hac' => by cases hac') (hreg2 := fun _ _ _ hl => hl) (hnp := h.inv.np_pos) (hnd := h.inv.reg_nodef)
        (hft := fun g => by simp [hsvn]) (p1 := by simp [hsvn]) (p2 := fun _ => rfl) (p3 := fun _ => Or.inl rfl)
        (p4 := fun c hc => by cases hc) (p5 := Or.inr (Or.inl rfl)) (p6 := fun _ hh => by cases hh) (p7 := fun hh => by cases hh)
        (q1 := fun _ hac' => by cases hac') (q2 := fun _ hac' => by cases hac') (q3 := fun _ hac' => by cases hac')
        (q4 := fun _ hac' => by cases hac') (q5 := fun v0 hv0 => by rw [hsvn] at hv0; cases hv0)
        (hbag := fun pk hpk => Or.inl hpk) (hbag1 := h.inv.b_syn1) (hx := Or.inl rfl)
      simp only [List.append_nil] at this
      refine ⟨this, ?_, by rw [hsv, if_neg (Ne.symm hna)]; exact hva, ⟨_, by rw [hsv, if_pos rfl], rfl⟩, trivial⟩
      intro a1 va1 ac1 hva1 hac1
      rw [hsv a1] at hva1
      split at hva1
      · cases hva1; cases hac1
      · exact hva1
  obtain ⟨h0, hsvacc, hva0, ⟨vp, hvp, hvpa⟩, hok0⟩ := h0
  obtain ⟨s1, hs1, hv1⟩ := sv_some hva0
  have hs1acc : s1.acc = some ac := by rw [← hac, ← hv1]; rfl
  have hab : s1.abortAccept.1.acc = some { ac with acceptOp := none } := by rw [TcpSock.abortAccept_eq, hs1acc]; rfl
  simp only [HS.step, accAsyncAccept_eq, hs1, hab]
  generalize accAcceptPrep s.net s.now a op = r0 at *
  obtain ⟨n0, e0⟩ := r0
  simp only at h0 hsvacc hva0 hvp hok0 hs1 ⊢
  obtain ⟨b1, b2, b3⟩ := abortAccept_sum s1
  -- stage 1: the accept is stored
  have hs1' : ({ s1.abortAccept.1 with acc := some { ac with acceptOp := some op } } : TcpSock).hview
      = { va with acc := some { ac with acceptOp := some op } } := by
    rw [← hv1, TcpSock.abortAccept_eq]; rfl
  have hsv : ∀ o, (n0.setTcp a { s1.abortAccept.1 with acc := some { ac with acceptOp := some op } }).sv o
      = if o = a then some { va with acc := some { ac with acceptOp := some op } } else n0.sv o :=
    fun o => by rw [sv_setTcp, hs1']
  have h1 := h0.updA a va ac { ac with acceptOp := some op } hva0 hac
    { s1.abortAccept.1 with acc := some { ac with acceptOp := some op } } hs1' (s.bag ++ fwdPkts e0) s.synLog
    (fun x => if x = a then s.accCalls a + 1 else s.accCalls x)
    (hql := fun hc => (h0.a_closed a va ac hva0 hac hc).1) (hlis := fun hq => h0.a_lis a va ac hva0 hac hq)
    (hfifo := fun f hf => h0.fifo a va ac f hva0 hac hf) (hfifo2 := fun _ _ => rfl)
    (hpend := fun op' hop' => by
      simp only [Option.some.injEq] at hop'; subst hop'
      refine ⟨⟨vp, hvp, hvpa⟩, by simp, fun e he hea => ?_⟩
      have := h0.ser_lt e he; simp only at this; rw [hea] at this
      simp only [if_true]; omega)
    (hcalls := fun x => by simp only; split
                           · rename_i hx; rw [hx]; omega
                           · exact Nat.le_refl _)
    (hcalls2 := fun x hx => by simp only; rw [if_neg hx])
    (hsyn1 := h0.syn_lt) (hsyn2 := h0.syn_nd) (hsyn3 := h0.syn_ep) (hbag := fun _ hp => Or.inl hp) (hbag1 := h0.b_syn1)
    (hbag2 := h0.syn_fresh fun _ hp => Or.inl hp)
  -- stage 2: `check_accept_queue`
  have hacc1 : (n0.setTcp a { s1.abortAccept.1 with acc := some { ac with acceptOp := some op } }).isAcc a :=
    ⟨_, tcp?_setTcp_same _ _ _, rfl⟩
  have h2 := h1.check a hacc1
    (fun a1 va1 ac1 hne hva1 hac1 hop1 hpe1 => by
      simp only at hva1; rw [hsv, if_neg hne] at hva1
      exact h.work a1 va1 ac1 (hsvacc a1 va1 ac1 hva1 hac1) hac1 hop1 hpe1)
  simp only at h2
  have hsa := (hsv a).trans (if_pos rfl)
  rw [pendingAccept_of_sv hsa rfl, epochOf_of_sv hsa, boundOf_of_sv hsa] at h2
  rw [epochOf_of_sv hva, boundOf_of_sv hva]
  simp only [fwdPkts_append, b3, List.append_nil, accDones, okPosts_append, hok0, b2, List.nil_append,
    if_true, Nat.add_sub_cancel] at h2 ⊢
  rw [← List.append_assoc]
  exact h2

theorem dials_of_errs (c : String) (target : Ep) (n' : NetSt) (e : List NEff) (h : ∀ q ∈ fwdPkts e, q.ty = .err) :
    dials c target n' e = [] := by
  unfold dials
  rw [List.filterMap_eq_nil_iff]
  intro q hq
  rw [h q hq]; rfl

theorem dials_single (c : String) (target : Ep) (n' : NetSt) (e0 : List NEff) (syn : Pkt) (cid : Nat)
    (herr : ∀ q ∈ fwdPkts e0, q.ty = .err) (hty : syn.ty = .syn) (hc : syn.chan = some cid)
    {t rs : TcpSock} {rname : String} {f : Nat} (ht : n'.tcp? c = some t)
    (hl : n'.reg.tcp.lookup target = some rname) (hr : n'.tcp? rname = some rs) (hf : rs.fwd = some f) :
    dials c target n' (e0 ++ [.forward syn]) = [⟨cid, c, target, t.bound, t.fwd, rname, f⟩] := by
  unfold dials
  rw [fwdPkts_append, List.filterMap_append, List.filterMap_eq_nil_iff.mpr fun q hq => by rw [herr q hq]; rfl]
  simp [fwdPkts, hty, hc, ht, hl, NetSt.epochOf, hr, hf]

theorem HFull.connect {s : HS} (h : HFull s) (c : String) (target : Ep)
    (hh : Nat) (tp : TParams) (hok : s.ok (.connect c target hh)) :
    HFull (s.step tp (.connect c target hh)) := by
  obtain ⟨sk, hsk, hskacc, hskc⟩ := hok
  have hvk := sv_of_tcp? hsk
  have hvkacc : sk.hview.acc = none := hskacc
  simp only [HS.step]
  rw [SimVerif.tcpConnect_eq s.net s.now c target hh sk hsk]
  -- stage 1: open if closed
  have S1 : ∀ r1, r1 = s.net.tcpConnectOpen s.now c target sk →
      HInv { s with net := r1.1, bag := s.bag ++ fwdPkts r1.2 }
      ∧ (∀ o', o' ≠ c → r1.1.sv o' = s.net.sv o')
      ∧ (∃ v1, r1.1.sv c = some v1 ∧ v1.chan = none ∧ v1.isOpen = true ∧ v1.acc = none)
      ∧ (∀ q ∈ fwdPkts r1.2, q.ty = .err) := by
    intro r1 hr1
    unfold NetSt.tcpConnectOpen at hr1
    cases hopn : sk.isOpen with
    | true =>
      simp only [hopn, Bool.not_true, Bool.false_eq_true, if_false] at hr1
      subst hr1
      simp only [fwdPkts_nil, List.append_nil]
      exact ⟨h.inv, fun _ _ => trivial, ⟨sk.hview, hvk, hskc, hopn, hskacc⟩, by simp⟩
    | false =>
      simp only [hopn, Bool.not_false, if_true] at hr1
      subst hr1
      have t := tcpOpen_sum s.net s.now c target.isV4 sk.hview hvk
      have ho := h.inv.reset hvk (some _) t (fun ac hac => by rw [hvkacc] at hac; cases hac) [] (Or.inl rfl)
      simp only [List.append_nil] at ho
      exact ⟨ho, fun o' ho' => by rw [t.sv o', if_neg ho'], ⟨_, by rw [t.sv c, if_pos rfl], rfl, rfl, hskacc⟩, t.errs⟩
  obtain ⟨h1, hso1, ⟨v1, hv1, hv1c, hv1o, hv1a⟩, herr⟩ := S1 _ rfl
  generalize s.net.tcpConnectOpen s.now c target sk = r1 at *
  obtain ⟨n1, e0⟩ := r1
  simp only at h1 hso1 hv1 herr ⊢
  obtain ⟨s1, hs1, rfl⟩ := sv_some hv1
  simp only [hs1]
  -- stage 2: implicit bind
  obtain ⟨h2, ep', hsv2⟩ := h1.bound hs1 hv1c (connBind_sum n1 c s1 target h1.np_pos)
    fun _ ac _ hac => by rw [show s1.acc = none from hv1a] at hac; cases hac
  generalize n1.tcpConnectBind c target s1 = r2 at *
  obtain ⟨n2, ecb⟩ := r2
  simp only at h2 hsv2 ⊢
  have hso2 : ∀ o', o' ≠ c → n2.sv o' = s.net.sv o' := fun o' ho' => by rw [hsv2, if_neg ho', hso1 o' ho']
  obtain ⟨v2, hv2, hv2c, hv2o, hv2a⟩ : ∃ v2, n2.sv c = some v2 ∧ v2.chan = none ∧ v2.isOpen = true ∧ v2.acc = none :=
    ⟨{ s1.hview with bound := ep' }, by rw [hsv2, if_pos rfl], hv1c, hv1o, hv1a⟩
  have hacc2 : ∀ a1 va1 ac1, n2.sv a1 = some va1 → va1.acc = some ac1 → s.net.sv a1 = some va1 := by
    intro a1 va1 ac1 hva1 hac1
    by_cases ho : a1 = c
    · subst ho; rw [hv2] at hva1; cases hva1; rw [hv2a] at hac1; cases hac1
    · rw [hso2 a1 ho] at hva1; exact hva1
  have hwork2 : ∀ n' : NetSt, (∀ o', n'.sv o' = n2.sv o') → ∀ (s' : HS), s'.net = n' → HInv.work s' := by
    intro n' hn' s' hs' a1 va1 ac1 hva1 hac1 hop1 hpe1
    rw [hs', hn'] at hva1
    exact h.work a1 va1 ac1 (hacc2 a1 va1 ac1 hva1 hac1) hac1 hop1 hpe1
  -- the cases that post an error at once
  have Serr : ∀ ec : Ec, ec ≠ .ok →
      HFull { s with net := n2, bag := s.bag ++ fwdPkts (e0 ++ [NEff.post { h := hh, ec := ec }]),
                     dialLog := s.dialLog ++ dials c target n2 (e0 ++ [NEff.post { h := hh, ec := ec }]) } := by
    intro ec _
    have hf : fwdPkts (e0 ++ [NEff.post { h := hh, ec := ec }]) = fwdPkts e0 := by
      rw [fwdPkts_append]; simp [fwdPkts]
    rw [dials_of_errs c target n2 _ (by rw [hf]; exact herr), hf, List.append_nil]
    exact ⟨h2, hwork2 n2 (fun _ => rfl) _ rfl⟩
  split
  · rename_i hne
    exact Serr ecb (by simpa using hne)
  · -- stage 3: the family check and `internal_connect`
    obtain ⟨s2, hs2, rfl⟩ := sv_some hv2
    rcases tcpConnectFinish_rows n2 c target hh e0 s2 hs2 with ⟨_, e⟩ | ⟨_, e⟩ | ⟨rname, rs, l1, l2, l3, e⟩ <;> rw [e]
    · exact Serr .afNoSupport nofun
    · -- refused: the socket object changes (`mss`, `cwnd`), its view does not
      have hf : fwdPkts (e0 ++ [NEff.armAfter c 0 50000000 (ICb.tcpConnectRefused c hh)]) = fwdPkts e0 := by
        rw [fwdPkts_append]; simp [fwdPkts]
      dsimp only
      rw [dials_of_errs c target _ _ (by rw [hf]; exact herr), hf, List.append_nil]
      have hsv : ∀ t : TcpSock, t.hview = { s2.hview with chan := none } → ∀ o', (n2.setTcp c t).sv o' = n2.sv o' :=
        fun t ht o' => by
          rw [sv_setTcp, ht]; split
          · rename_i ho; rw [ho, hv2]; exact congrArg (fun x => some { s2.hview with chan := x }) hv2c.symm
          · rfl
      exact ⟨h2.sameView c _ hv2 _ (s.bag ++ fwdPkts e0) rfl rfl rfl rfl h2.np_pos (hsv _ rfl) (fun _ hp => Or.inl hp)
        h2.b_syn1, hwork2 _ (hsv _ rfl) _ rfl⟩
    · -- an acceptor is listening there: a channel and a SYN
      have hvra := sv_of_tcp? l2
      obtain ⟨ac, hac⟩ : ∃ ac, rs.acc = some ac := by
        cases hra : rs.acc with
        | none => simp [TcpSock.isListening, hra] at l3
        | some ac => exact ⟨ac, rfl⟩
      have hql : 0 < ac.queueLimit := by simpa [TcpSock.isListening, hac] using l3
      have hopen : rs.isOpen = true := by
        cases hvo : rs.isOpen with
        | true => rfl
        | false => exact absurd hql (Int.not_lt.mpr (h2.a_closed rname _ ac hvra hac hvo).1)
      obtain ⟨f, hvf⟩ := Option.isSome_iff_exists.mp (h2.o_fwd rname _ hvra hopen)
      have hvb : rs.bound = target := h2.reg_own (target, rname) (mem_of_lookup l1) _ ac hvra hac
      have hrc : rname ≠ c := by
        intro hrc; rw [hrc, hs2] at l2; cases l2; rw [show s2.acc = none from hv2a] at hac; cases hac
      dsimp only
      rw [fwdPkts_append, ← List.append_assoc,
        dials_single c target (({ n2 with chans := n2.chans ++ [dialChan n2 s2 rs target] } : NetSt).setTcp c _) e0 _ _ herr
          rfl rfl (tcp?_setTcp_same _ _ _) l1 ((tcp?_setTcp_other _ _ _ _ hrc).trans l2) hvf]
      refine ⟨h2.dial c rname _ _ ac target f hv2 hv2a hv2c hv2o hvra hac hql hvf l1 hh _ _ _
        (by rw [← hvb, ← show rs.fwd = some f from hvf]; rfl) rfl
        ⟨rfl, rfl, by rw [← hvb, ← show rs.fwd = some f from hvf]; rfl⟩, ?_⟩
      intro a1 va1 ac1 hva1 hac1 hop1 hpe1
      simp only at hva1
      rw [sv_setTcp] at hva1
      split at hva1
      · cases hva1; rw [show s2.acc = none from hv2a] at hac1; cases hac1
      · exact h.work a1 va1 ac1 (hacc2 a1 va1 ac1 hva1 hac1) hac1 hop1 hpe1

theorem HFull.step {s : HS} (h : HFull s) (tp : TParams) (l : HLbl) (hok : s.ok l) : HFull (s.step tp l) := by
  cases l with
  | tick t => exact ⟨{ h.inv with }, h.work⟩
  | openAcc a v4 => exact h.openAcc a v4 tp hok
  | bind o ep => exact h.bind o ep hok
  | openSock o v4 => exact h.openSock o v4 tp hok
  | listen a qs => exact h.listen a qs hok
  | accept a op => exact h.accept a op tp hok
  | cancelAcc a => exact h.cancelAcc a hok
  | closeAcceptor a => exact h.closeAcceptor a hok
  | deliverSyn i a => exact h.deliverSyn i a tp hok
  | deliverErr i a => exact h.deliverErr i a tp hok
  | connect c target hh => exact h.connect c target hh tp hok
  | cancel o => exact h.cancel o tp hok
  | close o => exact h.close o tp hok
  | deliverSynAck i c => exact h.deliverSynAck i c tp hok
  | natRewrite i ext => exact h.natRewrite i ext tp

theorem HFull.run (tp : TParams) (ls : List HLbl) :
    ∀ s : HS, HFull s → HS.okRun tp s ls → HFull (HS.run tp s ls) := by
  induction ls with
  | nil => intro s h _; exact h
  | cons l rest ih =>
    intro s h hok
    exact ih _ (h.step tp l hok.1) hok.2

theorem init_sv (cfg : NetCfg) (accs clients : List (String × String)) (o : String) (v : SockV)
    (hv : (HS.init cfg accs clients).net.sv o = some v) :
    v = ⟨false, {}, none, none, none, none⟩ ∨ v = ⟨false, {}, none, none, none, some {}⟩ := by
  obtain ⟨sk, hs, rfl⟩ := sv_some hv
  obtain ⟨l₁, l₂, hl, _⟩ := List.lookup_eq_some_iff.mp (show List.lookup o _ = some sk from hs)
  have hm : (o, sk) ∈ accs.map (fun c => (c.1, ({ node := c.2, acc := some {} } : TcpSock)))
      ++ clients.map (fun c => (c.1, ({ node := c.2 } : TcpSock))) := by
    show (o, sk) ∈ (HS.init cfg accs clients).net.tcps; rw [hl]; simp
  rcases List.mem_append.mp hm with hm | hm <;> obtain ⟨c, _, hc⟩ := List.mem_map.mp hm <;> cases hc
  · exact Or.inr rfl
  · exact Or.inl rfl

theorem HFull.init (cfg : NetCfg) (accs clients : List (String × String)) : HFull (HS.init cfg accs clients) := by
  have hsv := init_sv cfg accs clients
  have hcv : ∀ c, (HS.init cfg accs clients).net.cv c = none := by intro c; simp [HS.init, NetSt.cv, NetSt.chan?]
  have hft : ∀ f, (HS.init cfg accs clients).net.fwdTarget f = none := by
    intro f; simp [HS.init, NetSt.fwdTarget]
  have hfld : ∀ o v, (HS.init cfg accs clients).net.sv o = some v →
      v.isOpen = false ∧ v.bound = {} ∧ v.fwd = none ∧ v.chan = none ∧ v.connectH = none
      ∧ (∀ ac, v.acc = some ac → ac = {}) := by
    intro o v hv
    rcases hsv o v hv with h1 | h1 <;> subst h1
    · exact ⟨rfl, rfl, rfl, rfl, rfl, fun _ hh => by cases hh⟩
    · exact ⟨rfl, rfl, rfl, rfl, rfl, fun _ hh => by cases hh; rfl⟩
  refine ⟨?_, ?_⟩
  · constructor
    case a_chan => intro a va ac hva _; exact (hfld a va hva).2.2.2.1
    case a_closed =>
      intro a va ac hva hac _
      obtain ⟨_, _, q3, _, _, q6⟩ := hfld a va hva
      rw [q6 ac hac]; exact ⟨by decide, q3⟩
    case a_lis =>
      intro a va ac hva hac hq
      rw [(hfld a va hva).2.2.2.2.2 ac hac] at hq; exact absurd hq (by decide)
    case reg_own => intro e he; simp [HS.init] at he
    case bound_reg => intro o v hv _; exact Or.inl (hfld o v hv).2.1
    case dial_len => simp [HS.init]
    case chan_ok => intro c cv d hc; rw [hcv] at hc; cases hc
    case hops1_q => intro c cv d hc; rw [hcv] at hc; cases hc
    case hops1_a => intro c cv e hc; rw [hcv] at hc; cases hc
    case d_acc => intro d hd; simp [HS.init] at hd
    case idle => intro o v hv _; exact (hfld o v hv).2.2.2.2.1
    case conn => intro o v c hv hch; rw [(hfld o v hv).2.2.2.1] at hch; cases hch
    case s_fwd => intro o v f hv hf; rw [(hfld o v hv).2.2.1] at hf; cases hf
    case f_own => intro f o hfo; rw [hft] at hfo; cases hfo
    case d_live => intro d hd; simp [HS.init] at hd
    case o_fwd => intro o v hv hop; rw [(hfld o v hv).1] at hop; cases hop
    case b_syn => intro pk hpk; simp [HS.init] at hpk
    case b_syn1 => simp [HS.init]
    case b_ack => intro pk hpk; simp [HS.init] at hpk
    case syn_lt => intro x hx; simp [HS.init] at hx
    case syn_nd => simp [HS.init]
    case syn_ep => intro x hx; simp [HS.init] at hx
    case fifo => intro a va ac f hva _ hf; rw [(hfld a va hva).2.2.1] at hf; cases hf
    case fifo_all => intro f; exact ⟨[], by simp [HS.init, synAtL, accAtL]⟩
    case a_log => intro e he; simp [HS.init] at he
    case pend =>
      intro a va ac op hva hac hop
      rw [(hfld a va hva).2.2.2.2.2 ac hac] at hop; cases hop
    case ser_lt => intro e he; simp [HS.init] at he
    case ser_mono => simp [HS.init]
    case peer_b => intro e he; simp [HS.init] at he
    case con_ok => intro k hk; simp [HS.init] at hk
    case con_nd => simp [HS.init]
    case con_pend => intro o v c hv hch; rw [(hfld o v hv).2.2.2.1] at hch; cases hch
    case nat_lt => intro x hx; simp [HS.init] at hx
    case np_pos => simp [HS.init]
    case reg_nodef => intro e he; simp [HS.init] at he
    case acc_nd => simp [HS.init]
  · intro a va ac hva _ hop; rw [(hfld a va hva).1] at hop; cases hop

end Hs
end SimVerif
