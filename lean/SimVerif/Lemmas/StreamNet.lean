/-
  SimVerif.Lemmas.StreamNet — the refined network `QN` (SimVerif/StreamNet.lean) refines the
  open stream system `TS` with its adversarial bag, and every drop of the refinement satisfies
  the side condition `TS.dropOk`.

  The simulation (`QN.refines`): one `QN` step = one `TS` step followed by the drops of the hops,
  up to a permutation of the bag. It rests on: `TS.step` reads the bag only at the index of
  `deliver` / `drop` and only appends to it; every droppable packet of the connection carries a
  drop callback and has the size of a segment (`TShape`).
-/
import SimVerif.StreamNet
import SimVerif.Lemmas.TcpGhost
import SimVerif.Lemmas.QueueInv

namespace SimVerif

def Q.pkts (q : Q) : List Pkt := q.items.map (·.2)

/-- C10's byte account: `m_queue_size` is the sum of the sizes of the queued packets -/
def Q.Acct (q : Q) : Prop := q.held = (q.items.map (fun x => (x.2.size : Int))).sum

theorem hopBytes_cast (l : List (Int × Pkt)) :
    ((hopBytes (l.map (·.2)) : Nat) : Int) = (l.map (fun x => (x.2.size : Int))).sum := by
  induction l with
  | nil => rfl
  | cons x xs ih =>
    simp only [hopBytes, List.map_cons, List.sum_cons, Int.natCast_add] at ih ⊢
    rw [ih]

/-- the hop's tail-drop test IS the mechanism's -/
theorem hopDrops_iff (c : QCfg) (q : Q) (p : Pkt) (ha : q.Acct) : hopDrops c.cap q.pkts p = true ↔ TailDrop c q.held p := by
  have h := hopBytes_cast q.items
  unfold Q.Acct at ha
  unfold hopDrops TailDrop Q.pkts
  simp only [Bool.and_eq_true, decide_eq_true_eq, and_assoc]
  refine and_congr_right fun _ => and_congr_right fun _ => ?_
  omega

/-- **`incoming_packet` is the hop's `enq`** on a state with the byte account -/
theorem hop_incoming (c : QCfg) (now : Int) (q : Q) (p : Pkt) (ha : q.Acct) :
    (hopDrops c.cap q.pkts p = true → q.incoming c now p = (q, if p.hasDrop then [.dropCb p] else []))
    ∧ (hopDrops c.cap q.pkts p = false →
        (q.incoming c now p).1.pkts = q.pkts ++ [p] ∧ (q.incoming c now p).1.Acct
        ∧ ∀ x, QEff.dropCb x ∉ (q.incoming c now p).2) := by
  constructor
  · exact fun h => incoming_of_drops c now q p ((hopDrops_iff c q p ha).mp h)
  · intro hd
    have hnd : ¬ TailDrop c q.held p := fun h => by
      rw [(hopDrops_iff c q p ha).mpr h] at hd; cases hd
    refine ⟨?_, ?_, incoming_nodrop c now q p hnd⟩
    · unfold Q.pkts; rw [incoming_items, if_neg hnd]; simp
    · unfold Q.Acct at ha ⊢; rw [incoming_items, incoming_held, if_neg hnd, if_neg hnd]; simp [ha]

/-- **`next_packet_sent` pops the hop's head** (and keeps the account) -/
theorem hop_sentPop (q : Q) (p : Pkt) (rest : List Pkt) (ha : q.Acct) (h : q.pkts = p :: rest) :
    q.sentPop.2 = some p ∧ q.sentPop.1.pkts = rest ∧ q.sentPop.1.Acct := by
  unfold Q.pkts at h
  unfold Q.sentPop
  cases hi : q.items with
  | nil => rw [hi] at h; cases h
  | cons x xs =>
    obtain ⟨ts, p0⟩ := x
    rw [hi] at h
    simp only [List.map_cons, List.cons.injEq] at h
    obtain ⟨h1, h2⟩ := h
    subst h1
    refine ⟨rfl, h2, ?_⟩
    unfold Q.Acct at ha ⊢
    rw [hi] at ha
    simp only [List.map_cons, List.sum_cons] at ha
    show q.held - (p0.size : Int) = (xs.map (fun x => (x.2.size : Int))).sum
    omega

theorem hop_beginSend (c : QCfg) (now : Int) (q : Q) : (q.beginSend c now).1.pkts = q.pkts := by
  unfold Q.pkts; rw [beginSend_items]

theorem hop_sentFinish (c : QCfg) (now : Int) (q : Q) : (q.sentFinish c now).1.pkts = q.pkts := by
  unfold Q.sentFinish Q.pkts
  dsimp only
  split
  · rfl
  · rw [beginSend_items]

theorem hop_beginSend_acct (c : QCfg) (now : Int) (q : Q) (ha : q.Acct) : (q.beginSend c now).1.Acct := by
  unfold Q.Acct at ha ⊢; rw [beginSend_items, beginSend_held]; exact ha

theorem hop_sentFinish_acct (c : QCfg) (now : Int) (q : Q) (ha : q.Acct) : (q.sentFinish c now).1.Acct := by
  unfold Q.sentFinish
  dsimp only
  split
  · exact ha
  · exact hop_beginSend_acct c now _ ha

/-- every state of a well-timed history of a queue has the byte account (C10), so the hop
    lemmas apply to it -/
theorem hop_of_run (c : QCfg) (hc : c.WF) (ls : List QLbl) (h : QS.okRun c {} ls) : (QS.run c {} ls).q.Acct :=
  (QInv.run_init hc ls h).held

/-- **the key fact**: a hop that is unlimited never drops; a hop able to hold the packet drops
    it only when it is not empty -/
theorem hopDrops_nonempty (cap : Nat) (h : List Pkt) (p : Pkt) (hd : hopDrops cap h p = true)
    (hcap : cap = 0 ∨ p.size ≤ cap) : h ≠ [] := by
  unfold hopDrops at hd
  simp only [Bool.and_eq_true, decide_eq_true_eq] at hd
  intro he
  subst he
  simp only [hopBytes, List.map_nil, List.sum_nil] at hd
  omega

theorem qn_perm_cons_eraseIdx {α : Type} {l : List α} {i : Nat} {p : α} (h : l[i]? = some p) :
    l.Perm (p :: l.eraseIdx i) := by
  obtain ⟨hi, rfl⟩ := List.getElem?_eq_some_iff.mp h
  rw [List.eraseIdx_eq_take_drop_succ]
  refine .trans (.of_eq ?_) List.perm_middle
  rw [List.getElem_cons_drop, List.take_append_drop]

theorem qn_flatten_set {α : Type} {hs : List (List α)} {k : Nat} {h : List α} (hk : hs[k]? = some h) (h' : List α) :
    (hs.set k h').flatten.Perm (h' ++ (hs.eraseIdx k).flatten) :=
  List.eraseIdx_set_eq (l := hs) ▸ (qn_perm_cons_eraseIdx
    (List.getElem?_set_self (List.getElem?_eq_some_iff.mp hk).1)).flatten

theorem qn_perm_flatten_set_append {α : Type} (hs : List (List α)) (k : Nat) (h : List α) (x : List α)
    (hk : hs[k]? = some h) : (hs.set k (h ++ x)).flatten.Perm (hs.flatten ++ x) := by
  refine (qn_flatten_set hk _).trans (.trans ?_ ((qn_perm_cons_eraseIdx hk).flatten.symm.append_right x))
  rw [List.flatten_cons, List.append_assoc, List.append_assoc]
  exact List.perm_append_comm.append_left h

theorem qn_perm_flatten_set_head {α : Type} (hs : List (List α)) (k : Nat) (p : α) (rest : List α)
    (hk : hs[k]? = some (p :: rest)) : hs.flatten.Perm (p :: (hs.set k rest).flatten) :=
  (qn_perm_cons_eraseIdx hk).flatten.trans ((qn_flatten_set hk rest).symm.cons p)

def TS.addBag (s : TS) (B : List Pkt) : TS := { s with bag := B ++ s.bag }

section
variable (c : TcpCfg) (s : TS) (B : List Pkt)

theorem TS.emit_addBag (e : List NEff) : (s.addBag B).emit e = (s.emit e).addBag B := by
  simp [TS.emit, TS.addBag, List.append_assoc]

theorem TS.note_addBag (ev : Option RdEv) : (s.addBag B).note ev = (s.note ev).addBag B := by
  unfold TS.note
  split <;> rfl

theorem TS.sendSeg_addBag (t : Int) (hops : List String) (seg : List UInt8) :
    (s.addBag B).sendSeg c t hops seg = (s.sendSeg c t hops seg).addBag B := by
  simp [TS.sendSeg, TS.emit, TS.addBag, List.append_assoc]

theorem TS.finish_addBag (op : WriteOp) (r : Except Ec Nat) :
    (s.addBag B).finish c op r = (s.finish c op r).addBag B := by
  simp [TS.finish, TS.emit, TS.addBag, List.append_assoc]

theorem TS.startWrite_addBag (t : Int) (op : WriteOp) :
    (s.addBag B).startWrite c t op = (s.startWrite c t op).addBag B := by
  unfold TS.startWrite
  have : (s.addBag B).net = s.net := rfl
  rw [this]
  split
  · exact TS.finish_addBag _ _ _ _ _
  · exact TS.finish_addBag _ _ _ _ _
  · rw [TS.sendSeg_addBag]; rfl

theorem TS.wake_addBag (t : Int) :
    (s.addBag B).wake c t = (s.wake c t).addBag B := by
  unfold TS.wake
  have : (s.addBag B).net = s.net := rfl
  rw [this]
  split
  · rename_i sa _
    split
    · rename_i op _
      exact TS.startWrite_addBag c { s with net := s.net.setTcp c.a { sa with sendH := none } } B t op
    · rfl
  · rfl

theorem TS.runCtl_addBag (t : Int) :
    (s.addBag B).runCtl c t = (s.runCtl c t).addBag B := by
  unfold TS.runCtl
  have h1 : (s.addBag B).net = s.net := rfl
  have h2 : (s.addBag B).ctl = s.ctl := rfl
  rw [h1, h2]
  split
  · rfl
  · rename_i n wb acked _
    split
    · rfl
    · rename_i r _
      exact TS.emit_addBag { s with net := r.1, ctl := .resend n wb acked } B r.2
  · rename_i wb acked _
    dsimp only
    split
    · exact TS.wake_addBag c { s with net := (s.net.tcpAckPost c.tp c.a wb acked).1, ctl := .idle } B t
    · rfl
  · split
    · exact TS.finish_addBag _ _ _ _ _
    · split
      · exact TS.finish_addBag _ _ _ _ _
      · rw [TS.sendSeg_addBag]; rfl

theorem TS.step_addBag (l : TLbl) (hl : l.isNet = false) :
    TS.step c (s.addBag B) l = (TS.step c s l).addBag B := by
  have h1 : (s.addBag B).net = s.net := rfl
  have h2 : (s.addBag B).ctl = s.ctl := rfl
  cases l with
  | write t op =>
    simp only [TS.step, h1, h2]
    split
    · show TS.wake c ((({ s with net := (s.net.tcpAsyncWrite c.a op).1 } : TS).addBag B).emit (s.net.tcpAsyncWrite c.a op).2) t = _
      rw [TS.emit_addBag]
      exact TS.wake_addBag c _ B t
    · rfl
  | run t => exact TS.runCtl_addBag c s B t
  | deliver t i tr => cases hl
  | drop i tr => cases hl
  | read op =>
    simp only [TS.step, h1]
    show TS.note ((({ s with net := (s.net.tcpAsyncRead c.b op).1 } : TS).addBag B).emit (s.net.tcpAsyncRead c.b op).2) _ = _
    rw [TS.emit_addBag]
    exact TS.note_addBag _ B _
  | readNb caps =>
    simp only [TS.step, h1]
    exact TS.note_addBag ({ s with net := (s.net.tcpReadNb c.b caps).1 } : TS) B _
  | waitRead h =>
    simp only [TS.step, h1]
    show TS.note ((({ s with net := (s.net.tcpWaitRead c.b h).1 } : TS).addBag B).emit (s.net.tcpWaitRead c.b h).2) _ = _
    rw [TS.emit_addBag]
    exact TS.note_addBag _ B _
  | closeA t =>
    simp only [TS.step, h1, h2]
    split
    · simp [TS.emit, TS.addBag, List.append_assoc]
    · rfl

end


/-- `deliver i` reads the bag only at index `i`: it is the delivery of that packet alone, with
    the rest of the bag as a frame -/
theorem TS.step_deliver_frame (c : TcpCfg) (s : TS) (t : Int) (i : Nat) (tr : Option (List String × String))
    (p : Pkt) (hp : s.bag[i]? = some p) :
    ∃ B', TS.step c s (.deliver t i tr) = { TS.step c { s with bag := [p] } (.deliver t 0 tr) with bag := B' }
      ∧ B'.Perm (s.bag.eraseIdx i ++ (TS.step c { s with bag := [p] } (.deliver t 0 tr)).bag) := by
  simp only [TS.step, hp, List.getElem?_cons_zero, List.eraseIdx_cons_zero]
  split
  · -- an ACK: accepted when the writer is idle, else the label is not enabled and the bag stays
    split
    · exact ⟨_, rfl, List.Perm.refl _⟩
    · refine ⟨s.bag, rfl, ?_⟩
      exact (qn_perm_cons_eraseIdx hp).trans (List.perm_append_comm (l₁ := [p]))
  · -- a segment
    refine ⟨_, ?_, List.Perm.refl _⟩
    rw [TS.note_eq, TS.note_eq]
    rfl
  · -- the end-of-stream marker
    refine ⟨_, ?_, List.Perm.refl _⟩
    rw [TS.note_eq, TS.note_eq]
    rfl
  · exact ⟨_, rfl, by simp⟩

theorem TS.step_drop_eq (c : TcpCfg) (s : TS) (i : Nat) (tr : Option (List String × String)) (p : Pkt)
    (hp : s.bag[i]? = some p) (hd : p.hasDrop = true) :
    TS.step c s (.drop i tr)
      = { s with bag := s.bag.eraseIdx i, net := s.net.tcpPacketDropped c.tp c.a (p.inTransit tr) } := by
  simp only [TS.step, hp, (inTransit_fields p tr).2.2.2, hd, if_true]


/-- a packet a queue may drop carries a drop callback and is sized like a segment: its length
    field is the length of its payload, its overhead 40 -/
def PShape (p : Pkt) : Prop := p.okToDrop = true → p.hasDrop = true ∧ p.len = p.payload.length ∧ p.ovh = 40

theorem PShape.of_ty {p : Pkt} (h : p.ty = .ack ∨ p.ty = .err) : PShape p := by
  intro hk; rcases h with h | h <;> simp [Pkt.okToDrop, h] at hk

theorem PShape.bc {p : Pkt} (h : PShape p) (b : Nat) : PShape { p with bc := b } := h

theorem PShape.handedBack {p : Pkt} (h : PShape p) {tp : TParams} (hR : tp.rearmDrop = true)
    (t : TcpSock) (hops : List String) : PShape (handedBack tp t hops p) :=
  fun hk => ⟨hR, (h hk).2⟩

theorem PShape.inTransit {p : Pkt} (h : PShape p) (tr : Option (List String × String)) : PShape (p.inTransit tr) := by
  obtain ⟨_, _, e⟩ := p.inTransit_eq tr; rw [e]; exact h

structure TShape (c : TcpCfg) (net : NetSt) (bag : List Pkt) : Prop where
  bag : ∀ p ∈ bag, PShape p
  res : ∀ sa, net.tcp? c.a = some sa → ∀ p ∈ sa.resend, PShape p

theorem TShape.stepA {c : TcpCfg} {net : NetSt} {bag : List Pkt} (h : TShape c net bag)
    (hex : ∃ sa, net.tcp? c.a = some sa)
    {net' : NetSt} {f : TcpSock → TcpSock → Prop} (hA : NStep net net' c.a f)
    (hf : ∀ sa sa', net.tcp? c.a = some sa → f sa sa' → ∀ p ∈ sa'.resend, p ∈ sa.resend ∨ PShape p)
    {bag' : List Pkt} (hb : ∀ p ∈ bag', p ∈ bag ∨ PShape p) : TShape c net' bag' := by
  constructor
  · intro p hp
    rcases hb p hp with x | x
    · exact h.bag p x
    · exact x
  · intro sa' hsa' p hp
    obtain ⟨sa, hsa⟩ := hex
    obtain ⟨s', hs', hff⟩ := hA.self sa hsa
    rw [hsa'] at hs'; cases hs'
    rcases hf sa sa' hsa hff p hp with x | x
    · exact h.res sa hsa p x
    · exact x

theorem TShape.stepW {c : TcpCfg} {net net' : NetSt} {bag bag' : List Pkt} (h : TShape c net bag)
    (hex : ∃ sa, net.tcp? c.a = some sa) (hA : NStep net net' c.a WEq) (hb : ∀ p ∈ bag', p ∈ bag ∨ PShape p) :
    TShape c net' bag' :=
  h.stepA hex hA (fun _ _ _ w p hp => by rw [w.resend] at hp; exact Or.inl hp) hb

theorem TShape.stepB {c : TcpCfg} {net : NetSt} {bag : List Pkt} (h : TShape c net bag) (hne : c.a ≠ c.b)
    {net' : NetSt} (hB : ∀ k, k ≠ c.b → net'.tcp? k = net.tcp? k)
    {bag' : List Pkt} (hb : ∀ p ∈ bag', p ∈ bag ∨ PShape p) : TShape c net' bag' := by
  constructor
  · intro p hp
    rcases hb p hp with x | x
    · exact h.bag p x
    · exact x
  · intro sa' hsa' p hp
    rw [hB c.a hne] at hsa'
    exact h.res sa' hsa' p hp

theorem sh_sendSeg (n : NetSt) (now : Int) (name : String) (hops : List String) (seg : List UInt8) :
    ∀ q ∈ s5_fwdsOf (n.tcpSendSeg now name hops seg).2, PShape q := by
  intro q hq
  cases hs : n.tcp? name with
  | none => rw [tcpSendSeg_none _ _ _ _ _ hs] at hq; cases hq
  | some s =>
    rw [tcpSendSeg_some _ _ _ _ _ s hs] at hq
    obtain ⟨b, rfl⟩ := tcpSendPacket_mem_s5_fwdsOf _ _ _ _ q hq
    exact fun _ => ⟨rfl, rfl, rfl⟩

theorem TShape.quietW {c : TcpCfg} {net net' : NetSt} {bag bag0 : List Pkt} (h : TShape c net bag)
    (hex : ∃ sa, net.tcp? c.a = some sa) (hA : NStep net net' c.a WEq) {e : List NEff} (he : s5_fwdsOf e = [])
    (hb : ∀ p ∈ bag0, p ∈ bag) : TShape c net' (bag0 ++ s5_fwdsOf e) :=
  h.stepW hex hA fun p hp => .inl (hb p (by rwa [he, List.append_nil] at hp))

theorem TShape.quietB {c : TcpCfg} {net net' : NetSt} {bag : List Pkt} (h : TShape c net bag) (hne : c.a ≠ c.b)
    (hB : ∀ k, k ≠ c.b → net'.tcp? k = net.tcp? k) {e : List NEff} (he : s5_fwdsOf e = []) :
    TShape c net' (bag ++ s5_fwdsOf e) :=
  h.stepB hne hB fun p hp => .inl (by rwa [he, List.append_nil] at hp)

theorem TShape.unpark {c : TcpCfg} {net : NetSt} {bag : List Pkt} (h : TShape c net bag) {sa : TcpSock}
    (hs : net.tcp? c.a = some sa) : TShape c (net.setTcp c.a { sa with sendH := none }) bag :=
  h.stepW ⟨sa, hs⟩ (NStep.set (s' := { sa with sendH := none }) hs ⟨rfl, rfl, rfl, rfl, rfl⟩) fun _ hp => .inl hp

def TS.Shape (c : TcpCfg) (s : TS) : Prop := TShape c s.net s.bag

theorem TS.Shape.move {c : TcpCfg} {l : TLbl} {s s' : TS} {eA eB : List NEff} (hR : c.tp.rearmDrop = true)
    (m : TS.Move c l s eA eB s') (hT : TInv c s) (h : TS.Shape c s) : TS.Shape c s' := by
  induction m
  case skip => exact h
  case seq h1 _ _ ih1 ih2 => exact ih2 (hT.move h1) (ih1 hT h)
  all_goals
    have hc := hT.core
    obtain ⟨sa, hsa, -⟩ := hc.exA
    have hex : ∃ sa, _ = some sa := ⟨sa, hsa⟩
  case submit0 => exact h.quietW hex (tcpAsyncWrite_spec ..).1 (tcpAsyncWrite_spec ..).2 fun _ hp => hp
  case submit hs _ => exact (h.quietW hex (tcpAsyncWrite_spec ..).1 (tcpAsyncWrite_spec ..).2 fun _ hp => hp).unpark hs
  case ackIdle => exact h.stepW hex (tcpAckPost_spec ..) fun _ hp => .inl hp
  case ackWake hs _ => exact (h.stepW hex (tcpAckPost_spec ..) fun _ hp => .inl hp).unpark hs
  case startFail | startEmpty | loopDone =>
    exact h.quietW hex (tcpWriteFinish_spec ..).1 (tcpWriteFinish_spec ..).2 fun _ hp => hp
  case startSeg | loopSeg =>
    exact h.stepA hex (tcpSendSeg_spec _ _ _ _ _ sa hsa).1 (fun _ _ _ w p hp => by rw [w.resend] at hp; exact .inl hp)
      fun p hp => (List.mem_append.mp hp).imp_right (sh_sendSeg _ _ _ _ _ p)
  case resendStop => exact h
  case resendOne r _ hr =>
    have hst := (tcpResendOne_step _ _ _ r hr).mono fun _ _ e => e
    obtain ⟨sa', p, rest, hsa', hres, _, _, rfl⟩ := tcpResendOne_some _ _ _ _ hr
    cases hsa.symm.trans hsa'
    refine h.stepA hex hst (fun x x' _ w q hq => by rw [w] at hq; exact .inl (List.mem_of_mem_tail hq)) fun q hq => ?_
    refine (List.mem_append.mp hq).imp_right fun hq => ?_
    obtain ⟨b, rfl⟩ := tcpSendPacket_mem_s5_fwdsOf _ _ _ _ q hq
    exact (h.res sa hsa p (by rw [hres]; exact List.mem_cons_self)).bc b
  case ackArrive hty _ =>
    exact h.quietW hex (tcpIncoming_ack_spec _ _ _ _ _ hty).1 (tcpIncoming_ack_spec _ _ _ _ _ hty).2.1
      fun _ hq => List.mem_of_mem_eraseIdx hq
  case dataArrive t _ tr p0 hp hty =>
    have hpk := s5_PktOk.inTransit tr (hc.bag p0 (List.mem_of_getElem? hp))
    have hdo := hpk.resolve_right fun h => by rcases hty with e | e <;> rw [h.1] at e <;> cases e
    obtain ⟨sb, hsb, hq⟩ := hc.exB
    have hs := tcpIncoming_data_spec c.tp _ t c.b _ sb hsb hty hdo hq
    rw [TS.note_eq]
    exact h.stepB hc.ne hs.1.2.2 fun q hq' =>
      (List.mem_append.mp hq').imp List.mem_of_mem_eraseIdx fun hq' => PShape.of_ty (.inl (hs.2 q hq').1)
  case vanish => exact ⟨fun q hq => h.bag q (List.mem_of_mem_eraseIdx hq), h.res⟩
  case handBack s i tr p0 hp _ =>
    have hsh := (h.bag p0 (List.mem_of_getElem? hp)).inTransit tr
    have hbag : ∀ q ∈ s.bag.eraseIdx i, PShape q := fun q hq => h.bag q (List.mem_of_mem_eraseIdx hq)
    rcases tcpPacketDropped_cases s.net c.a c.tp (p0.inTransit tr) sa hsa with ⟨_, heq⟩ | ⟨ch, sa', _, heq, hres⟩ <;>
      dsimp only [TS.Shape] <;> rw [heq]
    · exact ⟨hbag, h.res⟩
    · refine ⟨hbag, fun x hx q hq => ?_⟩
      cases (tcp?_setTcp_same _ _ _).symm.trans hx
      rw [congrArg TcpSock.resend hres, List.mem_append, List.mem_singleton] at hq
      rcases hq with hq | rfl
      · exact h.res sa hsa q hq
      · exact hsh.handedBack hR _ _
  case read op =>
    obtain ⟨sb, hsb, hq⟩ := hc.exB
    have hs := tcpAsyncRead_spec _ c.b op sb hsb hq
    rw [TS.note_eq]
    exact h.quietB hc.ne hs.1.2.2 hs.2
  case readNb caps =>
    obtain ⟨sb, hsb, hq⟩ := hc.exB
    rw [TS.note_eq]
    exact h.stepB hc.ne (tcpReadNb_spec _ c.b caps sb hsb hq).2.2 fun q hq' => .inl hq'
  case waitRead hh =>
    obtain ⟨sb, hsb, hq⟩ := hc.exB
    have hs := tcpWaitRead_spec _ c.b hh sb hsb hq
    rw [TS.note_eq]
    exact h.quietB hc.ne hs.1.2.2 hs.2
  case close t _ =>
    obtain ⟨⟨sa', hsa', _, hr, _⟩, hoth, hfw, _⟩ := tcpClose_spec _ t c.a sa hsa
    refine ⟨fun p hp => (List.mem_append.mp hp).elim (h.bag p) fun hp => PShape.of_ty (.inr (hfw p hp).1),
      fun x hx p hp => ?_⟩
    cases hsa'.symm.trans hx
    rw [hr] at hp; cases hp

theorem TS.Shape.step {c : TcpCfg} {s : TS} (hR : c.tp.rearmDrop = true) (hT : TInv c s) (h : TS.Shape c s) (l : TLbl) :
    TS.Shape c (s.step c l) :=
  h.move hR (TS.step_move c s l) hT

theorem TShape.run {c : TcpCfg} (hR : c.tp.rearmDrop = true) (ls : List TLbl) :
    ∀ {s : TS}, TInv c s → TS.Shape c s → TS.Shape c (TS.run c s ls) := by
  induction ls with
  | nil => intro s _ h; exact h
  | cons l rest ih => intro s hT h; exact ih (hT.step l) (h.step hR hT l)

theorem TS.Shape.init {c : TcpCfg} {n : NetSt} (h : TcpStart c n) : TS.Shape c (TS.init c n) := by
  obtain ⟨sa, hsa, _, h2, _⟩ := h.sa
  constructor
  · intro p hp; simp [TS.init] at hp
  · intro x hx p hp
    have hx' : n.tcp? c.a = some x := hx
    rw [hsa] at hx'; cases hx'
    rw [h2] at hp; cases hp

/-- `T` is the refined state `s` seen with a bag: the same sockets, control state and ghost
    logs, and the bag holds — in some order — what the hops and the reverse path hold -/
structure QNRel (T : TS) (s : QN) : Prop where
  ts : { T with bag := [] } = s.ts
  bag : T.bag.Perm s.inNet

theorem QNRel.abs (s : QN) (h : s.ts.bag = []) : QNRel s.abs s :=
  ⟨by unfold QN.abs; rw [← h], List.Perm.refl _⟩

theorem QNCfg.CapOk.at {nc : QNCfg} {m : Nat} (h : nc.CapOk m) (k : Nat) (hk : k < nc.caps.length) {p : Pkt}
    (hp : p.size ≤ m + 40) : nc.cap k = 0 ∨ p.size ≤ nc.cap k := by
  unfold QNCfg.cap
  rw [List.getD_eq_getElem?_getD, List.getElem?_eq_getElem hk]
  exact (h.fits _ (List.getElem_mem hk)).imp_right (Nat.le_trans hp)

/-- hop `k` takes (or tail-drops) a packet that is in the bag: no label of `TS`, or one `drop`
    that satisfies the side condition -/
theorem enq_sim (c : TcpCfg) (nc : QNCfg) {T : TS} {s : QN} (k : Nat) (p : Pkt) (tr : Option (List String × String))
    (P : List Pkt) (hts : { T with bag := [] } = s.ts) (hbag : T.bag.Perm (p :: (s.inNet ++ P)))
    (hk : k < s.hops.length)
    (hsh : p.okToDrop = true → p.hasDrop = true ∧ (nc.cap k = 0 ∨ p.size ≤ nc.cap k)) :
    ∃ ls, TS.okRun c T ls ∧ { TS.run c T ls with bag := [] } = (s.enq c nc k p tr).ts
      ∧ (TS.run c T ls).bag.Perm ((s.enq c nc k p tr).inNet ++ P)
      ∧ (s.enq c nc k p tr).hops.length = s.hops.length := by
  have hget : s.hops[k]? = some (s.hops.getD k []) := by
    rw [List.getD_eq_getElem?_getD, List.getElem?_eq_getElem hk]; rfl
  unfold QN.enq
  dsimp only
  by_cases hd : hopDrops (nc.cap k) (s.hops.getD k []) p = true
  · have hok : p.okToDrop = true := by
      unfold hopDrops at hd; simp only [Bool.and_eq_true] at hd; exact hd.1.1
    obtain ⟨hdrop, hcap⟩ := hsh hok
    have hne := hopDrops_nonempty _ _ _ hd hcap
    rw [if_pos hd, if_pos hdrop]
    have hmem : p ∈ T.bag := hbag.mem_iff.mpr (by simp)
    obtain ⟨i, hi⟩ := List.getElem?_of_mem hmem
    have hper : (T.bag.eraseIdx i).Perm (s.inNet ++ P) :=
      List.Perm.cons_inv ((qn_perm_cons_eraseIdx hi).symm.trans hbag)
    refine ⟨[.drop i tr], ⟨?_, trivial⟩, ?_, ?_, rfl⟩
    · simp only [TS.dropOk, hi]
      intro _
      left
      intro he
      rw [he] at hper
      obtain ⟨x, hx⟩ := List.exists_mem_of_ne_nil _ hne
      have hx' : x ∈ s.inNet ++ P := by
        unfold QN.inNet
        exact List.mem_append_left _ (List.mem_append_left _ (List.mem_flatten.mpr ⟨_, List.mem_of_getElem? hget, hx⟩))
      rw [List.nil_perm.mp hper] at hx'
      cases hx'
    · show { TS.step c T (.drop i tr) with bag := [] } = _
      rw [TS.step_drop_eq c T i tr p hi hdrop, ← hts]
    · show (TS.step c T (.drop i tr)).bag.Perm _
      rw [TS.step_drop_eq c T i tr p hi hdrop]
      exact hper
  · rw [if_neg hd]
    refine ⟨[], trivial, hts, ?_, by simp⟩
    show T.bag.Perm (((s.hops.set k (s.hops.getD k [] ++ [p])).flatten ++ s.rev) ++ P)
    refine hbag.trans ?_
    have h1 := qn_perm_flatten_set_append s.hops k _ [p] hget
    have h2 : (p :: (s.inNet ++ P)).Perm ((s.hops.flatten ++ [p]) ++ s.rev ++ P) := by
      unfold QN.inNet
      simp only [List.append_assoc]
      exact List.perm_middle.symm
    exact h2.trans ((h1.symm.append_right _).append_right _)

theorem enq_rev (c : TcpCfg) (nc : QNCfg) (s : QN) (k : Nat) (p : Pkt) (tr : Option (List String × String)) :
    (s.enq c nc k p tr).rev = s.rev := by
  unfold QN.enq; dsimp only; split
  · split <;> rfl
  · rfl

/-- what the invariants of `TS` say about the packets of a state -/
structure QNGood (c : TcpCfg) (m : Nat) (T : TS) : Prop where
  inv : TInv c T
  shape : TS.Shape c T
  mss : T.mss0 = m
  pos : 0 < m

theorem QNGood.step {c : TcpCfg} {m : Nat} {T : TS} (hR : c.tp.rearmDrop = true) (h : QNGood c m T) (l : TLbl) :
    QNGood c m (T.step c l) :=
  ⟨h.inv.step l, h.shape.step hR h.inv l, (TS.step_mss0 c T l).trans h.mss, h.pos⟩

theorem QNGood.run {c : TcpCfg} {m : Nat} (hR : c.tp.rearmDrop = true) (ls : List TLbl) :
    ∀ {T : TS}, QNGood c m T → QNGood c m (TS.run c T ls) := by
  induction ls with
  | nil => intro T h; exact h
  | cons l rest ih => intro T h; exact ih (h.step hR l)

theorem QNGood.init {c : TcpCfg} {n : NetSt} (h : TcpStartQ c n) : QNGood c (mssOf c n) (TS.init c n) := by
  refine ⟨TInv.init h.toTcpStart, TS.Shape.init h.toTcpStart, rfl, ?_⟩
  obtain ⟨sa, hsa, _, _, _, _, h5, _⟩ := h.qa
  unfold mssOf; rw [hsa]; exact h5

theorem QNGood.bound {c : TcpCfg} {m : Nat} {T : TS} (h : QNGood c m T) (p : Pkt) (hp : p ∈ T.bag)
    (hk : p.okToDrop = true) : p.hasDrop = true ∧ p.size ≤ m + 40 := by
  obtain ⟨a1, a2, a3⟩ := h.shape.bag p hp hk
  refine ⟨a1, ?_⟩
  have hlen : p.payload.length ≤ T.mss0 := by
    rcases h.inv.core.bag p hp with (⟨_, h2⟩ | ⟨h1, _⟩) | ⟨h1, _⟩
    · exact (h.inv.core.segsB (h.mss ▸ h.pos) _ (List.mem_of_getElem? h2)).2
    · simp [Pkt.okToDrop, h1] at hk
    · simp [Pkt.okToDrop, h1] at hk
  have := h.mss
  unfold Pkt.size
  omega

theorem TS.eq_addBag {T ts : TS} (h : { T with bag := [] } = ts) : T = ts.addBag T.bag := by
  subst h; simp [TS.addBag]

section
variable (c : TcpCfg) (nc : QNCfg) (m : Nat) (hcap : nc.CapOk m)
include hcap

/-- routing what the sockets forwarded: the drops of the first hop, each satisfying the side
    condition -/
theorem inject_sim : ∀ (P : List Pkt) {T : TS} {s : QN},
    { T with bag := [] } = s.ts → T.bag.Perm (s.inNet ++ P) → s.hops.length = nc.caps.length →
    (∀ p ∈ P, p.okToDrop = true → p.hasDrop = true ∧ p.size ≤ m + 40) →
    ∃ ls, TS.okRun c T ls ∧ QNRel (TS.run c T ls) (P.foldl (QN.inject c nc) s)
      ∧ (P.foldl (QN.inject c nc) s).hops.length = nc.caps.length := by
  intro P
  induction P with
  | nil =>
    intro T s hts hbag hlen _
    exact ⟨[], trivial, ⟨hts, by simpa [TS.run] using hbag⟩, hlen⟩
  | cons p P ih =>
    intro T s hts hbag hlen hP
    simp only [List.foldl_cons]
    unfold QN.inject
    split
    · -- an ACK: onto the reverse path
      apply ih (s := { s with rev := s.rev ++ [p] }) hts _ hlen (fun q hq => hP q (List.mem_cons_of_mem _ hq))
      show T.bag.Perm ((s.hops.flatten ++ (s.rev ++ [p])) ++ P)
      unfold QN.inNet at hbag
      simpa [List.append_assoc] using hbag
    · -- into the first hop
      have h0 : 0 < s.hops.length := by
        rw [hlen]; exact List.length_pos_iff.mpr hcap.nonempty
      obtain ⟨ls1, hok1, hts1, hbag1, hlen1⟩ := enq_sim c nc 0 p none P hts (hbag.trans List.perm_middle) h0
        (fun hk => (hP p (by simp) hk).imp_right (hcap.at 0 (by rw [← hlen]; exact h0)))
      obtain ⟨ls2, hok2, hrel2, hlen2⟩ := ih hts1 hbag1 (hlen1.trans hlen) (fun q hq => hP q (List.mem_cons_of_mem _ hq))
      refine ⟨ls1 ++ ls2, (TS.okRun_append c ls1 ls2 T).mpr ⟨hok1, hok2⟩, ?_, hlen2⟩
      rw [TS.run_append]; exact hrel2

theorem sock_sim {T r : TS} {s : QN}
    (hts : { T with bag := [] } = { r with bag := [] }) (hbag : T.bag.Perm (s.inNet ++ r.bag))
    (hlen : s.hops.length = nc.caps.length)
    (hP : ∀ p ∈ r.bag, p.okToDrop = true → p.hasDrop = true ∧ p.size ≤ m + 40) :
    ∃ ls, TS.okRun c T ls ∧ QNRel (TS.run c T ls) (s.sock c nc r) ∧ (s.sock c nc r).hops.length = nc.caps.length :=
  inject_sim c nc m hcap r.bag (s := { s with ts := { r with bag := [] } }) hts hbag hlen hP

variable (hR : c.tp.rearmDrop = true)
include hR

theorem arrive_sim {T : TS} {s1 : QN} (hg : QNGood c m T) (p : Pkt) (t : Int) (tr : Option (List String × String))
    (hts : { T with bag := [] } = s1.ts) (hbag : T.bag.Perm (p :: s1.inNet)) (hlen : s1.hops.length = nc.caps.length) :
    ∃ ls, TS.okRun c T ls
      ∧ QNRel (TS.run c T ls) (s1.sock c nc (TS.step c { s1.ts with bag := [p] } (.deliver t 0 tr)))
      ∧ (s1.sock c nc (TS.step c { s1.ts with bag := [p] } (.deliver t 0 tr))).hops.length = nc.caps.length := by
  have hmem : p ∈ T.bag := hbag.mem_iff.mpr (by simp)
  obtain ⟨i, hi⟩ := List.getElem?_of_mem hmem
  obtain ⟨B', heq, hB'⟩ := TS.step_deliver_frame c T t i tr p hi
  have hTp : ({ T with bag := [p] } : TS) = { s1.ts with bag := [p] } := by rw [← hts]
  rw [hTp] at heq hB'
  generalize hr : TS.step c { s1.ts with bag := [p] } (.deliver t 0 tr) = r at heq hB' ⊢
  have hg1 : QNGood c m (T.step c (.deliver t i tr)) := hg.step hR _
  have hper : (T.bag.eraseIdx i).Perm s1.inNet := List.Perm.cons_inv ((qn_perm_cons_eraseIdx hi).symm.trans hbag)
  obtain ⟨ls, hok, hrel, hl⟩ := sock_sim c nc m hcap (T := T.step c (.deliver t i tr)) (r := r) (s := s1)
    (by rw [heq]) (by rw [heq]; exact hB'.trans (hper.append_right _)) hlen
    (fun q hq hk => hg1.bound q (by rw [heq]; exact hB'.mem_iff.mpr (List.mem_append_right _ hq)) hk)
  exact ⟨.deliver t i tr :: ls, ⟨trivial, hok⟩, hrel, hl⟩

/-- **one step of the refined system is a history of `TS` whose drops satisfy the side
    condition**, up to the order of the bag -/
theorem step_sim {T : TS} {s : QN} (hrel : QNRel T s) (hg : QNGood c m T) (hlen : s.hops.length = nc.caps.length) (l : QNLbl) :
    ∃ ls, TS.okRun c T ls ∧ QNRel (TS.run c T ls) (QN.step c nc s l)
      ∧ (QN.step c nc s l).hops.length = nc.caps.length := by
  cases l with
  | api l =>
    simp only [QN.step]
    split
    · exact ⟨[], trivial, hrel, hlen⟩
    · rename_i hnet
      have hnet' : l.isNet = false := by simpa using hnet
      have hT : T = s.ts.addBag T.bag := TS.eq_addBag hrel.ts
      have hstep : T.step c l = (TS.step c s.ts l).addBag T.bag := by
        conv => lhs; rw [hT]
        exact TS.step_addBag c s.ts T.bag l hnet'
      have hg1 : QNGood c m (T.step c l) := hg.step hR l
      obtain ⟨ls, hok, hr, hl⟩ := sock_sim c nc m hcap (T := T.step c l) (r := TS.step c s.ts l) (s := s)
        (by rw [hstep]; rfl)
        (by rw [hstep]; exact hrel.bag.append_right _) hlen
        (fun q hq hk => hg1.bound q (by rw [hstep]; exact List.mem_append_right _ hq) hk)
      exact ⟨l :: ls, ⟨T.dropOk_of_noDrop l (TLbl.isDrop_of_isNet hnet'), hok⟩, hr, hl⟩
  | hopDeq t k tr =>
    simp only [QN.step]
    split
    · rename_i p rest hk
      have hkl : k < s.hops.length := (List.getElem?_eq_some_iff.mp hk).1
      have hper : T.bag.Perm (p :: ({ s with hops := s.hops.set k rest } : QN).inNet) := by
        refine hrel.bag.trans ?_
        unfold QN.inNet
        exact (qn_perm_flatten_set_head s.hops k p rest hk).append_right _
      have hl1 : ({ s with hops := s.hops.set k rest } : QN).hops.length = nc.caps.length := by
        simp [hlen]
      split
      · rename_i hk1
        have hmem : p ∈ T.bag := hper.mem_iff.mpr (by simp)
        obtain ⟨ls, hok, h1, h2, h3⟩ := enq_sim c nc (s := { s with hops := s.hops.set k rest }) (k + 1) p tr []
          hrel.ts (by simpa using hper) (by simpa using hk1)
          (fun hkk => (hg.bound p hmem hkk).imp_right (hcap.at (k + 1) (by rw [← hlen]; exact hk1)))
        exact ⟨ls, hok, ⟨h1, by simpa using h2⟩, h3.trans hl1⟩
      · exact arrive_sim c nc m hcap hR hg p t tr hrel.ts hper hl1
    · exact ⟨[], trivial, hrel, hlen⟩
  | ackDeliver t i tr =>
    simp only [QN.step]
    split
    · rename_i p hi
      have hper : T.bag.Perm (p :: ({ s with rev := s.rev.eraseIdx i } : QN).inNet) := by
        refine hrel.bag.trans ?_
        unfold QN.inNet
        exact ((qn_perm_cons_eraseIdx hi).append_left _).trans List.perm_middle
      exact arrive_sim c nc m hcap hR hg p t tr hrel.ts hper hlen
    · exact ⟨[], trivial, hrel, hlen⟩

theorem run_sim (nls : List QNLbl) : ∀ {T : TS} {s : QN}, QNRel T s → QNGood c m T → s.hops.length = nc.caps.length →
    ∃ ls, TS.okRun c T ls ∧ QNRel (TS.run c T ls) (QN.run c nc s nls) := by
  induction nls with
  | nil => intro T s hrel _ _; exact ⟨[], trivial, hrel⟩
  | cons l rest ih =>
    intro T s hrel hg hlen
    obtain ⟨ls1, hok1, hrel1, hlen1⟩ := step_sim c nc m hcap hR hrel hg hlen l
    obtain ⟨ls2, hok2, hrel2⟩ := ih hrel1 (hg.run hR ls1) hlen1
    refine ⟨ls1 ++ ls2, (TS.okRun_append c ls1 ls2 T).mpr ⟨hok1, hok2⟩, ?_⟩
    rw [TS.run_append]; exact hrel2

end

/-- **Refinement.** Every history of the refined system — any interleaving of API calls, queue
    departures and ACK deliveries — projects to a history of the open system `TS` (with the
    adversarial bag) that satisfies the drop side condition `TS.okRun` and ends in the same
    state: same sockets, writer control state and ghost logs, and the bag holds exactly what the
    queues and the reverse path hold. Assumes only the configuration: an established start
    state, drop re-arming on retransmission, every queue unlimited or able to hold one full
    segment. -/
theorem QN.refines (c : TcpCfg) (nc : QNCfg) (n : NetSt) (h : TcpStartQ c n) (hR : c.tp.rearmDrop = true)
    (hcap : nc.CapOk (mssOf c n)) (nls : List QNLbl) :
    ∃ ls, TS.okRun c (TS.init c n) ls ∧ QNRel (TS.run c (TS.init c n) ls) (QN.run c nc (QN.init c nc n) nls) := by
  have hrel : QNRel (TS.init c n) (QN.init c nc n) :=
    ⟨rfl, by simp [QN.init, QN.inNet, TS.init]⟩
  exact run_sim c nc _ hcap hR nls hrel (QNGood.init h) (by simp [QN.init])


theorem QNRel.net {T : TS} {s : QN} (h : QNRel T s) : T.net = s.ts.net := congrArg (·.net) h.ts
theorem QNRel.ctl {T : TS} {s : QN} (h : QNRel T s) : T.ctl = s.ts.ctl := congrArg (·.ctl) h.ts
theorem QNRel.closed {T : TS} {s : QN} (h : QNRel T s) : T.closed = s.ts.closed := congrArg (·.closed) h.ts
theorem QNRel.segs {T : TS} {s : QN} (h : QNRel T s) : T.segs = s.ts.segs := congrArg (·.segs) h.ts
theorem QNRel.written {T : TS} {s : QN} (h : QNRel T s) : T.written = s.ts.written := congrArg (·.written) h.ts
theorem QNRel.accepted {T : TS} {s : QN} (h : QNRel T s) : T.accepted = s.ts.accepted := congrArg (·.accepted) h.ts
theorem QNRel.delivered {T : TS} {s : QN} (h : QNRel T s) : T.delivered = s.ts.delivered := congrArg (·.delivered) h.ts

theorem QNRel.bag_nil {T : TS} {s : QN} (h : QNRel T s) : T.bag = [] ↔ s.inNet = [] := by
  constructor
  · intro he; have := h.bag; rw [he] at this; exact List.Perm.nil_eq this |>.symm
  · intro he; have := h.bag; rw [he] at this; exact List.Perm.eq_nil this

theorem QNRel.quiescent {T : TS} {s : QN} (h : QNRel T s) : T.Quiescent ↔ s.Quiescent := by
  unfold TS.Quiescent QN.Quiescent
  rw [h.bag_nil, h.ctl]

end SimVerif
