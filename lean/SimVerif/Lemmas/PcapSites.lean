/-
  SimVerif.Lemmas.PcapSites — which sends reach the capture, over every history (C19, system level).

  * the writer's view of its channel (`ConnAt` / `NoChan`) and the actions that keep it (`SameCap`);
  * `CapOk`: the capture invariant of one direction — the capture log is the wire log mapped record
    by record, every packet on the wire carries the byte counter it was sent at — and `CapStep`,
    its preservation by one action; `send_packet` is the only action that emits a packet or a record;
  * `StepOk.of_move`: what a move of `TS` (Lemmas/StreamMoves.lean, where the re-collected effect lists
    `TS.effsA` / `TS.effsB` live) does to bag, completion log, capture invariant and segment log in
    terms of its effect lists; `TS.step_ok` is its instance at `TS.step`;
  * `CS` wraps `TS` with two ghost logs: `log` (the `pcapTcp` effects of every step, in order) and
    `wire` (every packet the writer's functions forwarded, i.e. put into the bag, with the time of
    the step); the invariants of `CS.run`; the capture file of a log.
-/
import SimVerif.Lemmas.ActFns
import SimVerif.Lemmas.TcpGhost
import SimVerif.Pcap

namespace SimVerif

/-- socket `name` is connected: it holds channel `cid`, which exists; it is bound to `src`, sits
    at index `idx` of the channel (`self_idx`), the peer's endpoint in the channel
    (`ep[remote_idx]`, the REAL endpoint, not `visible_ep`) is `dst`, and the byte counter of
    its direction (`bytes_sent[idx]`) is `q` -/
def ConnAt (n : NetSt) (name : String) (cid idx : Nat) (src dst : Ep) (q : Nat) : Prop :=
  ∃ s ch, n.tcp? name = some s ∧ s.chan = some cid ∧ n.chan? cid = some ch ∧ s.bound = src
    ∧ ch.selfIdx src = idx ∧ ch.ep (ch.remoteIdx src) = dst ∧ ch.sent idx = q

def SameCap (a : String) (n n' : NetSt) : Prop :=
  n'.chans = n.chans ∧ n'.cfg.pcap = n.cfg.pcap
  ∧ (n'.tcp? a).map (fun s => (s.chan, s.bound)) = (n.tcp? a).map (fun s => (s.chan, s.bound))

theorem SameCap.refl (a : String) (n : NetSt) : SameCap a n n := ⟨rfl, rfl, rfl⟩
theorem SameCap.trans {a : String} {n1 n2 n3 : NetSt} (h1 : SameCap a n1 n2) (h2 : SameCap a n2 n3) :
    SameCap a n1 n3 := ⟨h2.1.trans h1.1, h2.2.1.trans h1.2.1, h2.2.2.trans h1.2.2⟩

theorem SameCap.setSelf {a : String} {n : NetSt} {s s' : TcpSock} (hs : n.tcp? a = some s)
    (h1 : s'.chan = s.chan) (h2 : s'.bound = s.bound) : SameCap a n (n.setTcp a s') := by
  refine ⟨rfl, rfl, ?_⟩
  rw [tcp?_setTcp_same, hs]; simp [h1, h2]

theorem SameCap.setOther {a b : String} (n : NetSt) (s' : TcpSock) (h : a ≠ b) : SameCap a n (n.setTcp b s') := by
  refine ⟨rfl, rfl, ?_⟩
  rw [tcp?_setTcp_other _ _ _ _ h]

theorem ConnAt.same {a : String} {n n' : NetSt} {cid idx : Nat} {src dst : Ep} {q : Nat}
    (h : ConnAt n a cid idx src dst q) (hs : SameCap a n n') : ConnAt n' a cid idx src dst q := by
  obtain ⟨s, ch, h1, h2, h3, h4, h5⟩ := h
  obtain ⟨c1, _, c3⟩ := hs
  rw [h1] at c3
  cases hs' : n'.tcp? a with
  | none => rw [hs'] at c3; simp at c3
  | some s' =>
    rw [hs'] at c3
    simp only [Option.map_some, Option.some.injEq, Prod.mk.injEq] at c3
    refine ⟨s', ch, hs', by rw [c3.1]; exact h2, ?_, by rw [c3.2]; exact h4, h5⟩
    unfold NetSt.chan? at h3 ⊢
    rw [c1]; exact h3

theorem NoChan.same {a : String} {n n' : NetSt} (h : NoChan n a) (hs : SameCap a n n') : NoChan n' a := by
  obtain ⟨c1, _, c3⟩ := hs
  unfold NoChan at h ⊢
  have e1 : (n'.tcp? a).bind (·.chan) = (n.tcp? a).bind (·.chan) := by
    cases h1 : n'.tcp? a <;> cases h2 : n.tcp? a <;> rw [h1, h2] at c3 <;> simp at c3 ⊢
    exact c3.1
  have e2 : n'.chan? = n.chan? := by funext c; unfold NetSt.chan?; rw [c1]
  rw [e1, e2]; exact h

/-! The capture's own frame of each function that sends nothing, read off its equation in Lemmas/TcpEq.lean: the
  exact channel table and the channel / binding of socket `a` stay (`SameCap`, which the frame of the
  summaries `Own` does not give: it says nothing of object `a` itself and lets the channel table
  grow), and the effects are completions / control effects only (`Quiet`). The reader's functions
  touch the reader's socket only. -/

theorem capQuiet_tcpWriteFinish (n : NetSt) (a : String) (op : WriteOp) (r : Except Ec Nat) :
    SameCap a n (n.tcpWriteFinish a op r).1 ∧ Quiet (n.tcpWriteFinish a op r).2 := by
  cases hs : n.tcp? a with
  | none => rw [tcpWriteFinish_none n a op r hs]; exact ⟨SameCap.refl _ _, Quiet.nil⟩
  | some s =>
    rcases tcpWriteFinish_eq n a op r s hs with ⟨-, e⟩ | ⟨c, e, -⟩ <;> rw [e] <;>
      exact ⟨SameCap.setSelf hs rfl rfl, rfl, rfl, rfl⟩

theorem capQuiet_tcpAsyncWrite (n : NetSt) (a : String) (op : WriteOp) :
    SameCap a n (n.tcpAsyncWrite a op).1 ∧ Quiet (n.tcpAsyncWrite a op).2 := by
  cases hs : n.tcp? a with
  | none => rw [tcpAsyncWrite_none n a op hs]; exact ⟨.refl _ _, .nil⟩
  | some s =>
    rw [tcpAsyncWrite_exact hs]
    exact ⟨.setSelf hs rfl rfl, (aborts_tcpAbortSendEffs s).posts.quiet.append (b := [.tcpWrite _ _]) ⟨rfl, rfl, rfl⟩⟩

theorem sameCap_tcpAckPost (tp : TParams) (n : NetSt) (a : String) (wb : Bool) (acked : Nat) :
    SameCap a n (n.tcpAckPost tp a wb acked).1 := by
  cases hs : n.tcp? a with
  | none => rw [tcpAckPost_none tp n a wb acked hs]; exact SameCap.refl _ _
  | some s => rw [tcpAckPost_eq hs]; exact SameCap.setSelf hs rfl rfl

theorem sameCap_tcpPacketDropped (tp : TParams) (n : NetSt) (a : String) (p : Pkt) :
    SameCap a n (n.tcpPacketDropped tp a p) := by
  cases hs : n.tcp? a with
  | none => rw [tcpPacketDropped_none _ _ _ _ hs]; exact SameCap.refl _ _
  | some s =>
    rcases tcpPacketDropped_cases n a tp p s hs with ⟨_, h⟩ | ⟨_, s', _, h, h'⟩ <;> rw [h]
    · exact SameCap.refl _ _
    · exact SameCap.setSelf hs (by rw [h']) (by rw [h'])

theorem capQuiet_tcpIncoming_ack (tp : TParams) (n : NetSt) (now : Int) (a : String) (p : Pkt) (hp : p.ty = .ack) :
    SameCap a n (n.tcpIncoming tp now a p).1 ∧ Quiet (n.tcpIncoming tp now a p).2 := by
  cases hs : n.tcp? a with
  | none => rw [tcpIncoming_none tp n now a p hs]; exact ⟨SameCap.refl _ _, Quiet.nil⟩
  | some s => rw [tcpIncoming_ack hs tp now p hp]; exact ⟨SameCap.setSelf hs rfl rfl, rfl, rfl, rfl⟩

def OnlySock (name : String) (n n' : NetSt) : Prop := n' = n ∨ ∃ s', n' = n.setTcp name s'

theorem OnlySock.sameCap {a b : String} {n n' : NetSt} (h : OnlySock b n n') (hab : a ≠ b) : SameCap a n n' := by
  rcases h with rfl | ⟨s', rfl⟩
  · exact SameCap.refl _ _
  · exact SameCap.setOther _ _ hab

theorem capQuiet_tcpAsyncRead (n : NetSt) (b : String) (op : ReadOp) :
    OnlySock b n (n.tcpAsyncRead b op).1 ∧ Quiet (n.tcpAsyncRead b op).2 := by
  cases hs : n.tcp? b with
  | none => unfold NetSt.tcpAsyncRead; rw [hs]; exact ⟨.inl rfl, .nil⟩
  | some s =>
    rw [tcpAsyncRead_eq hs]
    exact ⟨.inr ⟨_, rfl⟩, (aborts_tcpAbortRecvEffs s).posts.quiet.append (posts_asyncReadImpl _ op).quiet⟩

theorem capQuiet_tcpWaitRead (n : NetSt) (b : String) (hd : Nat) :
    OnlySock b n (n.tcpWaitRead b hd).1 ∧ Quiet (n.tcpWaitRead b hd).2 := by
  cases hs : n.tcp? b with
  | none => unfold NetSt.tcpWaitRead; rw [hs]; exact ⟨.inl rfl, .nil⟩
  | some s =>
    rw [tcpWaitRead_eq hs]
    exact ⟨.inr ⟨_, rfl⟩, (aborts_tcpAbortRecvEffs s).posts.quiet.append (posts_asyncWaitReadImpl _ hd).quiet⟩

theorem onlySock_tcpReadNb (n : NetSt) (b : String) (caps : List Nat) : OnlySock b n (n.tcpReadNb b caps).1 := by
  cases hs : n.tcp? b with
  | none => unfold NetSt.tcpReadNb; rw [hs]; exact .inl rfl
  | some s => rw [tcpReadNb_eq hs]; exact .inr ⟨_, rfl⟩

theorem onlySock_tcpIncoming (tp : TParams) (n : NetSt) (now : Int) (name : String) (p : Pkt) :
    OnlySock name n (n.tcpIncoming tp now name p).1 := by
  cases hs : n.tcp? name with
  | none => rw [tcpIncoming_none tp n now name p hs]; exact .inl rfl
  | some t =>
    rcases tcpIncoming_cases hs tp now p with e | ⟨_, _, -, e⟩ <;> rw [e]
    · exact .inl rfl
    · exact .inr ⟨_, rfl⟩

/-- `incoming_packet` of a socket emits no record, whatever the capture switch: it never reaches
    `send_packet` (its ACKs go out directly), so its shape holds with the switch off as well -/
theorem capsTcp_tcpIncoming (tp : TParams) (n : NetSt) (now : Int) (name : String) (p : Pkt) :
    capsTcp (n.tcpIncoming tp now name p).2 = [] :=
  ((own_tcpIncoming tp n now name p).shape false 0).no_record_when_off

theorem ConnAt.sendPacket {n : NetSt} {a : String} {cid idx : Nat} {src dst : Ep} {q : Nat}
    (h : ConnAt n a cid idx src dst q) (now : Int) (p : Pkt) :
    (n.tcpSendPacket now a p).2 = sendEffs n.cfg.pcap now src dst q p
    ∧ ConnAt (n.tcpSendPacket now a p).1 a cid idx src dst ((q + p.payload.length) % 4294967296)
    ∧ (n.tcpSendPacket now a p).1.cfg.pcap = n.cfg.pcap := by
  obtain ⟨s, ch, h1, h2, h3, rfl, rfl, rfl, rfl⟩ := h
  rw [tcpSendPacket_conn n now a p s cid ch h1 h2 h3]
  exact ⟨rfl, ⟨s.sendAcct p, _, tcp?_setTcp_same _ _ _, h2, chan?_setChan_same n cid _ (by rw [h3]; rfl), rfl,
    Chan.bump_selfIdx .., by rw [Chan.bump_remoteIdx, Chan.bump_ep], Chan.bump_sent_same ..⟩, rfl⟩

/-- the constants of one direction of one connection: channel id, the writer's index in it, the
    writer's bound endpoint, the peer's channel endpoint, the byte counter the direction starts
    with (0 in the repaired tree), the capture switch -/
structure CapKey where
  cid : Nat
  idx : Nat
  src : Ep
  dst : Ep
  init : Nat
  pcap : Bool
  deriving Repr

/-- the byte counter after the packets of `w`, starting from `q` (`uint32` arithmetic) -/
def wireEnd (q : Nat) : List (Int × Pkt) → Nat
  | [] => q
  | e :: r => wireEnd ((q + e.2.payload.length) % 4294967296) r

/-- every packet of `w` is stamped with the byte counter at the time it was sent -/
def WireSeq (q : Nat) : List (Int × Pkt) → Prop
  | [] => True
  | e :: r => e.2.bc = q ∧ WireSeq ((q + e.2.payload.length) % 4294967296) r

def recOf (k : CapKey) (e : Int × Pkt) : CapT := ⟨e.1, k.src, k.dst, e.2.bc, e.2.payload⟩

theorem wireEnd_append (q : Nat) (a b : List (Int × Pkt)) : wireEnd q (a ++ b) = wireEnd (wireEnd q a) b := by
  induction a generalizing q with
  | nil => rfl
  | cons e r ih => exact ih _

theorem WireSeq_append (q : Nat) (a b : List (Int × Pkt)) :
    WireSeq q (a ++ b) ↔ WireSeq q a ∧ WireSeq (wireEnd q a) b := by
  induction a generalizing q with
  | nil => simp [WireSeq, wireEnd]
  | cons e r ih => simp only [List.cons_append, WireSeq, wireEnd, ih, and_assoc]

structure CapOk (a : String) (k : CapKey) (n : NetSt) (wire : List (Int × Pkt)) (log : List CapT) : Prop where
  pcap : n.cfg.pcap = k.pcap
  log : log = if k.pcap then wire.map (recOf k) else []
  seq : WireSeq k.init wire
  view : NoChan n a ∨ ConnAt n a k.cid k.idx k.src k.dst (wireEnd k.init wire)

def CapStep (a : String) (t : Int) (n n' : NetSt) (e : List NEff) : Prop :=
  ∀ k w l, CapOk a k n w l → CapOk a k n' (w ++ (s5_fwdsOf e).map (fun p => (t, p))) (l ++ capsTcp e)

theorem CapStep.quiet {a : String} {t : Int} {n n' : NetSt} {e : List NEff}
    (hs : SameCap a n n' ∨ (NoChan n' a ∧ n'.cfg.pcap = n.cfg.pcap)) (hq : Quiet e) : CapStep a t n n' e := by
  intro k w l h
  rw [hq.1, hq.2.2]
  simp only [List.map_nil, List.append_nil]
  rcases hs with hs | ⟨hd, hp⟩
  · exact ⟨hs.2.1.trans h.pcap, h.log, h.seq, h.view.imp (·.same hs) (·.same hs)⟩
  · exact ⟨hp.trans h.pcap, h.log, h.seq, Or.inl hd⟩

theorem CapStep.refl (a : String) (t : Int) (n : NetSt) : CapStep a t n n [] :=
  CapStep.quiet (Or.inl (SameCap.refl a n)) Quiet.nil

theorem CapStep.trans {a : String} {t : Int} {n1 n2 n3 : NetSt} {e1 e2 : List NEff}
    (h1 : CapStep a t n1 n2 e1) (h2 : CapStep a t n2 n3 e2) : CapStep a t n1 n3 (e1 ++ e2) := by
  intro k w l h
  have := h2 k _ _ (h1 k w l h)
  rw [s5_fwdsOf_append, capsTcp_append, List.map_append, ← List.append_assoc, ← List.append_assoc]
  exact this

theorem capStep_sendPacket (a : String) (now : Int) (n : NetSt) (p : Pkt) :
    CapStep a now n (n.tcpSendPacket now a p).1 (n.tcpSendPacket now a p).2 := by
  intro k w l h
  rcases h.view with hv | hv
  · rw [hv.sendPacket now p]
    exact CapStep.refl a now n k w l h
  · obtain ⟨h1, h2, h3⟩ := hv.sendPacket now p
    rw [h1, capsTcp_sendEffs, s5_fwdsOf_sendEffs]
    refine ⟨h3.trans h.pcap, ?_, (WireSeq_append ..).2 ⟨h.seq, rfl, trivial⟩, Or.inr ?_⟩
    · rw [h.log, h.pcap]
      cases k.pcap
      · rfl
      · simp [recOf]
    · rw [wireEnd_append]; exact h2

theorem ViaSend.capStep {n : NetSt} {now : Int} {a : String} {r : NetSt × List NEff} (h : ViaSend n now a r) :
    CapStep a now n r.1 r.2 := by
  rcases h with rfl | ⟨s, s', p, hs, rfl, e, -⟩
  · exact CapStep.refl a now n
  · exact (CapStep.quiet (Or.inl (SameCap.setSelf hs (by rw [e]) (by rw [e]))) Quiet.nil).trans
      (capStep_sendPacket a now _ p)

/-- `close()`: at most one record (the end-of-stream marker, sent through `send_packet`), then
    completions; afterwards the socket holds no channel -/
theorem capStep_close (a : String) (now : Int) (n : NetSt) :
    CapStep a now n (n.tcpClose now a).1 (n.tcpClose now a).2 := by
  cases hs : n.tcp? a with
  | none => rw [tcpClose_none n now a hs]; exact CapStep.refl a now n
  | some s0 =>
    obtain ⟨cs, -, e⟩ := tcpClose_exact n now a s0 hs
    rw [e]
    refine (viaSend_tcpCloseEof n now a s0 hs).capStep.trans (CapStep.quiet (Or.inr
      ⟨?_, congrArg NetCfg.pcap (tcpCloseEof_step n now a s0 hs).cfg.symm⟩) (aborts_tcpCancelEffs s0).posts.quiet)
    rw [NoChan, tcp?_setTcp_same]; rfl

def Emits (s s' : TS) (e : List NEff) : Prop :=
  s'.bag = s.bag ++ s5_fwdsOf e ∧ s'.posts = s.posts ++ postsOf e

theorem TS.emits_sendSeg (c : TcpCfg) (s : TS) (t : Int) (hops : List String) (seg : List UInt8) :
    Emits s (s.sendSeg c t hops seg) (s.net.tcpSendSeg t c.a hops seg).2 := ⟨rfl, rfl⟩

/-- what a move under label `l` from `s` to `s'` does, in terms of the effect lists `eA` of the
    writer's functions and `eB` of the reader's -/
structure StepOk (c : TcpCfg) (l : TLbl) (s : TS) (eA eB : List NEff) (s' : TS) : Prop where
  bag : ∃ b0, (b0 = s.bag ∨ l.isNet = true ∧ ∃ i, b0 = s.bag.eraseIdx i) ∧ s'.bag = b0 ++ s5_fwdsOf (eA ++ eB)
  posts : s'.posts = s.posts ++ postsOf (eA ++ eB)
  cap : c.a ≠ c.b → CapStep c.a l.time s.net s'.net eA
  noCapB : capsTcp eB = []
  segs : s.segs <+: s'.segs

section
variable {c : TcpCfg} {l : TLbl} {s s' : TS} {eA eB : List NEff}

theorem StepOk.ofA {b0 : List Pkt} (h0 : b0 = s.bag ∨ l.isNet = true ∧ ∃ i, b0 = s.bag.eraseIdx i)
    (hb : s'.bag = b0 ++ s5_fwdsOf eA) (hp : s'.posts = s.posts ++ postsOf eA)
    (hc : c.a ≠ c.b → CapStep c.a l.time s.net s'.net eA) (hs : s.segs <+: s'.segs) : StepOk c l s eA [] s' :=
  ⟨⟨b0, h0, by rw [List.append_nil]; exact hb⟩, by rw [List.append_nil]; exact hp, hc, rfl, hs⟩

theorem StepOk.quietA {b0 : List Pkt} (h0 : b0 = s.bag ∨ l.isNet = true ∧ ∃ i, b0 = s.bag.eraseIdx i)
    (hb : s'.bag = b0 ++ s5_fwdsOf eA) (hp : s'.posts = s.posts ++ postsOf eA) (hn : SameCap c.a s.net s'.net)
    (hq : Quiet eA) (hs : s'.segs = s.segs) : StepOk c l s eA [] s' :=
  .ofA h0 hb hp (fun _ => CapStep.quiet (Or.inl hn) hq) (hs ▸ List.prefix_rfl)

theorem StepOk.noEffs (h0 : s'.bag = s.bag ∨ l.isNet = true ∧ ∃ i, s'.bag = s.bag.eraseIdx i) (hp : s'.posts = s.posts)
    (hn : SameCap c.a s.net s'.net) (hs : s'.segs = s.segs) : StepOk c l s [] [] s' :=
  .quietA h0 (List.append_nil _).symm (hp.trans (List.append_nil _).symm) hn Quiet.nil hs

theorem StepOk.ofB {b0 : List Pkt} (h0 : b0 = s.bag ∨ l.isNet = true ∧ ∃ i, b0 = s.bag.eraseIdx i)
    (hb : s'.bag = b0 ++ s5_fwdsOf eB) (hp : s'.posts = s.posts ++ postsOf eB) (hn : OnlySock c.b s.net s'.net)
    (hq : capsTcp eB = []) (hs : s'.segs = s.segs) : StepOk c l s [] eB s' :=
  ⟨⟨b0, h0, hb⟩, hp, fun h => CapStep.quiet (Or.inl (hn.sameCap h)) Quiet.nil, hq, hs ▸ List.prefix_rfl⟩

theorem StepOk.of_move (m : TS.Move c l s eA eB s') : StepOk c l s eA eB s' := by
  induction m with
  | skip => exact .noEffs (.inl rfl) rfl (.refl _ _) rfl
  | @seq l s e1 s1 e2 s' _ _ hl ih1 ih2 =>
    have hb : ∀ {s s' : TS} {e}, StepOk c l s e [] s' → s'.bag = s.bag ++ s5_fwdsOf e := fun h => by
      obtain ⟨b0, h0, h1⟩ := h.bag
      rw [h1, List.append_nil, h0.resolve_right fun x => by rw [hl] at x; cases x.1]
    have hp1 := ih1.posts; have hp2 := ih2.posts
    rw [List.append_nil] at hp1 hp2
    exact .ofA (.inl rfl) (by rw [hb ih2, hb ih1, s5_fwdsOf_append, List.append_assoc])
      (by rw [hp2, hp1, postsOf_append, List.append_assoc]) (fun h => (ih1.cap h).trans (ih2.cap h))
      (ih1.segs.trans ih2.segs)
  | submit0 =>
    exact .quietA (.inl rfl) rfl rfl (capQuiet_tcpAsyncWrite _ _ _).1 (capQuiet_tcpAsyncWrite _ _ _).2 rfl
  | submit _ hs _ =>
    exact .quietA (.inl rfl) rfl rfl ((capQuiet_tcpAsyncWrite _ _ _).1.trans (.setSelf hs rfl rfl)) (capQuiet_tcpAsyncWrite _ _ _).2 rfl
  | ackIdle => exact .noEffs (.inl rfl) rfl (sameCap_tcpAckPost ..) rfl
  | ackWake _ _ hs _ => exact .noEffs (.inl rfl) rfl ((sameCap_tcpAckPost ..).trans (.setSelf hs rfl rfl)) rfl
  | startFail | startEmpty | loopDone =>
    exact .quietA (.inl rfl) rfl rfl (capQuiet_tcpWriteFinish ..).1 (capQuiet_tcpWriteFinish ..).2 rfl
  | startSeg | loopSeg =>
    exact .ofA (.inl rfl) rfl rfl (fun _ => (viaSend_sendSeg ..).capStep) (List.prefix_append _ _)
  | resendStop => exact .noEffs (.inl rfl) rfl (.refl _ _) rfl
  | resendOne _ h => exact .ofA (.inl rfl) rfl rfl (fun _ => (viaSend_resendOne _ _ _ _ h).capStep) List.prefix_rfl
  | ackArrive _ hty _ =>
    exact .quietA (.inr ⟨rfl, _, rfl⟩) rfl rfl (capQuiet_tcpIncoming_ack _ _ _ _ _ hty).1 (capQuiet_tcpIncoming_ack _ _ _ _ _ hty).2 rfl
  | dataArrive =>
    rw [TS.note_eq]
    exact .ofB (.inr ⟨rfl, _, rfl⟩) rfl rfl (onlySock_tcpIncoming ..) (capsTcp_tcpIncoming ..) rfl
  | vanish => exact .noEffs (.inr ⟨rfl, _, rfl⟩) rfl (.refl _ _) rfl
  | handBack => exact .noEffs (.inr ⟨rfl, _, rfl⟩) rfl (sameCap_tcpPacketDropped ..) rfl
  | read =>
    rw [TS.note_eq]
    exact .ofB (.inl rfl) rfl rfl (capQuiet_tcpAsyncRead ..).1 (capQuiet_tcpAsyncRead ..).2.1 rfl
  | readNb =>
    rw [TS.note_eq]
    exact .ofB (.inl rfl) (List.append_nil _).symm (List.append_nil _).symm (onlySock_tcpReadNb ..) rfl rfl
  | waitRead =>
    rw [TS.note_eq]
    exact .ofB (.inl rfl) rfl rfl (capQuiet_tcpWaitRead ..).1 (capQuiet_tcpWaitRead ..).2.1 rfl
  | close => exact .ofA (.inl rfl) rfl rfl (fun _ => capStep_close _ _ _) List.prefix_rfl

theorem TS.Move.fwd_ty (hI : TInv c s) (m : TS.Move c l s eA eB s') :
    ∀ p ∈ s5_fwdsOf eA, p.ty = .payload ∨ p.ty = .err := by
  induction m with
  | seq h1 _ _ ih1 ih2 =>
    intro p hp
    rw [s5_fwdsOf_append, List.mem_append] at hp
    exact hp.elim (ih1 hI p) (ih2 (hI.move h1) p)
  | submit0 | submit => exact fun p hp => by rw [(capQuiet_tcpAsyncWrite _ _ _).2.2.2] at hp; cases hp
  | startFail | startEmpty | loopDone => exact fun p hp => by rw [(capQuiet_tcpWriteFinish ..).2.2.2] at hp; cases hp
  | ackArrive _ hty _ => exact fun p hp => by rw [(capQuiet_tcpIncoming_ack _ _ _ _ _ hty).2.2.2] at hp; cases hp
  | @startSeg _ s _ hops seg _ _ _ | @loopSeg s _ _ hops seg _ _ _ _ =>
    obtain ⟨sa, hsa, _⟩ := hI.core.exA
    exact fun p hp => .inl ((tcpSendSeg_spec _ _ _ _ _ sa hsa).2 p hp).2.1
  | resendOne _ h =>
    obtain ⟨sa, p0, rest, hsa, hres, _, hfw⟩ := tcpResendOne_spec _ _ _ _ h
    obtain ⟨sa', hsa', hao⟩ := hI.core.exA
    rw [hsa] at hsa'; cases hsa'
    exact fun p hp => .inl ((hfw p hp).2.1.trans (hao.resend p0 (by rw [hres]; exact List.mem_cons_self)).1)
  | close =>
    obtain ⟨sa, hsa, _⟩ := hI.core.exA
    exact fun p hp => .inr ((tcpClose_spec _ _ _ sa hsa).2.2.1 p hp).1
  | _ => exact fun _ hp => nomatch hp

theorem TS.step_ok (c : TcpCfg) (s : TS) (l : TLbl) : StepOk c l s (s.effsA c l) (s.effsB c l) (s.step c l) :=
  .of_move (TS.step_move c s l)

end

/-- `TS` (unchanged) plus: `log` = the capture records emitted so far, in emission order
    (the `pcapTcp` effects of ALL effect lists of every step); `wire` = every packet a function
    of the writer forwarded (= put into the bag), in order, with the time of the step -/
structure CS where
  ts : TS
  log : List CapT := []
  wire : List (Int × Pkt) := []
  deriving Repr

def CS.step (c : TcpCfg) (s : CS) (l : TLbl) : CS :=
  { ts := s.ts.step c l,
    log := s.log ++ capsTcp (s.ts.effs c l),
    wire := s.wire ++ (s5_fwdsOf (s.ts.effsA c l)).map (fun p => (l.time, p)) }

def CS.run (c : TcpCfg) (s : CS) (ls : List TLbl) : CS := ls.foldl (CS.step c) s

def CS.init (c : TcpCfg) (n : NetSt) : CS := { ts := TS.init c n }

theorem CS.run_ts (c : TcpCfg) (s : CS) (ls : List TLbl) : (CS.run c s ls).ts = TS.run c s.ts ls := by
  induction ls generalizing s with
  | nil => rfl
  | cons l rest ih => exact ih (s.step c l)

theorem CS.run_append (c : TcpCfg) (s : CS) (l1 l2 : List TLbl) :
    CS.run c s (l1 ++ l2) = CS.run c (CS.run c s l1) l2 := by
  unfold CS.run; rw [List.foldl_append]

theorem CS.capOk_run (c : TcpCfg) (hne : c.a ≠ c.b) (k : CapKey) (ls : List TLbl) :
    ∀ (s : CS), CapOk c.a k s.ts.net s.wire s.log →
      CapOk c.a k (CS.run c s ls).ts.net (CS.run c s ls).wire (CS.run c s ls).log := by
  induction ls with
  | nil => intro s h; exact h
  | cons l rest ih =>
    intro s h
    have ok := TS.step_ok c s.ts l
    apply ih (s.step c l)
    show CapOk c.a k (s.ts.step c l).net _ (s.log ++ capsTcp (s.ts.effsA c l ++ s.ts.effsB c l))
    rw [capsTcp_append, ok.noCapB, List.append_nil]
    exact ok.cap hne k _ _ h

theorem CS.capOk_init_run (c : TcpCfg) (hne : c.a ≠ c.b) (k : CapKey) (n : NetSt)
    (hk : ConnAt n c.a k.cid k.idx k.src k.dst k.init) (hp : n.cfg.pcap = k.pcap) (ls : List TLbl) :
    CapOk c.a k (CS.run c (CS.init c n) ls).ts.net (CS.run c (CS.init c n) ls).wire (CS.run c (CS.init c n) ls).log :=
  CS.capOk_run c hne k ls _ ⟨hp, by show ([] : List CapT) = _; cases k.pcap <;> rfl, trivial, Or.inr hk⟩

def capPaySum (l : List CapT) : Nat := (l.map (fun r => r.payload.length)).sum

/-- the records' sequence numbers follow the `uint32` counter discipline starting at `q` -/
def CapSeq (q : Nat) : List CapT → Prop
  | [] => True
  | r :: rest => r.seq = q ∧ CapSeq ((q + r.payload.length) % 4294967296) rest

theorem capSeq_of_wireSeq (k : CapKey) (q : Nat) (w : List (Int × Pkt)) (h : WireSeq q w) :
    CapSeq q (w.map (recOf k)) := by
  induction w generalizing q with
  | nil => trivial
  | cons e r ih => exact ⟨h.1, ih _ h.2⟩

theorem CapOk.capSeq {a : String} {k : CapKey} {n : NetSt} {w : List (Int × Pkt)} {l : List CapT}
    (h : CapOk a k n w l) (hpc : k.pcap = true) : CapSeq k.init l := by
  rw [h.log, hpc]; exact capSeq_of_wireSeq k _ _ h.seq

theorem capSeq_take (q : Nat) (l : List CapT) (i : Nat) (h : CapSeq q l) : CapSeq q (l.take i) := by
  induction l generalizing q i with
  | nil => simp; trivial
  | cons r rest ih =>
    cases i with
    | zero => trivial
    | succ j => exact ⟨h.1, ih _ j h.2⟩

theorem capSeq_getElem (q : Nat) (hq : q < 4294967296) (l : List CapT) (h : CapSeq q l) (i : Nat) (hi : i < l.length) :
    l[i].seq = (q + capPaySum (l.take i)) % 4294967296 := by
  induction l generalizing q i with
  | nil => simp at hi
  | cons r rest ih =>
    cases i with
    | zero => exact h.1.trans (Nat.mod_eq_of_lt hq).symm
    | succ j =>
      simp only [List.getElem_cons_succ, List.take_succ_cons]
      rw [ih _ (Nat.mod_lt _ (by decide)) h.2 j (by simpa using hi), Nat.mod_add_mod, Nat.add_assoc]
      rfl

/-- the bytes the world driver appends for one record (`Drv/Kernel.lean`: `Pcap.recordTcp` with
    the dotted-quad addresses turned into numbers by `ip`) -/
def CapT.bytes (ip : String → Nat) (r : CapT) : List UInt8 :=
  Pcap.recordTcp r.t.toNat (ip r.src.addr) (ip r.dst.addr) r.src.port r.dst.port r.seq r.payload

def capFile (ip : String → Nat) (log : List CapT) : List UInt8 :=
  Pcap.fileHeader ++ (log.map (CapT.bytes ip)).flatten

def CapT.toSend (ip : String → Nat) (conn dir : Nat) (r : CapT) : Pcap.Send :=
  { kind := .tcp, t := r.t.toNat, srcIp := ip r.src.addr, dstIp := ip r.dst.addr,
    srcPort := r.src.port, dstPort := r.dst.port, conn := conn, dir := dir, payload := r.payload }

theorem captureBody_of_capSeq (ip : String → Nat) (conn dir : Nat) (log : List CapT) :
    ∀ (q : Nat) (c : Pcap.Ctrs), c (conn, dir) = q → CapSeq q log →
      (log.map (CapT.bytes ip)).flatten = Pcap.captureBody c (log.map (CapT.toSend ip conn dir)) := by
  induction log with
  | nil => intro q c _ _; rfl
  | cons r rest ih =>
    intro q c hc h
    simp only [List.map_cons, List.flatten_cons, Pcap.captureBody]
    have hk : (CapT.toSend ip conn dir r).key = (conn, dir) := rfl
    have he : Pcap.emit c (CapT.toSend ip conn dir r) =
        (CapT.bytes ip r, c.set (conn, dir) ((q + r.payload.length) % 4294967296)) := by
      simp only [Pcap.emit, CapT.toSend, Pcap.Send.key, Pcap.nextSeq, CapT.bytes, hc, h.1]
    rw [he]
    dsimp only
    have hset : (c.set (conn, dir) ((q + r.payload.length) % 4294967296)) (conn, dir) = (q + r.payload.length) % 4294967296 := by
      show (if (conn, dir) = (conn, dir) then _ else c (conn, dir)) = _
      rw [if_pos rfl]
    rw [ih ((q + r.payload.length) % 4294967296) _ hset h.2]

theorem capFile_eq_capture (ip : String → Nat) (conn dir : Nat) (log : List CapT) (q : Nat) (h : CapSeq q log) :
    capFile ip log = Pcap.capture (fun _ => q) (log.map (CapT.toSend ip conn dir)) := by
  unfold capFile Pcap.capture
  rw [captureBody_of_capSeq ip conn dir log q (fun _ => q) rfl h]

def WireGenuine (segs : List (List UInt8)) (w : List (Int × Pkt)) : Prop :=
  ∀ e ∈ w, (e.2.ty = .payload ∧ segs[e.2.id]? = some e.2.payload) ∨ (e.2.ty = .err ∧ e.2.payload = [])

/-- what the writer's functions forward goes into the bag, where the invariant of `TS` says it is
    genuine — or an ACK, which the writer's functions never forward; what was on the wire before
    stays genuine because the segment log only grows -/
theorem CS.genuine_step (c : TcpCfg) (s : CS) (l : TLbl) (hI : TInv c s.ts)
    (h : WireGenuine s.ts.segs s.wire) : WireGenuine (s.step c l).ts.segs (s.step c l).wire := by
  have ok := TS.step_ok c s.ts l
  obtain ⟨x, hx⟩ := ok.segs
  intro e he
  show (_ ∧ (s.ts.step c l).segs[e.2.id]? = _) ∨ _
  rcases List.mem_append.mp he with he | he
  · refine (h e he).imp_left (fun ⟨h1, h2⟩ => ⟨h1, ?_⟩)
    rw [← hx, List.getElem?_append_left (List.getElem?_eq_some_iff.mp h2).1]; exact h2
  · obtain ⟨p, hp, rfl⟩ := List.mem_map.mp he
    obtain ⟨sa, hsa, hao⟩ := hI.core.exA
    have hty := (TS.step_move c s.ts l).fwd_ty hI p hp
    obtain ⟨b0, _, hb⟩ := ok.bag
    have hmem : p ∈ (s.ts.step c l).bag := by
      rw [hb, s5_fwdsOf_append]
      exact List.mem_append_right _ (List.mem_append_left _ hp)
    rcases (hI.step l).core.bag p hmem with (⟨h1, h2⟩ | ⟨h1, _, _, h4, _⟩) | ⟨h1, _⟩
    · exact Or.inl ⟨h1, h2⟩
    · exact Or.inr ⟨h1, h4⟩
    · rcases hty with h | h <;> rw [h1] at h <;> cases h

theorem CS.genuine_run (c : TcpCfg) (ls : List TLbl) :
    ∀ (s : CS), TInv c s.ts → WireGenuine s.ts.segs s.wire →
      WireGenuine (CS.run c s ls).ts.segs (CS.run c s ls).wire := by
  induction ls with
  | nil => intro s _ h; exact h
  | cons l rest ih => intro s hI h; exact ih _ (hI.step l) (CS.genuine_step c s l hI h)

end SimVerif
