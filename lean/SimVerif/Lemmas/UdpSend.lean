/-
  SimVerif.Lemmas.UdpSend — the normal form of `NetSt.udpSendTo` (SimVerif/Net.lean):
  `send_to` = `abort_send_handlers()`, the implicit bind of an unbound socket, then
  `send_to_impl` (`NetSt.udpSendTail`), whose outcomes are listed once: row by row, each under
  the negation of the earlier checks, and as one table (`udpSendTail_cases`). Everything else
  that is said about `send_to` follows from that table. Last, the route lookup `NetSt.udpRoute`.
-/
import SimVerif.Net
import SimVerif.Lemmas.Assoc

namespace SimVerif

def fwdsOf (e : List NEff) : List Pkt :=
  e.filterMap (fun x => match x with | .forward p => some p | _ => none)

theorem fwdsOf_append (a b : List NEff) : fwdsOf (a ++ b) = fwdsOf a ++ fwdsOf b := by
  simp [fwdsOf, List.filterMap_append]

theorem fwdsOf_abortSend (name : String) (u : UdpSock) : fwdsOf (u.abortSend name).2 = [] := by
  unfold UdpSock.abortSend
  cases u.waitSendH <;> simp [fwdsOf]

theorem fwdsOf_pcap (b : Bool) (now : Int) (src dst : Ep) (payload : List UInt8) :
    fwdsOf (if b then [NEff.pcapUdp now src dst payload] else []) = [] := by
  cases b <;> simp [fwdsOf]

def sendPkt (src : Ep) (hops : List String) (payload : List UInt8) : Pkt :=
  { id := 0, ty := .payload, len := payload.length, ovh := 28, hops := hops, src := src.toString, payload := payload }

/-- `send_to_impl` after the implicit bind: `n` the state, `e0` the effects so far, `ecb` the
    result of the bind (a copy of the tail of `NetSt.udpSendTo`, connected to it by
    `udpSendTo_eq`) -/
def NetSt.udpSendTail (n : NetSt) (e0 : List NEff) (ecb : Ec) (now : Int) (name : String) (dst : Ep)
    (payload : List UInt8) : NetSt × List NEff × Ec × Nat :=
  if ecb != .ok then (n, e0, ecb, 0) else
  match n.udp? name with
  | none => (n, e0, .other, 0)
  | some u =>
    if payload.length = 0 then (n, e0, .invalid, 0)
    else if payload.length > 65535 then (n, e0, .msgSize, 0)
    else if u.df && payload.length > n.cfg.pathMtu u.bound.addr dst.addr then (n, e0, .ok, payload.length)
    else if u.nextSend - now > u.sendQueueTime then (n, e0, .wouldBlock, 0)
    else
      match n.udpRoute u.bound dst with
      | none => (n, e0, .ok, payload.length)
      | some hops =>
        (n.setUdp name { u with nextSend := (if now ≤ u.nextSend then u.nextSend else now) + 10 * (payload.length + 28) },
         e0 ++ (if n.cfg.pcap then [NEff.pcapUdp now u.bound dst payload] else [])
            ++ [.forward { id := 0, ty := .payload, len := payload.length, ovh := 28, hops := hops,
                           src := u.bound.toString, payload := payload }], .ok, payload.length)

theorem udpSendTo_none (n : NetSt) (now : Int) (name : String) (dst : Ep) (payload : List UInt8)
    (h : n.udp? name = none) : n.udpSendTo now name dst payload = (n, [], .other, 0) := by
  unfold NetSt.udpSendTo; simp only [h]

theorem udpSendTo_eq (n : NetSt) (now : Int) (name : String) (dst : Ep) (payload : List UInt8) (u0 : UdpSock)
    (h : n.udp? name = some u0) :
    n.udpSendTo now name dst payload =
      NetSt.udpSendTail
        (if u0.bound.isDefault then (n.setUdp name { u0 with waitSendH := none }).udpBind name {}
          else (n.setUdp name { u0 with waitSendH := none }, Ec.ok)).1
        (u0.abortSend name).2
        (if u0.bound.isDefault then (n.setUdp name { u0 with waitSendH := none }).udpBind name {}
          else (n.setUdp name { u0 with waitSendH := none }, Ec.ok)).2
        now name dst payload := by
  unfold NetSt.udpSendTo NetSt.udpSendTail
  simp only [h]
  rfl

theorem udpSendTo_bound (n : NetSt) (now : Int) (name : String) (dst : Ep) (payload : List UInt8) (u0 : UdpSock)
    (h : n.udp? name = some u0) (hb : u0.bound.isDefault = false) :
    n.udpSendTo now name dst payload =
      (n.setUdp name { u0 with waitSendH := none }).udpSendTail (u0.abortSend name).2 .ok now name dst payload := by
  rw [udpSendTo_eq n now name dst payload u0 h]; simp [hb]

theorem udpSendTail_bindFailed (n : NetSt) (e0 : List NEff) (ecb : Ec) (now : Int) (name : String) (dst : Ep)
    (payload : List UInt8) (h : ecb ≠ .ok) : n.udpSendTail e0 ecb now name dst payload = (n, e0, ecb, 0) := by
  unfold NetSt.udpSendTail; simp [h]

theorem udpSendTail_missing (n : NetSt) (e0 : List NEff) (now : Int) (name : String) (dst : Ep)
    (payload : List UInt8) (h : n.udp? name = none) :
    n.udpSendTail e0 .ok now name dst payload = (n, e0, .other, 0) := by
  unfold NetSt.udpSendTail; simp [h]

section tail
variable (n : NetSt) (e0 : List NEff) (now : Int) (name : String) (dst : Ep) (payload : List UInt8) (u : UdpSock)
  (hu : n.udp? name = some u)
include hu

theorem udpSendTail_invalid (h0 : payload.length = 0) :
    n.udpSendTail e0 .ok now name dst payload = (n, e0, .invalid, 0) := by
  unfold NetSt.udpSendTail; simp [hu, h0]

theorem udpSendTail_msgSize (h1 : payload.length > 65535) :
    n.udpSendTail e0 .ok now name dst payload = (n, e0, .msgSize, 0) := by
  have h0 : payload.length ≠ 0 := by omega
  unfold NetSt.udpSendTail; simp [hu, h0, h1]

theorem udpSendTail_dfDrop (h0 : payload.length ≠ 0) (h1 : payload.length ≤ 65535)
    (h2 : u.df = true) (h3 : payload.length > n.cfg.pathMtu u.bound.addr dst.addr) :
    n.udpSendTail e0 .ok now name dst payload = (n, e0, .ok, payload.length) := by
  have h1' : ¬ payload.length > 65535 := by omega
  unfold NetSt.udpSendTail; simp [hu, h0, h1', h2, h3]

theorem udpSendTail_paced (h0 : payload.length ≠ 0) (h1 : payload.length ≤ 65535)
    (h2 : ¬ (u.df = true ∧ payload.length > n.cfg.pathMtu u.bound.addr dst.addr))
    (h3 : u.nextSend - now > u.sendQueueTime) :
    n.udpSendTail e0 .ok now name dst payload = (n, e0, .wouldBlock, 0) := by
  have h1' : ¬ payload.length > 65535 := by omega
  have h2' : (u.df && decide (payload.length > n.cfg.pathMtu u.bound.addr dst.addr)) = false := by
    cases hd : u.df <;> simp_all
  unfold NetSt.udpSendTail; simp only [hu]; simp [h0, h1', h2', h3]

theorem udpSendTail_noRoute (h0 : payload.length ≠ 0) (h1 : payload.length ≤ 65535)
    (h2 : ¬ (u.df = true ∧ payload.length > n.cfg.pathMtu u.bound.addr dst.addr))
    (h3 : ¬ u.nextSend - now > u.sendQueueTime) (h4 : n.udpRoute u.bound dst = none) :
    n.udpSendTail e0 .ok now name dst payload = (n, e0, .ok, payload.length) := by
  have h1' : ¬ payload.length > 65535 := by omega
  have h2' : (u.df && decide (payload.length > n.cfg.pathMtu u.bound.addr dst.addr)) = false := by
    cases hd : u.df <;> simp_all
  unfold NetSt.udpSendTail; simp only [hu]; simp [h0, h1', h2', h3, h4]

theorem udpSendTail_sent (h0 : payload.length ≠ 0) (h1 : payload.length ≤ 65535)
    (h2 : ¬ (u.df = true ∧ payload.length > n.cfg.pathMtu u.bound.addr dst.addr))
    (h3 : ¬ u.nextSend - now > u.sendQueueTime) (hops : List String) (h4 : n.udpRoute u.bound dst = some hops) :
    n.udpSendTail e0 .ok now name dst payload =
      (n.setUdp name { u with nextSend := (if now ≤ u.nextSend then u.nextSend else now) + 10 * (payload.length + 28) },
       e0 ++ (if n.cfg.pcap then [NEff.pcapUdp now u.bound dst payload] else []) ++ [.forward (sendPkt u.bound hops payload)],
       .ok, payload.length) := by
  have h1' : ¬ payload.length > 65535 := by omega
  have h2' : (u.df && decide (payload.length > n.cfg.pathMtu u.bound.addr dst.addr)) = false := by
    cases hd : u.df <;> simp_all
  unfold NetSt.udpSendTail; simp only [hu]; simp [h0, h1', h2', h3, h4, sendPkt]

end tail

/-- The outcome table of `send_to_impl`. The rows overlap: the row lemmas above carry the order
    of the checks. -/
theorem udpSendTail_cases (n : NetSt) (e0 : List NEff) (ecb : Ec) (now : Int) (name : String) (dst : Ep)
    (payload : List UInt8) :
    (∃ c, n.udpSendTail e0 ecb now name dst payload = (n, e0, c) ∧
      ((ecb ≠ .ok ∧ c = (ecb, 0))
       ∨ (ecb = .ok ∧ n.udp? name = none ∧ c = (.other, 0))
       ∨ ∃ u, ecb = .ok ∧ n.udp? name = some u ∧
          ((payload.length = 0 ∧ c = (.invalid, 0))
           ∨ (payload.length > 65535 ∧ c = (.msgSize, 0))
           ∨ (u.df = true ∧ payload.length > n.cfg.pathMtu u.bound.addr dst.addr ∧ c = (.ok, payload.length))
           ∨ (u.nextSend - now > u.sendQueueTime ∧ c = (.wouldBlock, 0))
           ∨ (n.udpRoute u.bound dst = none ∧ c = (.ok, payload.length)))))
    ∨ (∃ u hops, ecb = .ok ∧ n.udp? name = some u ∧ 0 < payload.length ∧ payload.length ≤ 65535
        ∧ ¬ (u.df = true ∧ payload.length > n.cfg.pathMtu u.bound.addr dst.addr)
        ∧ ¬ u.nextSend - now > u.sendQueueTime ∧ n.udpRoute u.bound dst = some hops
        ∧ n.udpSendTail e0 ecb now name dst payload =
            (n.setUdp name { u with nextSend := (if now ≤ u.nextSend then u.nextSend else now) + 10 * (payload.length + 28) },
             e0 ++ (if n.cfg.pcap then [NEff.pcapUdp now u.bound dst payload] else [])
                ++ [.forward (sendPkt u.bound hops payload)], .ok, payload.length)) := by
  by_cases hecb : ecb = .ok
  · subst hecb
    cases hu : n.udp? name with
    | none => exact .inl ⟨_, udpSendTail_missing n e0 now name dst payload hu, .inr (.inl ⟨rfl, rfl, rfl⟩)⟩
    | some u =>
      by_cases h0 : payload.length = 0
      · exact .inl ⟨_, udpSendTail_invalid n e0 now name dst payload u hu h0, .inr (.inr ⟨u, rfl, rfl, .inl ⟨h0, rfl⟩⟩)⟩
      by_cases h1 : payload.length > 65535
      · exact .inl ⟨_, udpSendTail_msgSize n e0 now name dst payload u hu h1,
          .inr (.inr ⟨u, rfl, rfl, .inr (.inl ⟨h1, rfl⟩)⟩)⟩
      have h1' : payload.length ≤ 65535 := by omega
      by_cases h2 : u.df = true ∧ payload.length > n.cfg.pathMtu u.bound.addr dst.addr
      · exact .inl ⟨_, udpSendTail_dfDrop n e0 now name dst payload u hu h0 h1' h2.1 h2.2,
          .inr (.inr ⟨u, rfl, rfl, .inr (.inr (.inl ⟨h2.1, h2.2, rfl⟩))⟩)⟩
      by_cases h3 : u.nextSend - now > u.sendQueueTime
      · exact .inl ⟨_, udpSendTail_paced n e0 now name dst payload u hu h0 h1' h2 h3,
          .inr (.inr ⟨u, rfl, rfl, .inr (.inr (.inr (.inl ⟨h3, rfl⟩)))⟩)⟩
      cases h4 : n.udpRoute u.bound dst with
      | none => exact .inl ⟨_, udpSendTail_noRoute n e0 now name dst payload u hu h0 h1' h2 h3 h4,
          .inr (.inr ⟨u, rfl, rfl, .inr (.inr (.inr (.inr ⟨h4, rfl⟩)))⟩)⟩
      | some hops => exact .inr ⟨u, hops, rfl, rfl, by omega, h1', h2, h3, h4,
          udpSendTail_sent n e0 now name dst payload u hu h0 h1' h2 h3 hops h4⟩
  · exact .inl ⟨_, udpSendTail_bindFailed n e0 ecb now name dst payload hecb, .inl ⟨hecb, rfl⟩⟩

theorem udpSendTail_total (n : NetSt) (e0 : List NEff) (ecb : Ec) (now : Int) (name : String) (dst : Ep)
    (payload : List UInt8) :
    ((n.udpSendTail e0 ecb now name dst payload).2.1 = e0
      ∧ ((ecb ≠ .ok ∧ (n.udpSendTail e0 ecb now name dst payload).2.2 = (ecb, 0))
         ∨ (n.udpSendTail e0 ecb now name dst payload).2.2 = (.other, 0)
         ∨ (n.udpSendTail e0 ecb now name dst payload).2.2 = (.invalid, 0)
         ∨ (n.udpSendTail e0 ecb now name dst payload).2.2 = (.msgSize, 0)
         ∨ (n.udpSendTail e0 ecb now name dst payload).2.2 = (.wouldBlock, 0)
         ∨ (n.udpSendTail e0 ecb now name dst payload).2.2 = (.ok, payload.length)))
    ∨ (∃ u hops, n.udp? name = some u ∧ ecb = .ok ∧ 0 < payload.length ∧ payload.length ≤ 65535
        ∧ n.udpRoute u.bound dst = some hops
        ∧ (n.udpSendTail e0 ecb now name dst payload).2 =
            (e0 ++ (if n.cfg.pcap then [NEff.pcapUdp now u.bound dst payload] else [])
               ++ [.forward (sendPkt u.bound hops payload)], .ok, payload.length)) := by
  rcases udpSendTail_cases n e0 ecb now name dst payload with ⟨c, e, hc⟩ | ⟨u, hops, hecb, hu, h0, h1, _, _, h4, e⟩
  · rw [e]
    refine .inl ⟨rfl, ?_⟩
    rcases hc with ⟨h, rfl⟩ | ⟨_, _, rfl⟩ | ⟨u, _, _, ⟨_, rfl⟩ | ⟨_, rfl⟩ | ⟨_, _, rfl⟩ | ⟨_, rfl⟩ | ⟨_, rfl⟩⟩
    · exact .inl ⟨h, rfl⟩
    · exact .inr (.inl rfl)
    · exact .inr (.inr (.inl rfl))
    · exact .inr (.inr (.inr (.inl rfl)))
    · exact .inr (.inr (.inr (.inr (.inr rfl))))
    · exact .inr (.inr (.inr (.inr (.inl rfl))))
    · exact .inr (.inr (.inr (.inr (.inr rfl))))
  · rw [e]
    exact .inr ⟨u, hops, hu, hecb, h0, h1, h4, rfl⟩

/-- `send_to` on an existing socket is `send_to_impl` run in `r`: the state after
    `abort_send_handlers()`, or (unbound socket) the result of the implicit bind in that state.
    What holds of both holds of `r`. -/
theorem udpSendTo_tail {P : NetSt × Ec → Prop} (n : NetSt) (now : Int) (name : String) (dst : Ep)
    (payload : List UInt8) (u0 : UdpSock) (h : n.udp? name = some u0)
    (hbound : P (n.setUdp name { u0 with waitSendH := none }, .ok))
    (hbind : P ((n.setUdp name { u0 with waitSendH := none }).udpBind name {})) :
    ∃ r, P r ∧ n.udpSendTo now name dst payload = r.1.udpSendTail (u0.abortSend name).2 r.2 now name dst payload := by
  rw [udpSendTo_eq n now name dst payload u0 h]
  split
  · exact ⟨_, hbind, rfl⟩
  · exact ⟨_, hbound, rfl⟩

/-- the second alternative is excluded by the registry invariant (`RegInv.reg_target`) -/
theorem udpRoute_none_iff (n : NetSt) (src dst : Ep) :
    n.udpRoute src dst = none ↔
      n.reg.udp.lookup dst = none ∨ ∃ tgt, n.reg.udp.lookup dst = some tgt ∧ n.udp? tgt = none := by
  unfold NetSt.udpRoute
  cases hl : n.reg.udp.lookup dst with
  | none => simp
  | some tgt =>
    cases ht : n.udp? tgt with
    | none => simp [ht]
    | some t => simp [ht]

theorem udpRoute_some (n : NetSt) (src dst : Ep) (tgt : String) (t : UdpSock)
    (hl : n.reg.udp.lookup dst = some tgt) (ht : n.udp? tgt = some t) :
    n.udpRoute src dst = some (n.cfg.outRoute src.addr ++ n.cfg.netRoute src.addr dst.addr
      ++ n.incomingRoute t.bound t.fwd) := by
  unfold NetSt.udpRoute; simp [hl, ht]

theorem udpRoute_setUdp (n : NetSt) (name : String) (u u' : UdpSock) (hs : n.udp? name = some u)
    (hb : u'.bound = u.bound) (hf : u'.fwd = u.fwd) (a b : Ep) :
    (n.setUdp name u').udpRoute a b = n.udpRoute a b := by
  unfold NetSt.udpRoute
  simp only [reg_setUdp, cfg_setUdp]
  split
  · rfl
  · rename_i tgt _
    by_cases ht : tgt = name
    · subst ht
      rw [udp?_setUdp_same, hs]; dsimp only
      unfold NetSt.incomingRoute
      rw [hb, hf]; rfl
    · rw [udp?_setUdp_other _ _ _ _ ht]
      split <;> rfl

end SimVerif
