/-
  UDP sockets (SimVerif/Net.lean) as C04 / C12 need them: what the abort functions
  post (as explicit expressions of the handler slots), that no API function invokes a
  handler inline, that completing functions empty the slot they complete, and the
  conservation law "handler ids in slots + completions produced = ids before + new id".
-/
import SimVerif.Lemmas.HandlersBasic
import SimVerif.Lemmas.UdpSend
import SimVerif.Lemmas.UdpSock
import SimVerif.Lemmas.Frames

namespace SimVerif

/-- the handler ids a UDP socket holds in its three slots, in the order the aborts visit them -/
def UdpSock.slotIds (u : UdpSock) : List Nat :=
  (u.recvH.map (·.h)).toList ++ u.waitRecvH.toList ++ u.waitSendH.toList

def UdpSock.idle (u : UdpSock) : Prop := u.recvH = none ∧ u.waitRecvH = none ∧ u.waitSendH = none

namespace HL

theorem postsOf_udpAbortRecvEffs (u : UdpSock) :
    (h4_postsOf (udpAbortRecvEffs u)).map (·.h) = (u.recvH.map (·.h)).toList ++ u.waitRecvH.toList
    ∧ (∀ c ∈ h4_postsOf (udpAbortRecvEffs u), c.ec = .aborted)
    ∧ postsOnly (udpAbortRecvEffs u) := by
  unfold udpAbortRecvEffs
  cases u.recvH <;> cases u.waitRecvH <;> simp [h4_postsOf, NEff.isPostOrCancel]

theorem postsOf_udpAbortSendEffs (u : UdpSock) :
    (h4_postsOf (udpAbortSendEffs u)).map (·.h) = u.waitSendH.toList
    ∧ (∀ c ∈ h4_postsOf (udpAbortSendEffs u), c.ec = .aborted)
    ∧ postsOnly (udpAbortSendEffs u) := by
  unfold udpAbortSendEffs
  cases u.waitSendH <;> simp [h4_postsOf, NEff.isPostOrCancel]

theorem effIds_udpAbortRecvEffs (u : UdpSock) :
    effIds (udpAbortRecvEffs u) = (u.recvH.map (·.h)).toList ++ u.waitRecvH.toList := by
  rw [effIds_noInvoke (postsOf_udpAbortRecvEffs u).2.2.noInvoke, (postsOf_udpAbortRecvEffs u).1]

theorem effIds_udpAbortSendEffs (u : UdpSock) : effIds (udpAbortSendEffs u) = u.waitSendH.toList := by
  rw [effIds_noInvoke (postsOf_udpAbortSendEffs u).2.2.noInvoke, (postsOf_udpAbortSendEffs u).1]

theorem posts_udp_cancel (name : String) (u : UdpSock) : postsOnly (u.cancel name).2 := by
  rw [UdpSock.cancel_eq]
  simp [(postsOf_udpAbortSendEffs u).2.2, (postsOf_udpAbortRecvEffs u).2.2, NEff.isPostOrCancel]

theorem ni_udp_abortRecv (u : UdpSock) : noInvoke u.abortRecv.2 := (postsOf_udpAbortRecvEffs u).2.2.noInvoke

theorem ni_udp_abortSend (name : String) (u : UdpSock) : noInvoke (u.abortSend name).2 := by
  rw [UdpSock.abortSend_eq]; simp [(postsOf_udpAbortSendEffs u).2.2.noInvoke, NEff.isInvoke]

theorem ni_udp_cancel (name : String) (u : UdpSock) : noInvoke (u.cancel name).2 := (posts_udp_cancel name u).noInvoke

theorem ni_udp_asyncReceive (u : UdpSock) (op : RecvOp) : noInvoke (u.asyncReceive op).2 := by
  unfold UdpSock.asyncReceive; dsimp only; split <;> simp [NEff.isInvoke]

theorem ni_udp_asyncWaitReceive (u : UdpSock) (h : Nat) : noInvoke (u.asyncWaitReceive h).2 := by
  rw [UdpSock.asyncWaitReceive_eq]; (repeat' split) <;> simp [NEff.isInvoke]

theorem ni_udp_maybeWakeup (u : UdpSock) : noInvoke u.maybeWakeup.2 := by
  rcases u.maybeWakeup_cases with e | ⟨_, _, e⟩ | ⟨_, _, e⟩ <;> rw [e] <;>
    simp [ni_udp_asyncReceive, ni_udp_asyncWaitReceive]

theorem ni_udp_incoming (u : UdpSock) (p : Pkt) : noInvoke (u.incoming p).2 := by
  rcases u.incoming_cases p with ⟨_, e⟩ | ⟨_, e, _⟩ <;> rw [e] <;> simp [ni_udp_maybeWakeup]

theorem ni_udpClose (n : NetSt) (name : String) : noInvoke (n.udpClose name).2 := by
  cases h : n.udp? name with
  | none => rw [udpClose_none n name h]; exact noInvoke_nil
  | some u => rw [udpClose_exact n name u h]; exact ni_udp_cancel _ _

theorem ni_udpOpen (n : NetSt) (name : String) (v4 : Bool) : noInvoke (n.udpOpen name v4).2 := by
  unfold NetSt.udpOpen; dsimp only; split <;> exact ni_udpClose _ _

theorem ni_udpCancel (n : NetSt) (name : String) : noInvoke (n.udpCancel name).2 := by
  unfold NetSt.udpCancel; split
  · simp
  · exact ni_udp_cancel _ _

theorem ni_udpAsyncRecv (n : NetSt) (name : String) (op : RecvOp) : noInvoke (n.udpAsyncRecv name op).2 := by
  unfold NetSt.udpAsyncRecv; split
  · simp
  · simp [ni_udp_abortRecv, ni_udp_asyncReceive]

theorem ni_udpWaitRead (n : NetSt) (name : String) (h : Nat) : noInvoke (n.udpWaitRead name h).2 := by
  unfold NetSt.udpWaitRead; split
  · simp
  · simp [ni_udp_abortRecv, ni_udp_asyncWaitReceive]

theorem ni_udpWaitWrite (n : NetSt) (now : Int) (name : String) (h : Nat) :
    noInvoke (n.udpWaitWrite now name h).2 := by
  unfold NetSt.udpWaitWrite; split
  · simp
  · dsimp only; split <;> simp [ni_udp_abortSend, NEff.isInvoke]

theorem ni_udpRecvNb (n : NetSt) (name : String) (caps : List Nat) : noInvoke (n.udpRecvNb name caps).2.1 := by
  unfold NetSt.udpRecvNb; split
  · simp
  · simp [ni_udp_abortRecv]

theorem udp_asyncReceive_rows (u : UdpSock) (op : RecvOp) :
    ((u.asyncReceive op).1.waitRecvH = u.waitRecvH ∧ (u.asyncReceive op).1.waitSendH = u.waitSendH)
    ∧ (((u.asyncReceive op).1.recvH = some op ∧ (u.asyncReceive op).2 = [])
      ∨ ((u.asyncReceive op).1.recvH = none ∧ ∃ c, (u.asyncReceive op).2 = [.post c] ∧ c.h = op.h)) := by
  rcases u.open_bound_queue_cases with ho | ⟨ho, hb⟩ | ⟨ho, hb, hq⟩ | ⟨p, rest, ho, hb, hq⟩
  · rw [u.asyncReceive_closed op ho]; exact ⟨⟨rfl, rfl⟩, Or.inr ⟨rfl, _, rfl, rfl⟩⟩
  · rw [u.asyncReceive_unbound op ho hb]; exact ⟨⟨rfl, rfl⟩, Or.inr ⟨rfl, _, rfl, rfl⟩⟩
  · rw [u.asyncReceive_empty op ho hb hq]; exact ⟨⟨rfl, rfl⟩, Or.inl ⟨rfl, rfl⟩⟩
  · rw [u.asyncReceive_cons op p rest ho hb hq]; exact ⟨⟨rfl, rfl⟩, Or.inr ⟨rfl, _, rfl, rfl⟩⟩

theorem udp_asyncWaitReceive_cases (u : UdpSock) (h : Nat) :
    ((u.asyncWaitReceive h).1.waitRecvH = some h ∧ (u.asyncWaitReceive h).2 = [])
    ∨ ((u.asyncWaitReceive h).1 = u ∧ ∃ c, (u.asyncWaitReceive h).2 = [.post c] ∧ c.h = h) := by
  rw [u.asyncWaitReceive_eq h]
  split
  · exact Or.inl ⟨rfl, rfl⟩
  · exact Or.inr ⟨rfl, _, rfl, rfl⟩

theorem udp_asyncWaitReceive_other (u : UdpSock) (h : Nat) :
    (u.asyncWaitReceive h).1.recvH = u.recvH ∧ (u.asyncWaitReceive h).1.waitSendH = u.waitSendH := by
  rw [u.asyncWaitReceive_eq h]
  split <;> exact ⟨rfl, rfl⟩

theorem udp_conserve_abortRecv (u : UdpSock) :
    (u.abortRecv.1.slotIds ++ effIds u.abortRecv.2).Perm u.slotIds := by
  rw [UdpSock.abortRecv_eq]; dsimp only
  rw [effIds_udpAbortRecvEffs]
  unfold UdpSock.slotIds; dsimp only
  simp only [Option.map_none, Option.toList_none, List.nil_append]
  exact List.perm_append_comm

theorem udp_conserve_abortSend (name : String) (u : UdpSock) :
    ((u.abortSend name).1.slotIds ++ effIds (u.abortSend name).2).Perm u.slotIds := by
  rw [UdpSock.abortSend_eq]; dsimp only
  rw [effIds_append, effIds_udpAbortSendEffs]
  unfold UdpSock.slotIds; dsimp only
  simp [effIds]

theorem udp_conserve_cancel (name : String) (u : UdpSock) :
    ((u.cancel name).1.slotIds ++ effIds (u.cancel name).2).Perm u.slotIds := by
  rw [UdpSock.cancel_eq]; dsimp only
  simp only [effIds_append, effIds_udpAbortSendEffs, effIds_udpAbortRecvEffs]
  unfold UdpSock.slotIds; dsimp only
  simp [effIds]

theorem udp_cancel_idle (name : String) (u : UdpSock) : (u.cancel name).1.idle := by
  rw [UdpSock.cancel_eq]; exact ⟨rfl, rfl, rfl⟩

theorem udp_conserve_asyncReceive (u : UdpSock) (op : RecvOp) (hfree : u.recvH = none) :
    ((u.asyncReceive op).1.slotIds ++ effIds (u.asyncReceive op).2).Perm (u.slotIds ++ [op.h]) := by
  have h2 := (udp_asyncReceive_rows u op).1
  unfold UdpSock.slotIds
  rw [h2.1, h2.2, hfree]
  rcases (udp_asyncReceive_rows u op).2 with ⟨h1, he⟩ | ⟨h1, c, he, hc⟩
  · rw [h1, he]
    simp only [Option.map_some, Option.toList_some, Option.map_none, Option.toList_none, effIds,
      List.append_nil, List.nil_append]
    rw [List.append_assoc]; exact List.perm_append_comm
  · rw [h1, he]
    simp only [Option.map_none, Option.toList_none, effIds, List.nil_append, hc]
    exact List.Perm.refl _

theorem udp_conserve_asyncWaitReceive (u : UdpSock) (h : Nat) (hfree : u.waitRecvH = none) :
    ((u.asyncWaitReceive h).1.slotIds ++ effIds (u.asyncWaitReceive h).2).Perm (u.slotIds ++ [h]) := by
  have h2 := udp_asyncWaitReceive_other u h
  rcases udp_asyncWaitReceive_cases u h with ⟨h1, he⟩ | ⟨h1, c, he, hc⟩
  · unfold UdpSock.slotIds
    rw [h2.1, h2.2, hfree, h1, he]
    simp only [Option.toList_some, Option.toList_none, effIds, List.append_nil]
    rw [List.append_assoc, List.append_assoc]
    exact List.Perm.append_left _ List.perm_append_comm
  · rw [h1, he]
    simp only [effIds, hc]
    exact List.Perm.refl _

theorem udp_conserve_maybeWakeup (u : UdpSock) :
    (u.maybeWakeup.1.slotIds ++ effIds u.maybeWakeup.2).Perm u.slotIds := by
  rcases u.maybeWakeup_cases with e | ⟨h, hw, e⟩ | ⟨op, hr, e⟩ <;> rw [e]
  · simp
  · refine (udp_conserve_asyncWaitReceive { u with waitRecvH := none } h rfl).trans ?_
    unfold UdpSock.slotIds; dsimp only; rw [hw]
    simp only [Option.toList_some, Option.toList_none, List.append_nil]
    rw [List.append_assoc, List.append_assoc]
    exact List.Perm.append_left _ List.perm_append_comm
  · refine (udp_conserve_asyncReceive { u with recvH := none } op rfl).trans ?_
    unfold UdpSock.slotIds; dsimp only; rw [hr]
    simp only [Option.map_some, Option.toList_some, Option.map_none, Option.toList_none,
      List.nil_append]
    exact List.perm_append_comm

theorem udp_conserve_incoming (u : UdpSock) (p : Pkt) :
    ((u.incoming p).1.slotIds ++ effIds (u.incoming p).2).Perm u.slotIds := by
  unfold UdpSock.incoming
  split
  · simp
  · exact udp_conserve_maybeWakeup _

def udpIds (n : NetSt) (name : String) : List Nat :=
  match n.udp? name with
  | some u => u.slotIds
  | none => []

theorem udpIds_of_some {n : NetSt} {name : String} {u : UdpSock} (h : n.udp? name = some u) :
    udpIds n name = u.slotIds := by simp [udpIds, h]

theorem udpBind_sum (n : NetSt) (name : String) (ep : Ep) (u : UdpSock) (h : n.udp? name = some u) (fw : Option Nat) :
    UdpFrame name fw n (n.udpBind name ep).1
    ∧ ∃ u', (n.udpBind name ep).1.udp? name = some u' ∧ u'.recvH = u.recvH ∧ u'.waitRecvH = u.waitRecvH
      ∧ u'.waitSendH = u.waitSendH := by
  unfold NetSt.udpBind
  rw [h]; dsimp only
  -- not open, wrong family, bound already, address not the node's: nothing changes
  iterate 4
    split
    · exact ⟨.refl .., u, h, rfl, rfl, rfl⟩
  split
  · exact ⟨.of_reg name fw n (simBind_filter ..), u, h, rfl, rfl, rfl⟩   -- the registry refuses: only `reg` changed
  · exact ⟨(UdpFrame.of_reg name fw n (simBind_filter ..)).setUdp _, _, udp?_setUdp_same _ _ _, rfl, rfl, rfl⟩

theorem slotIds_congr {u u' : UdpSock} (h1 : u'.recvH = u.recvH) (h2 : u'.waitRecvH = u.waitRecvH)
    (h3 : u'.waitSendH = u.waitSendH) : u'.slotIds = u.slotIds := by
  unfold UdpSock.slotIds; rw [h1, h2, h3]

theorem udp_conserve_lift {n : NetSt} {name : String} {u' : UdpSock} {effs : List NEff} {ids : List Nat}
    (hp : (u'.slotIds ++ effIds effs).Perm ids) :
    ((n.setUdp name u').udp? name).isSome ∧ (udpIds (n.setUdp name u') name ++ effIds effs).Perm ids := by
  rw [udpIds_of_some (udp?_setUdp_same _ _ _), udp?_setUdp_same]; exact ⟨rfl, hp⟩

theorem udpSendTo_sum (n : NetSt) (now : Int) (name : String) (dst : Ep) (pl : List UInt8)
    (u : UdpSock) (h : n.udp? name = some u) (fw : Option Nat) :
    UdpFrame name fw n (n.udpSendTo now name dst pl).1
    ∧ (∃ u', (n.udpSendTo now name dst pl).1.udp? name = some u' ∧ u'.recvH = u.recvH
        ∧ u'.waitRecvH = u.waitRecvH ∧ u'.waitSendH = none)
    ∧ ∃ tail, (n.udpSendTo now name dst pl).2.1 = (u.abortSend name).2 ++ tail ∧ silent tail := by
  -- after `abort_send_handlers()` and the implicit bind of an unbound socket
  have h0 : UdpFrame name fw n (n.setUdp name { u with waitSendH := none }) := (UdpFrame.refl ..).setUdp _
  obtain ⟨r, ⟨hf, ub, hub, a, b, c⟩, e⟩ := udpSendTo_tail
    (P := fun r => UdpFrame name fw n r.1 ∧ ∃ ub, r.1.udp? name = some ub ∧ ub.recvH = u.recvH
      ∧ ub.waitRecvH = u.waitRecvH ∧ ub.waitSendH = none)
    n now name dst pl u h ⟨h0, _, udp?_setUdp_same .., rfl, rfl, rfl⟩
    (let ⟨f, hs⟩ := udpBind_sum _ name {} _ (udp?_setUdp_same ..) fw; ⟨h0.trans f, hs⟩)
  rw [e]
  rcases udpSendTail_cases r.1 _ r.2 now name dst pl with ⟨_, e, -⟩ | ⟨ub', hops, -, hub', -, -, -, -, -, e⟩ <;> rw [e]
  · exact ⟨hf, ⟨ub, hub, a, b, c⟩, [], (List.append_nil _).symm, silent_nil⟩
  · cases hub.symm.trans hub'
    refine ⟨hf.setUdp _, ⟨_, udp?_setUdp_same .., a, b, c⟩, _, List.append_assoc _ _ _, ?_⟩
    split <;> simp [NEff.isSilent]

theorem ni_udpSendTo (n : NetSt) (now : Int) (name : String) (dst : Ep) (payload : List UInt8) :
    noInvoke (n.udpSendTo now name dst payload).2.1 := by
  cases h : n.udp? name with
  | none => rw [udpSendTo_none _ _ _ _ _ h]; exact noInvoke_nil
  | some u =>
    obtain ⟨-, -, tail, he, ht⟩ := udpSendTo_sum n now name dst payload u h none
    rw [he, noInvoke_append]
    exact ⟨ni_udp_abortSend name u, silent_noInvoke ht⟩

end HL

end SimVerif
