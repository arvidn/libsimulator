/-
  SimVerif.Lemmas.Assoc — lookup in the name-keyed association lists of the network model
  (`NetSt.udps`, `NetSt.tcps`, …) after the three ways the model changes them: `setAssoc`
  (replace in place or append, SimVerif/Net.lean), appending one entry, filtering a key out;
  then what each setter of `NetSt` (`setUdp`, `setTcp`, `setFwd`, `newFwd`, `setChan`) does to
  each accessor.
-/
import SimVerif.Tcp
import SimVerif.Lemmas.Lists

namespace SimVerif

theorem lookup_map_replace {α : Type} (l : List (String × α)) (k x : String) (v : α) :
    (l.map (fun e => if e.1 == k then (k, v) else e)).lookup x
      = if x = k then (if (l.lookup k).isSome then some v else none) else l.lookup x := by
  induction l with
  | nil => simp
  | cons e l ih =>
    obtain ⟨a, b⟩ := e
    simp only [List.map_cons, List.lookup_cons]
    by_cases hak : a = k <;> by_cases hx : x = k <;> simp [hak, hx] <;> grind

theorem lookup_append_single {α : Type} (l : List (String × α)) (k x : String) (v : α) :
    (l ++ [(k, v)]).lookup x = (l.lookup x).or (if x = k then some v else none) := by
  rw [List.lookup_append]
  by_cases hx : x = k
  · simp [hx]
  · have : (x == k) = false := by simp [hx]
    simp [hx, List.lookup_cons, this]

theorem lookup_setAssoc {α : Type} (l : List (String × α)) (k x : String) (v : α) :
    (setAssoc l k v).lookup x = if x = k then some v else l.lookup x := by
  unfold setAssoc
  split
  · rename_i h
    rw [lookup_map_replace]; simp [h]
  · rename_i h
    have h' : l.lookup k = none := by
      cases hh : l.lookup k <;> simp_all
    rw [lookup_append_single]
    by_cases hx : x = k
    · subst hx; simp [h']
    · simp [hx]

theorem lookup_setAssoc_same {α : Type} (l : List (String × α)) (k : String) (v : α) :
    (setAssoc l k v).lookup k = some v := by rw [lookup_setAssoc, if_pos rfl]

theorem lookup_setAssoc_other {α : Type} (l : List (String × α)) (k x : String) (v : α) (h : x ≠ k) :
    (setAssoc l k v).lookup x = l.lookup x := by rw [lookup_setAssoc, if_neg h]

theorem map_upd_noop {α : Type} (l : List (String × α)) (k : String) (v : α) (h : k ∉ l.map (·.1)) :
    l.map (fun e => if e.1 == k then (k, v) else e) = l := by
  induction l with
  | nil => rfl
  | cons e rest ih =>
    simp only [List.map_cons, List.mem_cons, not_or] at h
    have : (e.1 == k) = false := by simp; exact fun hh => h.1 hh.symm
    simp only [List.map_cons, this, Bool.false_eq_true, if_false, ih h.2]

theorem setAssoc_setAssoc {α : Type} (l : List (String × α)) (k : String) (v w : α) :
    setAssoc (setAssoc l k v) k w = setAssoc l k w := by
  have hk : ((setAssoc l k v).lookup k).isSome = true := by rw [lookup_setAssoc_same]; rfl
  rw [setAssoc, if_pos hk]
  unfold setAssoc
  by_cases h : (l.lookup k).isSome = true
  · rw [if_pos h, if_pos h, List.map_map]
    refine List.map_congr_left fun e _ => ?_
    by_cases he : (e.1 == k) = true
    · show (if ((if (e.1 == k) = true then (k, v) else e).1 == k) = true then (k, w) else _) = _
      rw [if_pos he, if_pos (beq_self_eq_true k)]; exact (if_pos he).symm
    · show (if ((if (e.1 == k) = true then (k, v) else e).1 == k) = true then (k, w) else _) = _
      rw [if_neg he, if_neg he]
  · rw [if_neg h, if_neg h, List.map_append]
    have hn := (lookup_none_iff l k).mp (Option.not_isSome_iff_eq_none.mp h)
    rw [map_upd_noop l k w fun hm => let ⟨e, he, hk⟩ := List.mem_map.mp hm; hn e.2 (hk ▸ he)]
    show l ++ [if (k == k) = true then (k, w) else (k, v)] = _
    rw [if_pos (beq_self_eq_true k)]

theorem lookup_filter_ne {α : Type} (l : List (String × α)) (k x : String) :
    (l.filter (fun e => e.1 != k)).lookup x = if x = k then none else l.lookup x := by
  induction l with
  | nil => simp
  | cons e l ih =>
    obtain ⟨a, b⟩ := e
    by_cases hak : a = k <;> by_cases hx : x = k <;> simp [hak, hx, List.lookup_cons, ih] <;> grind

theorem setAssoc_absent {α : Type} (l : List (String × α)) (k : String) (v : α) (h : l.lookup k = none) :
    setAssoc l k v = l ++ [(k, v)] := by
  unfold setAssoc; simp [h]

theorem setAssoc_keys_present {α : Type} (l : List (String × α)) (k : String) (v : α)
    (h : (l.lookup k).isSome) : (setAssoc l k v).map (·.1) = l.map (·.1) := by
  unfold setAssoc; simp only [h, if_true, List.map_map]
  apply List.map_congr_left
  intro e _
  simp only [Function.comp]
  split
  · rename_i he; simp only [beq_iff_eq] at he; exact he.symm
  · rfl

theorem count_setAssoc_present {α : Type} (f : α → List Nat) (l : List (String × α)) (k : String) (v v' : α)
    (hn : (l.map (·.1)).Nodup) (h : l.lookup k = some v) (z : Nat) :
    (((setAssoc l k v').map (fun e => f e.2)).flatten).count z + (f v).count z
      = ((l.map (fun e => f e.2)).flatten).count z + (f v').count z := by
  unfold setAssoc
  simp only [h, Option.isSome_some, if_true]
  induction l with
  | nil => simp [List.lookup] at h
  | cons e rest ih =>
    obtain ⟨k2, v2⟩ := e
    simp only [List.map_cons, List.nodup_cons] at hn
    by_cases hk : k2 = k
    · subst hk
      simp only [List.lookup, beq_self_eq_true, Option.some.injEq] at h
      subst h
      simp only [List.map_cons, beq_self_eq_true, if_true, List.flatten_cons, List.count_append]
      rw [map_upd_noop rest k2 v' hn.1]
      omega
    · have hk2 : (k == k2) = false := by simp; exact fun hh => hk hh.symm
      have hk3 : (k2 == k) = false := by simp [hk]
      simp only [List.lookup, hk2] at h
      have := ih hn.2 h
      simp only [List.map_cons, hk3, Bool.false_eq_true, if_false, List.flatten_cons, List.count_append]
      omega

@[simp] theorem udp?_setUdp (n : NetSt) (k x : String) (v : UdpSock) :
    (n.setUdp k v).udp? x = if x = k then some v else n.udp? x := by
  simp [NetSt.setUdp, NetSt.udp?, lookup_setAssoc]
@[simp] theorem tcp?_setUdp (n : NetSt) (k x : String) (v : UdpSock) : (n.setUdp k v).tcp? x = n.tcp? x := rfl
@[simp] theorem reg_setUdp (n : NetSt) (k : String) (v : UdpSock) : (n.setUdp k v).reg = n.reg := rfl
@[simp] theorem fwds_setUdp (n : NetSt) (k : String) (v : UdpSock) : (n.setUdp k v).fwds = n.fwds := rfl
@[simp] theorem cfg_setUdp (n : NetSt) (k : String) (v : UdpSock) : (n.setUdp k v).cfg = n.cfg := rfl
@[simp] theorem chans_setUdp (n : NetSt) (k : String) (v : UdpSock) : (n.setUdp k v).chans = n.chans := rfl
@[simp] theorem udp?_setUdp_same (n : NetSt) (k : String) (v : UdpSock) :
    (n.setUdp k v).udp? k = some v := lookup_setAssoc_same _ _ _
theorem udp?_setUdp_other (n : NetSt) (k k' : String) (v : UdpSock) (h : k' ≠ k) :
    (n.setUdp k v).udp? k' = n.udp? k' := lookup_setAssoc_other _ _ _ _ h
@[simp] theorem chan?_setUdp (n : NetSt) (k : String) (v : UdpSock) (c : Nat) :
    (n.setUdp k v).chan? c = n.chan? c := rfl
@[simp] theorem tcps_setUdp (n : NetSt) (k : String) (v : UdpSock) : (n.setUdp k v).tcps = n.tcps := rfl
@[simp] theorem fwdTarget_setUdp (n : NetSt) (k : String) (v : UdpSock) (f : Nat) :
    (n.setUdp k v).fwdTarget f = n.fwdTarget f := rfl

@[simp] theorem tcp?_setTcp (n : NetSt) (k x : String) (v : TcpSock) :
    (n.setTcp k v).tcp? x = if x = k then some v else n.tcp? x := by
  simp [NetSt.setTcp, NetSt.tcp?, lookup_setAssoc]
@[simp] theorem udp?_setTcp (n : NetSt) (k x : String) (v : TcpSock) : (n.setTcp k v).udp? x = n.udp? x := rfl
@[simp] theorem reg_setTcp (n : NetSt) (k : String) (v : TcpSock) : (n.setTcp k v).reg = n.reg := rfl
@[simp] theorem fwds_setTcp (n : NetSt) (k : String) (v : TcpSock) : (n.setTcp k v).fwds = n.fwds := rfl
@[simp] theorem cfg_setTcp (n : NetSt) (k : String) (v : TcpSock) : (n.setTcp k v).cfg = n.cfg := rfl
@[simp] theorem chans_setTcp (n : NetSt) (k : String) (v : TcpSock) : (n.setTcp k v).chans = n.chans := rfl
@[simp] theorem tcp?_setTcp_same (n : NetSt) (k : String) (v : TcpSock) :
    (n.setTcp k v).tcp? k = some v := lookup_setAssoc_same _ _ _
theorem tcp?_setTcp_other (n : NetSt) (k k' : String) (v : TcpSock) (h : k' ≠ k) :
    (n.setTcp k v).tcp? k' = n.tcp? k' := lookup_setAssoc_other _ _ _ _ h
@[simp] theorem chan?_setTcp (n : NetSt) (k : String) (v : TcpSock) (c : Nat) :
    (n.setTcp k v).chan? c = n.chan? c := rfl
@[simp] theorem udps_setTcp (n : NetSt) (k : String) (v : TcpSock) : (n.setTcp k v).udps = n.udps := rfl
@[simp] theorem fwdTarget_setTcp (n : NetSt) (k : String) (v : TcpSock) (f : Nat) :
    (n.setTcp k v).fwdTarget f = n.fwdTarget f := rfl
theorem setTcp_setTcp (n : NetSt) (k : String) (v w : TcpSock) : (n.setTcp k v).setTcp k w = n.setTcp k w := by
  simp [NetSt.setTcp, setAssoc_setAssoc]

@[simp] theorem udp?_setFwd (n : NetSt) (f : Nat) (t : Option String) (x : String) : (n.setFwd f t).udp? x = n.udp? x := rfl
@[simp] theorem tcp?_setFwd (n : NetSt) (f : Nat) (t : Option String) (x : String) : (n.setFwd f t).tcp? x = n.tcp? x := rfl
@[simp] theorem reg_setFwd (n : NetSt) (f : Nat) (t : Option String) : (n.setFwd f t).reg = n.reg := rfl
@[simp] theorem cfg_setFwd (n : NetSt) (f : Nat) (t : Option String) : (n.setFwd f t).cfg = n.cfg := rfl
@[simp] theorem chans_setFwd (n : NetSt) (f : Nat) (t : Option String) : (n.setFwd f t).chans = n.chans := rfl
@[simp] theorem fwds_length_setFwd (n : NetSt) (f : Nat) (t : Option String) :
    (n.setFwd f t).fwds.length = n.fwds.length := by simp [NetSt.setFwd]
@[simp] theorem chan?_setFwd (n : NetSt) (f : Nat) (t : Option String) (c : Nat) :
    (n.setFwd f t).chan? c = n.chan? c := rfl

theorem fwdTarget_lt (n : NetSt) (f : Nat) (x : String) (h : n.fwdTarget f = some x) : f < n.fwds.length := by
  unfold NetSt.fwdTarget at h
  cases hh : n.fwds[f]? with
  | none => simp [hh] at h
  | some v => exact (List.getElem?_eq_some_iff.mp hh).1

theorem fwdTarget_ge (n : NetSt) (f : Nat) (h : n.fwds.length ≤ f) : n.fwdTarget f = none := by
  unfold NetSt.fwdTarget
  rw [List.getElem?_eq_none h]; rfl

theorem fwdTarget_congr (n n' : NetSt) (h : n'.fwds = n.fwds) (g : Nat) : n'.fwdTarget g = n.fwdTarget g := by
  unfold NetSt.fwdTarget; rw [h]

theorem fwdTarget_setFwd (n : NetSt) (f g : Nat) (t : Option String) :
    (n.setFwd f t).fwdTarget g = if g = f ∧ f < n.fwds.length then t else n.fwdTarget g := by
  unfold NetSt.fwdTarget NetSt.setFwd
  rw [List.getElem?_mapIdx]
  by_cases hg : g < n.fwds.length
  · rw [List.getElem?_eq_getElem hg]
    by_cases h : g = f
    · subst h; simp [hg]
    · simp [h]
  · rw [List.getElem?_eq_none (by omega)]
    exact (if_neg fun ⟨c1, c2⟩ => hg (c1 ▸ c2)).symm

/-- the forwarder table after `close` / move construction, written as those functions write
    it: the forwarder `fo` the object held, if any, now points to `t` -/
theorem fwdTarget_setFwdOpt {n n' : NetSt} {fo : Option Nat} {t : Option String}
    (h : n'.fwds = match fo with | some f => (n.setFwd f t).fwds | none => n.fwds) :
    n'.fwds.length = n.fwds.length
    ∧ ∀ g, n'.fwdTarget g = if fo = some g ∧ g < n.fwds.length then t else n.fwdTarget g := by
  cases fo with
  | none => exact ⟨by rw [h], fun g => by rw [fwdTarget_congr _ _ h]; simp⟩
  | some f =>
    refine ⟨by rw [h]; simp [NetSt.setFwd], fun g => ?_⟩
    rw [fwdTarget_congr (n.setFwd f t) _ h, fwdTarget_setFwd]
    by_cases hg : g = f
    · subst hg; simp
    · simp [hg, Ne.symm hg]

/-- detaching (`close`): an id beyond the table points nowhere anyway -/
theorem fwdTarget_detach {n n' : NetSt} {fo : Option Nat}
    (h : n'.fwds = match fo with | some f => (n.setFwd f none).fwds | none => n.fwds) (g : Nat) :
    n'.fwdTarget g = if fo = some g then none else n.fwdTarget g := by
  rw [(fwdTarget_setFwdOpt h).2]
  by_cases hg : fo = some g
  · by_cases hl : g < n.fwds.length
    · rw [if_pos ⟨hg, hl⟩, if_pos hg]
    · rw [if_neg (fun c => hl c.2), if_pos hg]; exact fwdTarget_ge n g (by omega)
  · rw [if_neg (fun c => hg c.1), if_neg hg]

@[simp] theorem newFwd_snd (n : NetSt) (name : String) : (n.newFwd name).2 = n.fwds.length := rfl
@[simp] theorem udp?_newFwd (n : NetSt) (name x : String) : (n.newFwd name).1.udp? x = n.udp? x := rfl
@[simp] theorem tcp?_newFwd (n : NetSt) (name x : String) : (n.newFwd name).1.tcp? x = n.tcp? x := rfl
@[simp] theorem reg_newFwd (n : NetSt) (name : String) : (n.newFwd name).1.reg = n.reg := rfl
@[simp] theorem cfg_newFwd (n : NetSt) (name : String) : (n.newFwd name).1.cfg = n.cfg := rfl
@[simp] theorem chans_newFwd (n : NetSt) (name : String) : (n.newFwd name).1.chans = n.chans := rfl
@[simp] theorem fwds_length_newFwd (n : NetSt) (name : String) :
    (n.newFwd name).1.fwds.length = n.fwds.length + 1 := by simp [NetSt.newFwd]

theorem fwdTarget_newFwd (n : NetSt) (name : String) (g : Nat) :
    (n.newFwd name).1.fwdTarget g = if g = n.fwds.length then some name else n.fwdTarget g := by
  unfold NetSt.fwdTarget NetSt.newFwd
  simp only [List.getElem?_append]
  by_cases h : g < n.fwds.length
  · have : g ≠ n.fwds.length := by omega
    simp [h, this]
  · by_cases h2 : g = n.fwds.length
    · subst h2; simp
    · have h3 : n.fwds.length ≤ g := by omega
      simp [h, h2]
      have : ¬ g - n.fwds.length = 0 := by omega
      cases hh : g - n.fwds.length with
      | zero => omega
      | succ k => simp
@[simp] theorem chan?_newFwd (n : NetSt) (k : String) (c : Nat) : (n.newFwd k).1.chan? c = n.chan? c := rfl

@[simp] theorem udp?_setChan (n : NetSt) (c : Nat) (ch : Chan) (x : String) : (n.setChan c ch).udp? x = n.udp? x := rfl
@[simp] theorem tcp?_setChan (n : NetSt) (c : Nat) (ch : Chan) (x : String) : (n.setChan c ch).tcp? x = n.tcp? x := rfl
@[simp] theorem reg_setChan (n : NetSt) (c : Nat) (ch : Chan) : (n.setChan c ch).reg = n.reg := rfl
@[simp] theorem fwds_setChan (n : NetSt) (c : Nat) (ch : Chan) : (n.setChan c ch).fwds = n.fwds := rfl
@[simp] theorem cfg_setChan (n : NetSt) (c : Nat) (ch : Chan) : (n.setChan c ch).cfg = n.cfg := rfl
@[simp] theorem fwdTarget_setChan (n : NetSt) (c : Nat) (ch : Chan) (f : Nat) :
    (n.setChan c ch).fwdTarget f = n.fwdTarget f := rfl
theorem chan?_setChan (n : NetSt) (c d : Nat) (ch : Chan) :
    (n.setChan c ch).chan? d = if d = c then (n.chan? d).map (fun _ => ch) else n.chan? d := by
  simp only [NetSt.setChan, NetSt.chan?, List.getElem?_mapIdx]
  cases n.chans[d]? <;> simp
  split <;> simp_all
theorem chan?_isSome_iff (n : NetSt) (c : Nat) : (n.chan? c).isSome ↔ c < n.chans.length := by
  unfold NetSt.chan?; simp

theorem chan?_setChan_same (n : NetSt) (c : Nat) (ch : Chan) (h : (n.chan? c).isSome) :
    (n.setChan c ch).chan? c = some ch := by
  obtain ⟨x, hx⟩ := Option.isSome_iff_exists.mp h
  rw [chan?_setChan, if_pos rfl, hx]; rfl
theorem chan?_setChan_other (n : NetSt) (c c' : Nat) (ch : Chan) (h : c' ≠ c) :
    (n.setChan c ch).chan? c' = n.chan? c' := by rw [chan?_setChan, if_neg h]

namespace Hs
@[simp] theorem setChan_length (n : NetSt) (c : Nat) (ch : Chan) : (n.setChan c ch).chans.length = n.chans.length := by
  simp [NetSt.setChan]
end Hs

end SimVerif
