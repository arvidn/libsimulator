/-
  SimVerif.Lemmas.TcpProgress — the sender's window account `Acct` (a socket against the sequence
  numbers that are in the network), proved once and used by the sender system `TxS` of
  SimVerif/TcpSys.lean (`Core`, `SV`, `SInv`) and by the composed connection (`QPure`,
  Lemmas/StreamQuiesce); the reader-side invariant `RCore` of `RxS`.
-/
import SimVerif.TcpSys
import SimVerif.Lemmas.TcpRead
import SimVerif.Lemmas.TcpMtu

namespace SimVerif

theorem q_lookup_none_of_not_mem {α : Type} (l : List (Nat × α)) (k : Nat) (h : k ∉ l.map (·.1)) :
    l.lookup k = none :=
  List.lookup_eq_none_iff.mpr fun e he => bne_iff_ne.mpr fun hk => h (List.mem_map.mpr ⟨e, he, hk.symm⟩)

theorem drainReorder_facts : ∀ (f nx : Nat) (ro : List (Nat × Pkt)) (q : List Pkt),
    (∀ e ∈ (drainReorder f nx ro q).2.1, e ∈ ro)
    ∧ (∀ x ∈ (drainReorder f nx ro q).2.2, x ∈ q ∨ ∃ e ∈ ro, e.2 = x)
    ∧ nx ≤ (drainReorder f nx ro q).1
    ∧ (∀ k, k ∈ ro.map (·.1) → k ∈ (drainReorder f nx ro q).2.1.map (·.1) ∨ k < (drainReorder f nx ro q).1)
    ∧ (ro.length < f → (drainReorder f nx ro q).2.1.lookup (drainReorder f nx ro q).1 = none) := by
  intro f
  induction f with
  | zero => intro nx ro q; exact ⟨fun _ he => he, fun _ hx => Or.inl hx, Nat.le_refl _, fun k hk => Or.inl hk, fun h => by omega⟩
  | succ f ih =>
    intro nx ro q
    unfold drainReorder
    split
    · rename_i hl
      exact ⟨fun _ he => he, fun _ hx => Or.inl hx, Nat.le_refl _, fun k hk => Or.inl hk, fun _ => hl⟩
    · rename_i p hl
      obtain ⟨m1, m2, h1, h2, h3⟩ := ih (nx + 1) (ro.filter (fun e => e.1 != nx)) (q ++ [p])
      have hm := mem_of_lookup hl
      refine ⟨fun e he => (List.mem_filter.mp (m1 e he)).1, fun x hx => ?_, by omega, ?_, ?_⟩
      · rcases m2 x hx with h | ⟨e, he, rfl⟩
        · rcases List.mem_append.mp h with h | h
          · exact Or.inl h
          · exact Or.inr ⟨(nx, p), hm, (List.mem_singleton.mp h).symm⟩
        · exact Or.inr ⟨e, (List.mem_filter.mp he).1, rfl⟩
      · intro k hk
        by_cases hkn : k = nx
        · right; omega
        · apply h2
          obtain ⟨e, he, rfl⟩ := List.mem_map.mp hk
          exact List.mem_map.mpr ⟨e, List.mem_filter.mpr ⟨he, by simpa using hkn⟩, rfl⟩
      · intro hlen
        apply h3
        have : (ro.filter (fun e => e.1 != nx)).length < ro.length :=
          List.length_filter_lt_length_iff_exists.mpr ⟨(nx, p), hm, by simp⟩
        omega

theorem NStep.self_eq {n n' : NetSt} {name : String} {t t' : TcpSock}
    (h : NStep n n' name (fun _ s' => s' = t')) (hs : n.tcp? name = some t) : n'.tcp? name = some t' := by
  obtain ⟨_, h1, rfl⟩ := h.self t hs; exact h1

end SimVerif

namespace SimVerif.Prog

def ChanOk (n : NetSt) (t : TcpSock) : Prop := ∃ cid, t.chan = some cid ∧ (n.chan? cid).isSome = true

theorem ChanOk.upd {n n' : NetSt} {name : String} {t t' : TcpSock} {f : TcpSock → TcpSock → Prop} (h : ChanOk n t)
    (hu : NStep n n' name f) (hc : t'.chan = t.chan) : ChanOk n' t' := by
  obtain ⟨cid, h1, h2⟩ := h
  refine ⟨cid, hc.trans h1, ?_⟩
  have := congrArg Option.isSome (hu.chans cid)
  simpa [h2] using this

theorem ChanOk.isSome {n : NetSt} {t : TcpSock} (h : ChanOk n t) : t.chan.isSome = true := by
  obtain ⟨cid, h1, _⟩ := h; rw [h1]; rfl

theorem ChanOk.bind {n : NetSt} {t : TcpSock} (h : ChanOk n t) : ∃ ch, t.chan.bind n.chan? = some ch := by
  obtain ⟨cid, h1, h2⟩ := h
  rw [h1]; exact Option.isSome_iff_exists.mp h2

section
variable {n : NetSt} {name : String} {t : TcpSock} (hs : n.tcp? name = some t)
include hs

theorem tcpSendPacket_upd (hc : ChanOk n t)
    (now : Int) (p : Pkt) :
    ∃ b, NStep n (n.tcpSendPacket now name p).1 name (fun _ s' => s' = TcpSock.sendAcct t p)
      ∧ (n.tcpSendPacket now name p).1.fwds = n.fwds
      ∧ s5_fwdsOf (n.tcpSendPacket now name p).2 = [{ p with bc := b }]
      ∧ postsOf (n.tcpSendPacket now name p).2 = [] := by
  obtain ⟨cid, hcid, hch⟩ := hc
  obtain ⟨ch, hch'⟩ := Option.isSome_iff_exists.mp hch
  rw [tcpSendPacket_conn n now name p t cid ch hs hcid hch']
  exact ⟨ch.sent (ch.selfIdx t.bound),
    .put rfl (fun c => chan?_setChan_static _ _ _ _ _ hch' (Chan.bump_static ..)) rfl hs rfl, rfl,
    s5_fwdsOf_sendEffs .., postsOf_sendEffs ..⟩

theorem tcpSendSeg_upd (hc : ChanOk n t)
    (now : Int) (hops : List String) (seg : List UInt8) :
    ∃ b, NStep n (n.tcpSendSeg now name hops seg).1 name
        (fun _ s' => s' = TcpSock.sendAcct { t with nextOut := t.nextOut + 1 } (t.newSeg hops seg))
      ∧ (n.tcpSendSeg now name hops seg).1.fwds = n.fwds
      ∧ s5_fwdsOf (n.tcpSendSeg now name hops seg).2 = [{ t.newSeg hops seg with bc := b }]
      ∧ postsOf (n.tcpSendSeg now name hops seg).2 = [] := by
  rw [tcpSendSeg_some n now name hops seg t hs]
  have hu : NStep n (n.setTcp name { t with nextOut := t.nextOut + 1 }) name (fun _ s' => s' = _) := .set hs rfl
  obtain ⟨b, h1, hf, h2⟩ := tcpSendPacket_upd (tcp?_setTcp_same _ _ _) (hc.upd hu rfl) now (t.newSeg hops seg)
  exact ⟨b, hu.trans h1 fun _ _ _ _ h => h, hf, h2⟩

theorem tcpWindowFull_eq :
    n.tcpWindowFull name = decide (t.WindowFull) := by
  unfold NetSt.tcpWindowFull; simp only [hs]

theorem tcpWriteFinish_upd (op : WriteOp)
    (r : Except Ec Nat) :
    ∃ sh, (n.tcpWriteFinish name op r).1 = n.setTcp name { t with sendH := sh }
      ∧ (sh.isSome = true → r = .error .wouldBlock)
      ∧ s5_fwdsOf (n.tcpWriteFinish name op r).2 = [] := by
  rcases tcpWriteFinish_eq n name op r t hs with ⟨hr, e⟩ | ⟨c, e, -⟩ <;> rw [e]
  · exact ⟨some op, rfl, fun _ => hr, rfl⟩
  · exact ⟨none, rfl, nofun, rfl⟩

theorem tcpAsyncWrite_posts (op : WriteOp) :
    ∃ e0, s5_fwdsOf e0 = [] ∧ Posts e0
      ∧ n.tcpAsyncWrite name op = (n.setTcp name { t with sendH := some op }, e0 ++ [.tcpWrite name op.h]) :=
  ⟨_, (aborts_tcpAbortSendEffs t).posts.s5_fwdsOf, (aborts_tcpAbortSendEffs t).posts, tcpAsyncWrite_exact hs op⟩

theorem tcpPacketDropped_floor (tp : TParams) (h1 : tp.releaseOnDrop = true)
    (hc : ChanOk n t) (hfl : t.mss ≤ t.cwnd) (p : Pkt) :
    ∃ hops cw ld, t.mss ≤ cw ∧ n.tcpPacketDropped tp name p
      = n.setTcp name { dropBase t (handedBack tp t hops p) with cwnd := cw, lastDrop := ld } := by
  obtain ⟨ch, hb⟩ := hc.bind
  rw [tcpPacketDropped_conn n name tp p t ch hs hb, h1, if_pos rfl]
  obtain ⟨cw, ld, e, hcw⟩ := (dropBase t (handedBack tp t (ch.hops (ch.remoteIdx t.bound)) p)).halved_eq p.id
  exact ⟨_, cw, ld, hcw hfl, by rw [e]⟩

end

def sumSizes (l : List (Nat × Nat)) : Int := (l.map (fun e => (e.2 : Int))).sum
def keys (l : List (Nat × Nat)) : List Nat := l.map (·.1)
def ids (l : List Pkt) : List Nat := l.map (·.id)

theorem keys_filter (l : List (Nat × Nat)) (k : Nat) :
    keys (l.filter (fun e => e.1 != k)) = (keys l).filter (fun j => j != k) := by
  unfold keys; rw [List.filter_map]; rfl

theorem lookup_none_of_not_mem (l : List (Nat × Nat)) (k : Nat) (h : k ∉ keys l) : l.lookup k = none :=
  q_lookup_none_of_not_mem l k h

theorem filter_of_not_mem (l : List (Nat × Nat)) (k : Nat) (h : k ∉ keys l) :
    l.filter (fun e => e.1 != k) = l := by
  rw [List.filter_eq_self]
  intro e he
  have : e.1 ≠ k := by intro hh; apply h; rw [← hh]; exact List.mem_map_of_mem he
  simp [this]

theorem sum_filter (l : List (Nat × Nat)) (k : Nat) (hnd : (keys l).Nodup) :
    sumSizes (l.filter (fun e => e.1 != k)) = sumSizes l - ((l.lookup k).getD 0 : Nat) := by
  induction l with
  | nil => simp [sumSizes]
  | cons x xs ih =>
    obtain ⟨a, b⟩ := x
    simp only [keys, List.map_cons, List.nodup_cons] at hnd
    by_cases hak : a = k
    · subst hak
      have h1 : xs.filter (fun e => e.1 != a) = xs := filter_of_not_mem xs a hnd.1
      simp [h1, sumSizes]; omega
    · have h2 : (k == a) = false := by simp; exact fun h => hak h.symm
      have := ih hnd.2
      simp only [sumSizes] at this ⊢
      simp [hak, List.lookup_cons, h2, this]; omega

theorem sumSizes_nonneg (l : List (Nat × Nat)) : 0 ≤ sumSizes l := by
  induction l with
  | nil => simp [sumSizes]
  | cons x xs ih => simp only [sumSizes, List.map_cons, List.sum_cons] at ih ⊢; omega

theorem mem_ids {l : List Pkt} {k : Nat} : k ∈ ids l ↔ ∃ p ∈ l, p.id = k := by simp [ids]

theorem ids_append (a b : List Pkt) : ids (a ++ b) = ids a ++ ids b := by simp [ids]
theorem ids_snoc (l : List Pkt) (p : Pkt) : ids (l ++ [p]) = ids l ++ [p.id] := by simp [ids]

theorem ids_filter (l : List Pkt) (k : Nat) :
    ids (l.filter (fun q => q.id != k)) = (ids l).filter (fun j => j != k) := by
  unfold ids; rw [List.filter_map]; rfl

theorem ids_eraseIdx {l : List Pkt} (h : (ids l).Nodup) : ∀ {i : Nat} {p : Pkt}, l[i]? = some p →
    ids (l.eraseIdx i) = (ids l).filter (fun j => j != p.id) := by
  induction l with
  | nil => intro i p hp; simp at hp
  | cons x xs ih =>
    intro i p hp
    simp only [ids, List.map_cons, List.nodup_cons] at h
    cases i with
    | zero =>
      simp only [List.getElem?_cons_zero, Option.some.injEq] at hp
      subst hp
      have : (List.map (·.id) xs).filter (fun j => j != x.id) = List.map (·.id) xs :=
        List.filter_eq_self.mpr (fun j hj => by
          have : j ≠ x.id := fun e => h.1 (e ▸ hj)
          simpa using this)
      simp [ids, this]
    | succ j =>
      simp only [List.getElem?_cons_succ] at hp
      have hne : x.id ≠ p.id := fun e => h.1 (e ▸ List.mem_map_of_mem (List.mem_of_getElem? hp))
      have := ih h.2 hp
      simp only [ids] at this
      simp [ids, hne, this]

theorem mem_filter_ne {l : List Nat} {k j : Nat} : j ∈ l.filter (fun x => x != k) ↔ j ∈ l ∧ j ≠ k := by
  simp [List.mem_filter]

theorem nodup_snoc {l : List Nat} {a : Nat} (h : l.Nodup) (ha : a ∉ l) : (l ++ [a]).Nodup :=
  List.nodup_append.mpr ⟨h, by simp, fun x hx y hy e => ha (by rw [← List.mem_singleton.mp hy, ← e]; exact hx)⟩

/-- The sender's window account against `N`, the sequence numbers that are in the network (as a
    segment, or delivered with the ACK still to come). -/
structure Acct (t : TcpSock) (N : List Nat) : Prop where
  floor : t.mss ≤ t.cwnd
  acct : t.inFlight = sumSizes t.outstanding
  keysND : (keys t.outstanding).Nodup
  live : ∀ k, k ∈ keys t.outstanding ↔ k ∈ N
  resND : (ids t.resend).Nodup
  disj : ∀ k, k ∈ ids t.resend → k ∉ N
  fresh : ∀ k, k ∈ N ∨ k ∈ ids t.resend → k < t.nextOut

theorem Acct.perm {t : TcpSock} {N N' : List Nat} (h : Acct t N) (hN : ∀ k, k ∈ N' ↔ k ∈ N) : Acct t N' :=
  ⟨h.floor, h.acct, h.keysND, fun k => (h.live k).trans (hN k).symm, h.resND,
   fun k hk hn => h.disj k hk ((hN k).mp hn), fun k hk => h.fresh k (hk.imp_left (hN k).mp)⟩

theorem Acct.empty_zero {t : TcpSock} (h : Acct t []) : t.outstanding = [] ∧ t.inFlight = 0 := by
  have ho : t.outstanding = [] := by
    cases hx : t.outstanding with
    | nil => rfl
    | cons e es => exact absurd ((h.live e.1).mp (by rw [hx]; simp [keys])) (by simp)
  exact ⟨ho, by rw [h.acct, ho]; rfl⟩

/-- a packet whose number is nowhere (a new segment: `k = nextOut + 1`, or the head of the
    retransmission list: `r` its tail) goes out -/
theorem Acct.send {t : TcpSock} {N : List Nat} (h : Acct t N) (r : List Pkt) (k : Nat) (p : Pkt)
    (hres : ∀ j, j ∈ ids r → j ∈ ids t.resend) (hrND : (ids r).Nodup) (hnext : t.nextOut ≤ k)
    (hN : p.id ∉ N) (hr : p.id ∉ ids r) (hlt : p.id < k) :
    Acct (TcpSock.sendAcct { t with resend := r, nextOut := k } p) (N ++ [p.id]) := by
  have hk : p.id ∉ keys t.outstanding := fun hh => hN ((h.live _).mp hh)
  have hf : t.outstanding.filter (fun e => e.1 != p.id) = t.outstanding := filter_of_not_mem _ _ hk
  have hkeys : keys (t.outstanding ++ [(p.id, p.payload.length)]) = keys t.outstanding ++ [p.id] := by simp [keys]
  constructor
  · exact h.floor
  · show t.inFlight + _ = sumSizes (_ ++ _)
    rw [hf, h.acct]; simp [sumSizes]
  · show (keys (_ ++ _)).Nodup
    rw [hf, hkeys]; exact nodup_snoc h.keysND hk
  · intro j; show j ∈ keys (_ ++ _) ↔ _
    rw [hf, hkeys, List.mem_append, List.mem_append, h.live]
  · exact hrND
  · intro j hj hn
    rcases List.mem_append.mp hn with hn | hn
    · exact h.disj j (hres j hj) hn
    · exact hr (List.mem_singleton.mp hn ▸ hj)
  · intro j hj; show j < k
    rcases hj with hj | hj
    · rcases List.mem_append.mp hj with hj | hj
      · exact Nat.lt_of_lt_of_le (h.fresh j (Or.inl hj)) hnext
      · rw [List.mem_singleton.mp hj]; exact hlt
    · exact Nat.lt_of_lt_of_le (h.fresh j (Or.inr (hres j hj))) hnext

theorem Acct.ack {t : TcpSock} {N : List Nat} (h : Acct t N) (k : Nat) :
    Acct (ackSock t k) (N.filter (fun j => j != k)) := by
  constructor
  · exact h.floor
  · show t.inFlight - _ = sumSizes (List.filter _ _); rw [sum_filter _ _ h.keysND, h.acct]
  · show (keys (List.filter _ _)).Nodup; rw [keys_filter]; exact h.keysND.filter _
  · intro j; show j ∈ keys (List.filter _ _) ↔ _
    rw [keys_filter, mem_filter_ne, mem_filter_ne, h.live j]
  · exact h.resND
  · intro j hj hn; exact h.disj j hj (mem_filter_ne.mp hn).1
  · intro j hj; exact h.fresh j (hj.imp_left fun hn => (mem_filter_ne.mp hn).1)

theorem Acct.drop {t : TcpSock} {N : List Nat} (h : Acct t N) (p' : Pkt) (hp : p'.id ∈ N) (cw ld : Nat)
    (hcw : t.mss ≤ cw) :
    Acct { dropBase t p' with cwnd := cw, lastDrop := ld } (N.filter (fun j => j != p'.id)) := by
  have a := h.ack p'.id
  have hkr : p'.id ∉ ids t.resend := fun hh => h.disj _ hh hp
  refine ⟨hcw, a.acct, a.keysND, a.live, ?_, ?_, ?_⟩
  · show (ids (t.resend ++ [p'])).Nodup
    rw [ids_snoc]; exact nodup_snoc h.resND hkr
  · intro j hj hn
    have hn' := mem_filter_ne.mp hn
    change j ∈ ids (t.resend ++ [p']) at hj
    rw [ids_snoc, List.mem_append, List.mem_singleton] at hj
    exact hj.elim (fun hj => h.disj j hj hn'.1) hn'.2
  · intro j hj; show j < t.nextOut
    rcases hj with hj | hj
    · exact h.fresh j (Or.inl (mem_filter_ne.mp hj).1)
    · change j ∈ ids (t.resend ++ [p']) at hj
      rw [ids_snoc, List.mem_append, List.mem_singleton] at hj
      rcases hj with hj | hj
      · exact h.fresh j (Or.inr hj)
      · rw [hj]; exact h.fresh _ (Or.inl hp)

@[simp] theorem fwdTarget_setTcp (n : NetSt) (name : String) (t : TcpSock) (f : Nat) :
    (n.setTcp name t).fwdTarget f = n.fwdTarget f := rfl
@[simp] theorem fwdTarget_setChan (n : NetSt) (c : Nat) (ch : Chan) (f : Nat) :
    (n.setChan c ch).fwdTarget f = n.fwdTarget f := rfl

/-- `t` is `sockA` of `n`: open, attached to channel 0, which has a route to the peer, and the
    forwarder it hands to its packets' drop callbacks points back at it -/
structure Est (n : NetSt) (t : TcpSock) : Prop where
  sock : n.tcp? sockA = some t
  isOpen : t.isOpen = true
  chanId : t.chan = some 0
  chanOk : ∃ ch, n.chan? 0 = some ch ∧ (ch.hops (ch.remoteIdx t.bound)).isEmpty = false
  fwdOk : ∃ f, t.fwd = some f ∧ n.fwdTarget f = some sockA

theorem Est.upd {n n' : NetSt} {t t' : TcpSock} (h : Est n t) (hu : NStep n n' sockA (fun _ s' => s' = t'))
    (hfw : n'.fwds = n.fwds) (e : (t'.isOpen, t'.chan, t'.bound, t'.fwd) = (t.isOpen, t.chan, t.bound, t.fwd)) :
    Est n' t' := by
  simp only [Prod.mk.injEq] at e
  obtain ⟨h1, h2, h3, h4⟩ := e
  refine ⟨hu.self_eq h.sock, h1.trans h.isOpen, h2.trans h.chanId, ?_, ?_⟩
  · obtain ⟨ch, hc, hh⟩ := h.chanOk
    have hst := hu.chans 0
    rw [hc] at hst
    cases hc' : n'.chan? 0 with
    | none => rw [hc'] at hst; cases hst
    | some ch' =>
      rw [hc'] at hst
      have e : ch'.static.hops (ch'.static.remoteIdx t.bound) = ch.static.hops (ch.static.remoteIdx t.bound) := by
        rw [(Option.some.inj hst : ch'.static = ch.static)]
      exact ⟨ch', rfl, by rw [h3]; exact e ▸ hh⟩
  · obtain ⟨f, hf, hft⟩ := h.fwdOk
    exact ⟨f, h4.trans hf, (fwdTarget_congr n n' hfw f).trans hft⟩

theorem Est.set {n : NetSt} {t : TcpSock} (h : Est n t) (t' : TcpSock)
    (e : (t'.isOpen, t'.chan, t'.bound, t'.fwd) = (t.isOpen, t.chan, t.bound, t.fwd)) :
    Est (n.setTcp sockA t') t' := h.upd (.set h.sock rfl) rfl e

theorem Est.chan {n : NetSt} {t : TcpSock} (h : Est n t) : ChanOk n t := by
  obtain ⟨ch, hc, _⟩ := h.chanOk
  exact ⟨0, h.chanId, by rw [hc]; rfl⟩

theorem windowFull_lift {n : NetSt} {t : TcpSock} (h : Est n t) :
    n.tcpWindowFull sockA = decide (t.inFlight + t.mss > t.cwnd) := tcpWindowFull_eq h.sock

@[simp] theorem absorb_nil (s : TxS) : s.absorb [] = s := rfl
@[simp] theorem absorb_post (s : TxS) (c : Compl) (r : List NEff) :
    s.absorb (.post c :: r) = ({ s with posts := s.posts ++ [c] }).absorb r := rfl
@[simp] theorem absorb_forward (s : TxS) (p : Pkt) (r : List NEff) :
    s.absorb (.forward p :: r) = ({ s with bag := s.bag ++ [p] }).absorb r := rfl
@[simp] theorem absorb_pcap (s : TxS) (a : Int) (b c : Ep) (d : Nat) (e : List UInt8) (r : List NEff) :
    s.absorb (.pcapTcp a b c d e :: r) = s.absorb r := rfl

theorem absorb_eq (s : TxS) (e : List NEff) :
    s.absorb e = { s with bag := s.bag ++ s5_fwdsOf e, posts := s.posts ++ postsOf e } := by
  induction e generalizing s with
  | nil => simp [s5_fwdsOf, postsOf]
  | cons x xs ih => cases x <;> simp [TxS.absorb, ih, s5_fwdsOf, postsOf]

/-- The window account of the sender with its ghost bags (`bag`: segments in the network,
    `acks`: delivered, ACK pending). -/
structure Core (t : TcpSock) (bag : List Pkt) (acks : List Nat) : Prop where
  floor : t.mss ≤ t.cwnd
  acct : t.inFlight = sumSizes t.outstanding
  keysND : (keys t.outstanding).Nodup
  live : ∀ k, k ∈ keys t.outstanding ↔ (k ∈ ids bag ∨ k ∈ acks)
  bagND : (ids bag).Nodup
  acksND : acks.Nodup
  resendND : (ids t.resend).Nodup
  disjBA : ∀ k, k ∈ ids bag → k ∉ acks
  disjR : ∀ k, k ∈ ids t.resend → k ∉ ids bag ∧ k ∉ acks
  fresh : ∀ k, (k ∈ ids bag ∨ k ∈ acks ∨ k ∈ ids t.resend) → k < t.nextOut
  cb : ∀ p, (p ∈ bag ∨ p ∈ t.resend) → p.hasDrop = true ∧ p.dropFwd = t.fwd
  segLen : ∀ p, (p ∈ bag ∨ p ∈ t.resend) → 0 < t.mss → p.payload.length ≤ t.mss
  sized : ∀ p, p ∈ bag → (p.id, p.payload.length) ∈ t.outstanding

theorem Acct.toCore {t : TcpSock} {bag : List Pkt} {acks : List Nat} (a : Acct t (ids bag ++ acks))
    (bagND : (ids bag).Nodup) (acksND : acks.Nodup) (disjBA : ∀ k, k ∈ ids bag → k ∉ acks)
    (cb : ∀ p, (p ∈ bag ∨ p ∈ t.resend) → p.hasDrop = true ∧ p.dropFwd = t.fwd)
    (segLen : ∀ p, (p ∈ bag ∨ p ∈ t.resend) → 0 < t.mss → p.payload.length ≤ t.mss)
    (sized : ∀ p, p ∈ bag → (p.id, p.payload.length) ∈ t.outstanding) : Core t bag acks :=
  ⟨a.floor, a.acct, a.keysND, fun k => by rw [a.live, List.mem_append], bagND, acksND, a.resND, disjBA,
   fun k hk => ⟨fun hb => a.disj k hk (List.mem_append_left _ hb), fun ha => a.disj k hk (List.mem_append_right _ ha)⟩,
   fun k hk => a.fresh k (by
     rcases hk with hk | hk | hk
     · exact Or.inl (List.mem_append_left _ hk)
     · exact Or.inl (List.mem_append_right _ hk)
     · exact Or.inr hk),
   cb, segLen, sized⟩

theorem Core.slots {t : TcpSock} {bag : List Pkt} {acks : List Nat} (h : Core t bag acks) (sh : Option WriteOp)
    (ch : Option Nat) (cw : Nat) (hfl : t.mss ≤ cw) : Core { t with sendH := sh, connectH := ch, cwnd := cw } bag acks :=
  { h with floor := hfl }

section
variable {t : TcpSock} {bag : List Pkt} {acks : List Nat} (h : Core t bag acks)
include h

theorem Core.toAcct :
    Acct t (ids bag ++ acks) :=
  ⟨h.floor, h.acct, h.keysND, fun k => by rw [h.live, List.mem_append], h.resendND,
   fun k hk hn => (List.mem_append.mp hn).elim (h.disjR k hk).1 (h.disjR k hk).2,
   fun k hk => h.fresh k (by
     rcases hk with hk | hk
     · exact (List.mem_append.mp hk).imp_right Or.inl
     · exact Or.inr (Or.inr hk))⟩

theorem Core.send (r : List Pkt) (k : Nat) (p : Pkt) (b : Nat)
    (hres : ∀ q, q ∈ r → q ∈ t.resend) (hrND : (ids r).Nodup) (hnext : t.nextOut ≤ k)
    (hbag : p.id ∉ ids bag) (hacks : p.id ∉ acks) (hr : p.id ∉ ids r) (hlt : p.id < k)
    (hcb : p.hasDrop = true ∧ p.dropFwd = t.fwd) (hlen : 0 < t.mss → p.payload.length ≤ t.mss) :
    Core (TcpSock.sendAcct { t with resend := r, nextOut := k } p) (bag ++ [{ p with bc := b }]) acks := by
  have hri : ∀ j, j ∈ ids r → j ∈ ids t.resend := by
    intro j hj; obtain ⟨q, hq, rfl⟩ := mem_ids.mp hj; exact mem_ids.mpr ⟨q, hres q hq, rfl⟩
  have hk : p.id ∉ keys t.outstanding := by rw [h.live]; simp [hbag, hacks]
  have hmem : ∀ q, (q ∈ bag ++ [{ p with bc := b }] ∨ q ∈ r) →
      (q ∈ bag ∨ q ∈ t.resend) ∨ q = { p with bc := b } := by
    intro q hq
    rcases hq with hq | hq
    · rcases List.mem_append.mp hq with hq | hq
      · exact Or.inl (Or.inl hq)
      · exact Or.inr (List.mem_singleton.mp hq)
    · exact Or.inl (Or.inr (hres q hq))
  refine ((h.toAcct.send r k p hri hrND hnext (by simp [hbag, hacks]) hr hlt).perm
    (fun j => by simp only [ids_snoc, List.mem_append, List.mem_singleton]; exact or_right_comm)).toCore ?_ h.acksND ?_ ?_ ?_ ?_
  · rw [ids_snoc]; exact nodup_snoc h.bagND hbag
  · intro j hj ha
    rw [ids_snoc, List.mem_append, List.mem_singleton] at hj
    exact hj.elim (fun hj => h.disjBA j hj ha) (fun hj => hacks (hj ▸ ha))
  · intro q hq
    rcases hmem q hq with hq | rfl
    · exact h.cb q hq
    · exact hcb
  · intro q hq
    rcases hmem q hq with hq | rfl
    · exact h.segLen q hq
    · exact hlen
  · intro q hq; show _ ∈ List.filter _ t.outstanding ++ _
    rw [filter_of_not_mem _ _ hk, List.mem_append]
    rcases List.mem_append.mp hq with hq | hq
    · exact Or.inl (h.sized q hq)
    · rw [List.mem_singleton.mp hq]; exact Or.inr (List.mem_singleton_self _)

theorem Core.ack (k : Nat)
    (hk : k ∈ acks) : Core (ackSock t k) bag (acks.filter (fun j => j != k)) := by
  have hkb : k ∉ ids bag := fun hh => h.disjBA k hh hk
  refine ((h.toAcct.ack k).perm (fun j => ?_)).toCore h.bagND (h.acksND.filter _)
    (fun j hj hja => h.disjBA j hj (mem_filter_ne.mp hja).1) h.cb h.segLen ?_
  · simp only [List.mem_append, mem_filter_ne]
    exact ⟨fun hj => hj.elim (fun hb => ⟨Or.inl hb, fun e => hkb (e ▸ hb)⟩) (fun ha => ⟨Or.inr ha.1, ha.2⟩),
      fun hj => hj.1.imp_right (fun ha => ⟨ha, hj.2⟩)⟩
  · intro q hq; show _ ∈ List.filter _ _
    rw [List.mem_filter]; refine ⟨h.sized q hq, ?_⟩
    have : q.id ≠ k := fun hh => hkb (mem_ids.mpr ⟨q, hq, hh⟩)
    simpa using this

theorem Core.drop (p p' : Pkt) (hp : p ∈ bag) (hid : p'.id = p.id) (hpl : p'.payload = p.payload)
    (hcb : p'.hasDrop = true ∧ p'.dropFwd = t.fwd) (cw ld : Nat) (hcw : t.mss ≤ cw) :
    Core { dropBase t p' with cwnd := cw, lastDrop := ld } (bag.filter (fun q => q.id != p.id)) acks := by
  have hkb : p.id ∈ ids bag := mem_ids.mpr ⟨p, hp, rfl⟩
  have hka : p.id ∉ acks := h.disjBA _ hkb
  have hsub : ∀ q, q ∈ bag.filter (fun q => q.id != p.id) → q ∈ bag := fun q hq => (List.mem_filter.mp hq).1
  have hmem : ∀ q, (q ∈ bag.filter (fun q => q.id != p.id) ∨ q ∈ t.resend ++ [p']) → (q ∈ bag ∨ q ∈ t.resend) ∨ q = p' := by
    intro q hq
    rcases hq with hq | hq
    · exact Or.inl (Or.inl (hsub q hq))
    · exact (List.mem_append.mp hq).elim (fun hq => Or.inl (Or.inr hq)) (fun hq => Or.inr (List.mem_singleton.mp hq))
  refine ((h.toAcct.drop p' (by rw [hid]; exact List.mem_append_left _ hkb) cw ld hcw).perm (fun j => ?_)).toCore
    ?_ h.acksND (fun j hj => h.disjBA j (by rw [ids_filter] at hj; exact (mem_filter_ne.mp hj).1)) ?_ ?_ ?_
  · simp only [hid, ids_filter, List.mem_append, mem_filter_ne]
    exact ⟨fun hj => hj.elim (fun hb => ⟨Or.inl hb.1, hb.2⟩) (fun ha => ⟨Or.inr ha, fun e => hka (e ▸ ha)⟩),
      fun hj => hj.1.imp_left (fun hb => ⟨hb, hj.2⟩)⟩
  · rw [ids_filter]; exact h.bagND.filter _
  · intro q hq; show _ ∧ q.dropFwd = t.fwd
    rcases hmem q hq with hq | rfl
    · exact h.cb q hq
    · exact hcb
  · intro q hq; show 0 < t.mss → _ ≤ t.mss
    rcases hmem q hq with hq | rfl
    · exact h.segLen q hq
    · rw [hpl]; exact h.segLen p (Or.inl hp)
  · intro q hq; show _ ∈ List.filter _ _
    have hq' := List.mem_filter.mp hq
    rw [hid, List.mem_filter]; exact ⟨h.sized q hq'.1, by simpa using hq'.2⟩

end

theorem Core.deliver {t : TcpSock} {bag : List Pkt} {acks : List Nat} (h : Core t bag acks) (k : Nat)
    (hk : k ∈ ids bag) :
    Core t (bag.filter (fun q => q.id != k)) (acks ++ [k]) := by
  have hka : k ∉ acks := h.disjBA k hk
  have hsub : ∀ q, q ∈ bag.filter (fun q => q.id != k) → q ∈ bag := fun q hq => (List.mem_filter.mp hq).1
  refine (h.toAcct.perm (fun j => ?_)).toCore ?_ (nodup_snoc h.acksND hka) ?_
    (fun q hq => h.cb q (hq.imp_left (hsub q))) (fun q hq => h.segLen q (hq.imp_left (hsub q)))
    (fun q hq => h.sized q (hsub q hq))
  · simp only [ids_filter, List.mem_append, mem_filter_ne, List.mem_singleton]
    by_cases e : j = k <;> simp [e, hk]
  · rw [ids_filter]; exact h.bagND.filter _
  · intro j hj ha
    rw [ids_filter, mem_filter_ne] at hj
    rw [List.mem_append, List.mem_singleton] at ha
    exact ha.elim (h.disjBA j hj.1) hj.2

/-- `t` is the established `sockA` of `s`, its window account agrees with the ghost bags, and no
    segment has vanished unreported -/
structure SV (s : TxS) (t : TcpSock) : Prop where
  est : Est s.net t
  core : Core t s.bag s.acks
  lost : s.lost = []

/-- what no micro-step of a write / retransmission / hand-back touches -/
structure Same (t t' : TcpSock) : Prop where
  sendH : t'.sendH = t.sendH
  connectH : t'.connectH = t.connectH
  mss : t'.mss = t.mss

theorem Same.refl (t : TcpSock) : Same t t := ⟨rfl, rfl, rfl⟩
theorem Same.trans {a b c : TcpSock} (h1 : Same a b) (h2 : Same b c) : Same a c :=
  ⟨h2.sendH.trans h1.sendH, h2.connectH.trans h1.connectH, h2.mss.trans h1.mss⟩

theorem SV.posts {s : TxS} {t : TcpSock} (h : SV s t) (ps : List Compl) : SV { s with posts := ps } t :=
  ⟨h.est, h.core, h.lost⟩

theorem SV.absorb {s : TxS} {t t' : TcpSock} {n' : NetSt} (h : SV s t) (e : List NEff) (he : Est n' t')
    (hc : Core t' (s.bag ++ s5_fwdsOf e) s.acks) : SV (({ s with net := n' } : TxS).absorb e) t' := by
  rw [absorb_eq]; exact ⟨he, hc, h.lost⟩

theorem SV.slots {s : TxS} {t : TcpSock} (h : SV s t) (sh : Option WriteOp) (ch : Option Nat) (cw : Nat)
    (hfl : t.mss ≤ cw) :
    SV { s with net := s.net.setTcp sockA { t with sendH := sh, connectH := ch, cwnd := cw } }
      { t with sendH := sh, connectH := ch, cwnd := cw } :=
  ⟨h.est.set _ rfl, h.core.slots sh ch cw hfl, h.lost⟩

theorem cutBuf_nonempty (mss : Nat) (f : Nat) (b : List UInt8) :
    ∀ seg ∈ cutBuf mss f b, seg ≠ [] := fun seg h => ((cutBuf_spec mss f b).2.1 seg h).1

theorem cutBufs_len (mss : Nat) (bufs : List (List UInt8)) :
    ∀ seg ∈ cutBufs mss bufs, 0 < mss → seg.length ≤ mss := fun seg h hm => (cutBufs_bound mss hm bufs seg h).2

/-- without synchronous hand-backs (`ds = []`) the socket only sent: nothing joined the
    retransmission list and the in-flight count did not fall -/
def OnlySent (ds : List (List Nat)) (t t' : TcpSock) : Prop :=
  ds = [] → t'.resend = t.resend ∧ t.inFlight ≤ t'.inFlight

theorem SV.sock_unique {s : TxS} {t t' : TcpSock} (h : SV s t) (h' : SV s t') : t' = t :=
  Option.some.inj (h'.est.sock.symm.trans h.est.sock)

/-- a parked write has a reason: handshake not finished, or the window is full -/
def ParkedFull (t : TcpSock) : Prop :=
  t.sendH.isSome = true → t.connectH.isSome = true ∨ t.WindowFull

/-- a parked write has a reason: as `ParkedFull`, or segments wait for retransmission (after a hand-back) -/
def ParkedOk (t : TcpSock) : Prop :=
  t.sendH.isSome = true → t.connectH.isSome = true ∨ t.WindowFull ∨ t.resend ≠ []

theorem ParkedFull.ok {t : TcpSock} (h : ParkedFull t) : ParkedOk t := fun hs => (h hs).imp_right Or.inl

theorem unpark_lift {s : TxS} {t : TcpSock} (h : Est s.net t) :
    s.unpark = { s with net := s.net.setTcp sockA { t with sendH := none } } := by
  unfold TxS.unpark; simp only [h.sock]

theorem apply_posts (tp : TParams) (now : Int) (ds dw : List (List Nat)) (e0 rest : List NEff) (s : TxS)
    (h : Posts e0) :
    ∃ ps, TxS.apply tp now ds dw (e0 ++ rest) s = TxS.apply tp now ds dw rest { s with posts := ps } := by
  induction e0 generalizing s with
  | nil => exact ⟨s.posts, rfl⟩
  | cons e es ih =>
    obtain ⟨c, rfl⟩ := h e (by simp)
    obtain ⟨ps, hps⟩ := ih { s with posts := s.posts ++ [c] } (fun e he => h e (by simp [he]))
    exact ⟨ps, by simp only [List.cons_append, TxS.apply]; exact hps⟩

theorem step_deliver (tp : TParams) (k : Nat) {s : TxS} {t : TcpSock} (h : SV s t) :
    SV (TxS.step tp s (.deliver k)) t := by
  simp only [TxS.step]
  split
  · rename_i hk
    refine ⟨h.est, h.core.deliver k ?_, h.lost⟩
    simp only [List.any_eq_true, beq_iff_eq] at hk
    exact mem_ids.mpr hk
  · exact h

section
variable (tp : TParams) (hR : tp.releaseOnDrop = true) (hA : tp.rearmDrop = true)
include hR hA

theorem handBack_sv {s : TxS} {t : TcpSock} (h : SV s t) (k : Nat) :
    ∃ t', SV (s.handBack tp k) t' ∧ Same t t' ∧ ((s.handBack tp k = s ∧ t' = t) ∨ t'.resend ≠ []) := by
  unfold TxS.handBack
  cases hf : s.bag.find? (fun p => p.id == k) with
  | none => exact ⟨t, h, Same.refl t, Or.inl ⟨rfl, rfl⟩⟩
  | some p =>
    have hp : p ∈ s.bag := List.mem_of_find?_eq_some hf
    have hpk : p.id = k := by simpa using List.find?_some hf
    obtain ⟨hd, hfw⟩ := h.core.cb p (Or.inl hp)
    obtain ⟨f, hf1, hf2⟩ := h.est.fwdOk
    obtain ⟨hops, cw, ld, hcw, hdr⟩ := tcpPacketDropped_floor h.est.sock tp hR h.est.chan h.core.floor p
    simp only [hd, if_true, hfw, hf1, hf2, hdr]
    refine ⟨_, ⟨h.est.set _ rfl, ?_, h.lost⟩, ⟨rfl, rfl, rfl⟩, Or.inr (by simp [dropBase])⟩
    exact hpk ▸ h.core.drop p (handedBack tp t hops p) hp rfl rfl ⟨hA, if_pos hA⟩ cw ld hcw

theorem handBacks_sv (ks : List Nat) {s : TxS} {t : TcpSock} (h : SV s t) :
    ∃ t', SV (s.handBacks tp ks) t' ∧ Same t t' := by
  induction ks generalizing s t with
  | nil => exact ⟨t, h, Same.refl t⟩
  | cons k ks ih =>
    obtain ⟨t1, h1, s1, _⟩ := handBack_sv tp hR hA h k
    obtain ⟨t2, h2, s2⟩ := ih h1
    exact ⟨t2, h2, s1.trans s2⟩

theorem segLoop_sv (now : Int) (hops : List String) (segs : List (List UInt8)) (ds : List (List Nat)) (acc : Nat)
    {s : TxS} {t : TcpSock} (h : SV s t) (hl : ∀ seg ∈ segs, 0 < t.mss → seg.length ≤ t.mss) :
    ∃ t', SV (TxS.segLoop tp now hops segs ds acc s).1 t' ∧ Same t t' ∧ OnlySent ds t t' := by
  induction segs generalizing ds acc s t with
  | nil => exact ⟨t, h, Same.refl t, fun _ => ⟨rfl, Int.le_refl _⟩⟩
  | cons seg rest ih =>
    unfold TxS.segLoop
    obtain ⟨b, hu, hfs, hfw, _⟩ := tcpSendSeg_upd h.est.sock h.est.chan now hops seg
    have hfr := h.core.fresh
    have hsv1 := h.absorb (s.net.tcpSendSeg now sockA hops seg).2 (h.est.upd hu hfs rfl) (by
      rw [hfw]
      exact h.core.send t.resend (t.nextOut + 1) (t.newSeg hops seg) b (fun q hq => hq) h.core.resendND (Nat.le_succ _)
        (fun hh => Nat.lt_irrefl _ (hfr _ (Or.inl hh))) (fun hh => Nat.lt_irrefl _ (hfr _ (Or.inr (Or.inl hh))))
        (fun hh => Nat.lt_irrefl _ (hfr _ (Or.inr (Or.inr hh)))) (Nat.lt_succ_self _) ⟨rfl, rfl⟩ (hl seg (by simp)))
    obtain ⟨t2, hsv2, hs2⟩ := handBacks_sv tp hR hA (ds.headD []) hsv1
    have hs12 : Same t t2 := Same.trans (b := TcpSock.sendAcct { t with nextOut := t.nextOut + 1 } (t.newSeg hops seg)) ⟨rfl, rfl, rfl⟩ hs2
    have hm12 : OnlySent ds t t2 := by
      intro hds; subst hds
      rw [hsv1.sock_unique hsv2]
      exact ⟨rfl, by show t.inFlight ≤ t.inFlight + _; omega⟩
    dsimp only
    split
    · exact ⟨t2, hsv2, hs12, hm12⟩
    · obtain ⟨t3, hsv3, hs3, hm3⟩ := ih ds.tail (acc + seg.length) hsv2
        (fun sg hsg => by rw [hs12.mss]; exact hl sg (by simp [hsg]))
      refine ⟨t3, hsv3, hs12.trans hs3, ?_⟩
      intro hds
      have a := hm12 hds
      have b := hm3 (by rw [hds]; rfl)
      exact ⟨b.1.trans a.1, Int.le_trans a.2 b.2⟩

theorem writeRun_sv (now : Int) (op : WriteOp) (ds : List (List Nat)) {s : TxS} {t : TcpSock} (h : SV s t) :
    ∃ t', SV (TxS.writeRun tp now op ds s) t' ∧ ParkedFull t' ∧ t'.connectH = t.connectH ∧ t'.mss = t.mss
      ∧ OnlySent ds t t' := by
  unfold TxS.writeRun
  rcases tcpWritePrep_rows h.est.sock op.bufs with ⟨e, hp, hw⟩ | ⟨ch, -, -, -, -, -, hp⟩
  · simp only [hp]
    obtain ⟨sh, heq, hsh, hfw⟩ := tcpWriteFinish_upd h.est.sock op (.error e)
    rw [heq]
    exact ⟨{ t with sendH := sh }, h.absorb _ (h.est.set _ rfl)
        (by rw [hfw, List.append_nil]; exact h.core.slots sh _ _ h.core.floor),
      fun hs => hw (Except.error.inj (hsh hs)), rfl, rfl, fun _ => ⟨rfl, Int.le_refl _⟩⟩
  · simp only [hp]
    obtain ⟨t1, h1, s1, m1⟩ := segLoop_sv tp hR hA now _ (cutBufs t.mss op.bufs) ds 0 h (cutBufs_len _ _)
    generalize TxS.segLoop tp now _ (cutBufs t.mss op.bufs) ds 0 s = r at h1
    obtain ⟨s', acc⟩ := r
    obtain ⟨sh, heq, hsh, hfw⟩ := tcpWriteFinish_upd h1.est.sock op (.ok acc)
    dsimp only
    rw [heq]
    exact ⟨{ t1 with sendH := sh }, h1.absorb _ (h1.est.set _ rfl)
        (by rw [hfw, List.append_nil]; exact h1.core.slots sh _ _ h1.core.floor),
      fun hs => (by cases hsh hs), s1.connectH, s1.mss, m1⟩

theorem wake_sv (now : Int) (dw : List (List Nat)) {s : TxS} {t : TcpSock} (h : SV s t) :
    ∃ t', SV (TxS.wake tp now dw s) t' ∧ ParkedFull t' ∧ t'.connectH = t.connectH ∧ t'.mss = t.mss
      ∧ OnlySent dw t t' := by
  unfold TxS.wake
  simp only [h.est.sock, Option.bind_some]
  cases hs : t.sendH with
  | none =>
    exact ⟨t, h, fun hh => by simp [hs] at hh, rfl, rfl, fun _ => ⟨rfl, Int.le_refl _⟩⟩
  | some op =>
    simp only []
    rw [unpark_lift h.est]
    obtain ⟨t', a, b, c, d, e⟩ := writeRun_sv tp hR hA now op dw
      (h.slots none t.connectH t.cwnd h.core.floor)
    exact ⟨t', a, b, c, d, e⟩

theorem resendLoop_sv (now : Int) (n : Nat) (ds : List (List Nat)) {s : TxS} {t : TcpSock} (h : SV s t) :
    ∃ t', SV (TxS.resendLoop tp now n ds s) t' ∧ Same t t'
      ∧ (ds = [] → t.resend.length ≤ n →
          ∀ p rest, t'.resend = p :: rest → t'.inFlight + p.payload.length > t'.cwnd) := by
  induction n generalizing ds s t with
  | zero =>
    refine ⟨t, h, Same.refl t, ?_⟩
    intro _ hl p rest hp; rw [hp] at hl; simp at hl
  | succ n ih =>
    unfold TxS.resendLoop
    rw [tcpResendOne_eq _ now _ t h.est.sock h.est.chan.isSome]
    cases hr : t.resend with
    | nil => exact ⟨t, h, Same.refl t, fun _ _ p rest hp => by rw [hr] at hp; cases hp⟩
    | cons p rest =>
      simp only []
      by_cases hfit : t.inFlight + p.payload.length ≤ t.cwnd
      · simp only [hfit, if_true]
        have hu1 : NStep s.net (s.net.setTcp sockA { t with resend := rest }) sockA (fun _ s' => s' = _) :=
          .set h.est.sock rfl
        obtain ⟨b, hu2, hfs, hfw, _⟩ := tcpSendPacket_upd (tcp?_setTcp_same _ _ _) (h.est.chan.upd hu1 rfl) now p
        have hpr : p ∈ t.resend := by rw [hr]; simp
        have hpi : p.id ∈ ids t.resend := mem_ids.mpr ⟨p, hpr, rfl⟩
        have hnd := h.core.resendND
        rw [hr] at hnd; simp only [ids, List.map_cons, List.nodup_cons] at hnd
        have hsv1 := h.absorb ((s.net.setTcp sockA { t with resend := rest }).tcpSendPacket now sockA p).2
          (h.est.upd (hu1.trans hu2 fun _ _ _ _ h => h) hfs rfl) (by
            rw [hfw]
            exact h.core.send rest t.nextOut p b (fun q hq => by rw [hr]; exact List.mem_cons_of_mem _ hq) hnd.2
              (Nat.le_refl _)
              (h.core.disjR _ hpi).1 (h.core.disjR _ hpi).2 hnd.1 (h.core.fresh _ (Or.inr (Or.inr hpi)))
              (h.core.cb p (Or.inr hpr)) (h.core.segLen p (Or.inr hpr)))
        obtain ⟨t2, hsv2, hs2⟩ := handBacks_sv tp hR hA (ds.headD []) hsv1
        obtain ⟨t3, hsv3, hs3, hd3⟩ := ih ds.tail hsv2
        refine ⟨t3, hsv3, Same.trans (b := t2) (Same.trans (b := TcpSock.sendAcct { t with resend := rest } p) ⟨rfl, rfl, rfl⟩ hs2) hs3, ?_⟩
        intro hds hl
        subst hds
        apply hd3 rfl
        rw [hsv1.sock_unique hsv2]; show rest.length ≤ n
        simp at hl; omega
      · simp only [hfit, if_false]
        refine ⟨t, h, Same.refl t, ?_⟩
        intro _ _ q rest' hq; rw [hr] at hq; cases hq; omega

theorem step_write (now : Int) (op : WriteOp) (ds : List (List Nat)) {s : TxS} {t : TcpSock} (h : SV s t) :
    ∃ t', SV (TxS.step tp s (.write now op ds)) t' ∧ ParkedFull t' ∧ t'.connectH = t.connectH ∧ t'.mss = t.mss := by
  obtain ⟨e0, _, he0, hw⟩ := tcpAsyncWrite_posts h.est.sock op
  simp only [TxS.step, hw]
  obtain ⟨ps, hps⟩ := apply_posts tp now [] ds e0 [.tcpWrite sockA op.h] { s with net := s.net.setTcp sockA { t with sendH := some op } } he0
  rw [hps]
  have h1 := (h.slots (some op) t.connectH t.cwnd h.core.floor).posts ps
  simp only [TxS.apply, h1.est.sock, Option.bind_some, bne_self_eq_false, Bool.false_eq_true, if_false]
  rw [unpark_lift h1.est]
  obtain ⟨t', a, b, c, d, _⟩ := writeRun_sv tp hR hA now op ds
    (h1.slots none t.connectH t.cwnd h.core.floor)
  exact ⟨t', a, b, c, d⟩

theorem step_dropped (k : Nat) {s : TxS} {t : TcpSock} (h : SV s t) (hw : ParkedOk t) :
    ∃ t', SV (TxS.step tp s (.dropped k)) t' ∧ ParkedOk t' ∧ Same t t' := by
  obtain ⟨t', h1, hs, hc⟩ := handBack_sv tp hR hA h k
  refine ⟨t', h1, ?_, hs⟩
  rcases hc with ⟨_, rfl⟩ | hc
  · exact hw
  · exact fun _ => Or.inr (Or.inr hc)

theorem step_synack (now : Int) (dw : List (List Nat)) {s : TxS} {t : TcpSock} (h : SV s t) (hw : ParkedOk t) :
    ∃ t', SV (TxS.step tp s (.synack now dw)) t' ∧ ParkedOk t' ∧ t'.connectH = none ∧ t'.mss = t.mss := by
  simp only [TxS.step, tcpIncoming_synack h.est.sock tp now synackPkt rfl]
  cases hc : t.connectH with
  | none =>
    refine ⟨t, h, hw, hc, rfl⟩
  | some x =>
    simp only [TxS.apply]
    obtain ⟨t', a, b, c, d, _⟩ := wake_sv tp hR hA now dw
      ((h.slots t.sendH none t.cwnd h.core.floor).posts (s.posts ++ [{ h := x, ec := .ok }]))
    exact ⟨t', a, b.ok, c, d⟩

theorem step_ack (hWk : tp.wakeWriterFixed = true)
    (now : Int) (k : Nat) (ds dw : List (List Nat)) {s : TxS} {t : TcpSock} (h : SV s t) (hk : k ∈ s.acks) :
    ∃ t', SV (TxS.step tp s (.ack now k ds dw)) t' ∧ ParkedFull t' ∧ t'.connectH = t.connectH ∧ t'.mss = t.mss
      ∧ (ds = [] → dw = [] → 0 < t.mss → t'.resend ≠ [] → 0 < t'.inFlight) := by
  have hk' : s.acks.contains k = true := by simpa using hk
  have hinc : s.net.tcpIncoming tp now sockA (ackPkt k) = (s.net.setTcp sockA (ackSock t k),
      [.tcpResend sockA, .tcpAckPost sockA (decide (t.WindowFull)) ((t.outstanding.lookup k).getD 0)]) :=
    tcpIncoming_ack h.est.sock tp now (ackPkt k) rfl
  simp only [TxS.step, hk', if_true, hinc, TxS.apply]
  have h0 : SV { s with acks := s.acks.filter (fun j => j != k), net := s.net.setTcp sockA (ackSock t k) } (ackSock t k) :=
    ⟨h.est.set _ rfl, h.core.ack k hk, h.lost⟩
  simp only [tcp?_setTcp_same, Option.map_some, Option.getD_some, show (ackSock t k).resend = t.resend from rfl]
  obtain ⟨t1, h1, s1, d1⟩ := resendLoop_sv tp hR hA now t.resend.length ds h0
  generalize TxS.resendLoop tp now t.resend.length ds _ = r1 at h1 ⊢
  simp only [tcpAckPost_eq h1.est.sock tp, hWk, if_true]
  have h2 := h1.slots t1.sendH t1.connectH (t1.cwnd + t1.mss * ((t.outstanding.lookup k).getD 0) / t1.cwnd)
    (Nat.le_trans h1.core.floor (Nat.le_add_right _ _))
  have hdr : ds = [] → 0 < t.mss → t1.resend ≠ [] → 0 < t1.inFlight := by
    intro hds hm hne
    cases hr : t1.resend with
    | nil => exact absurd hr hne
    | cons p rest =>
      have a := d1 hds (Nat.le_refl _) p rest hr
      have b := h1.core.segLen p (Or.inr (by rw [hr]; simp)) (by rw [s1.mss]; exact hm)
      have c := h1.core.floor
      omega
  split
  · obtain ⟨t3, h3, w3, c3, m3, mo3⟩ := wake_sv tp hR hA now dw h2
    refine ⟨t3, h3, w3, c3.trans s1.connectH, m3.trans s1.mss, ?_⟩
    intro hds hdw hm hne
    obtain ⟨e1, e2⟩ := mo3 hdw
    rw [e1] at hne
    exact Int.lt_of_lt_of_le (hdr hds hm hne) e2
  · rename_i hflag
    refine ⟨_, h2, ?_, s1.connectH, s1.mss, fun hds _ hm hne => hdr hds hm hne⟩
    intro _; right
    simp only [decide_eq_true_eq] at hflag
    show t1.inFlight + (t1.mss : Int) > ((t1.cwnd + t1.mss * ((t.outstanding.lookup k).getD 0) / t1.cwnd : Nat) : Int)
    omega

end

def sockA0 (mss : Nat) : TcpSock :=
  { node := "n0", isOpen := true, bound := epA, fwd := some 1, chan := some 0,
    connectH := some 1, mss := mss, cwnd := mss * 2 }

theorem init_sv (mss : Nat) : SV (TxS.init mss) (sockA0 mss) := by
  refine ⟨⟨rfl, rfl, rfl, ⟨chan0, rfl, by show (chan0.hops (chan0.remoteIdx epA)).isEmpty = false; decide⟩, ⟨1, rfl, rfl⟩⟩, ?_, rfl⟩
  constructor <;> simp [sockA0, TxS.init, keys, ids, sumSizes]
  omega

/-- the invariant of the sender system at label boundaries -/
def SInv (mss : Nat) (s : TxS) : Prop := ∃ t, SV s t ∧ ParkedOk t ∧ t.mss = mss

theorem SInv.init (mss : Nat) : SInv mss (TxS.init mss) :=
  ⟨sockA0 mss, init_sv mss, fun h => by simp [sockA0] at h, rfl⟩

theorem SInv.step (tp : TParams) (hR : tp.releaseOnDrop = true) (hA : tp.rearmDrop = true)
    (hWk : tp.wakeWriterFixed = true) {mss : Nat} {s : TxS} (h : SInv mss s) (l : TxLbl) :
    SInv mss (TxS.step tp s l) := by
  obtain ⟨t, hsv, hw, hm⟩ := h
  cases l with
  | write now op ds =>
    obtain ⟨t', a, b, _, d⟩ := step_write tp hR hA now op ds hsv
    exact ⟨t', a, b.ok, d.trans hm⟩
  | deliver k => exact ⟨t, step_deliver tp k hsv, hw, hm⟩
  | ack now k ds dw =>
    by_cases hk : k ∈ s.acks
    · obtain ⟨t', a, b, _, d, _⟩ := step_ack tp hR hA hWk now k ds dw hsv hk
      exact ⟨t', a, b.ok, d.trans hm⟩
    · have : s.acks.contains k = false := by simpa using hk
      simp only [TxS.step, this]
      exact ⟨t, hsv, hw, hm⟩
  | dropped k =>
    obtain ⟨t', a, b, c⟩ := step_dropped tp hR hA k hsv hw
    exact ⟨t', a, b, c.mss.trans hm⟩
  | synack now dw =>
    obtain ⟨t', a, b, _, d⟩ := step_synack tp hR hA now dw hsv hw
    exact ⟨t', a, b, d.trans hm⟩

theorem SInv.run (tp : TParams) (hR : tp.releaseOnDrop = true) (hA : tp.rearmDrop = true)
    (hWk : tp.wakeWriterFixed = true) {mss : Nat} (ls : List TxLbl) {s : TxS} (h : SInv mss s) :
    SInv mss (TxS.run tp s ls) := by
  induction ls generalizing s with
  | nil => exact h
  | cons l ls ih => exact ih (h.step tp hR hA hWk l)

theorem SInv.reach (mss : Nat) (ls : List TxLbl) : SInv mss (TxS.run {} (TxS.init mss) ls) :=
  (SInv.init mss).run {} rfl rfl rfl ls

def PktOk (p : Pkt) : Prop := (p.ty = .err ∧ p.ec ≠ .wouldBlock) ∨ (p.ty ≠ .err ∧ p.payload ≠ [])

/-- receiver state without the "nothing stranded" clause (holds in the middle of
    `incoming_packet`, before `maybe_wakeup_reader`) -/
structure RPre (t : TcpSock) : Prop where
  conn : t.connectH = none
  c1 : t.recvH.isSome = true → t.recvNull = false ∧ t.waitRecvH = none
  c2 : t.waitRecvH.isSome = true → t.recvNull = true ∧ t.recvH = none
  wfq : ∀ p ∈ t.inq, PktOk p
  wfr : ∀ e ∈ t.reorder, PktOk e.2

structure RCore (t : TcpSock) : Prop extends RPre t where
  pend : (t.recvH.isSome = true ∨ t.waitRecvH.isSome = true) → t.inq = []

theorem takeQueued_wf (f cap : Nat) (q : List Pkt) (h : ∀ p ∈ q, PktOk p) :
    ∀ p ∈ (takeQueued f cap q).2, PktOk p := by
  induction f generalizing cap q with
  | zero => rw [takeQueued_zero]; exact h
  | succ f ih =>
    cases cap with
    | zero => rw [takeQueued_cap0]; exact h
    | succ c =>
      cases q with
      | nil => rw [takeQueued_nil]; exact h
      | cons p rest =>
        rw [takeQueued_cons]
        split
        · exact h
        · rename_i hty
          split
          · exact ih _ rest (fun x hx => h x (List.mem_cons_of_mem _ hx))
          · rename_i hlen
            intro x hx
            rcases List.mem_cons.mp hx with rfl | hx
            · exact .inr ⟨by simpa using hty, fun h0 => hlen (List.drop_eq_nil_iff.mp h0)⟩
            · exact h x (List.mem_cons_of_mem _ hx)

theorem available_go_zero (q : List Pkt) (acc : Nat) (h : ∀ p ∈ q, PktOk p)
    (hz : TcpSock.available.go q acc = .ok 0) : acc = 0 ∧ q = [] := by
  induction q generalizing acc with
  | nil => simp [TcpSock.available.go] at hz; exact ⟨hz, rfl⟩
  | cons p rest ih =>
    unfold TcpSock.available.go at hz
    split at hz
    · split at hz
      · simp at hz; omega
      · cases hz
    · rename_i hty
      have := ih _ (fun x hx => h x (by simp [hx])) hz
      have hp := h p (by simp)
      rcases hp with hp | hp
      · simp [hp.1] at hty
      · have : 0 < p.payload.length := List.length_pos_iff.mpr hp.2
        omega


theorem readSome_rpre (t : TcpSock) (hc : Bool) (caps : List Nat) (hq : ∀ p ∈ t.inq, PktOk p)
    (hcn : t.connectH = none) :
    let r := t.readSome hc caps
    r.1.connectH = none ∧ r.1.recvH = t.recvH ∧ r.1.waitRecvH = t.waitRecvH
    ∧ r.1.recvNull = t.recvNull ∧ r.1.reorder = t.reorder
    ∧ (∀ p ∈ r.1.inq, PktOk p) ∧ (t.inq = [] → r.1.inq = [])
    ∧ (r.2 = .error .wouldBlock → t.inq = []) := by
  rcases readSome_cases t hc caps with ⟨hf, he⟩ | ⟨p, rest, _, _, _, hi, ⟨hty, he⟩ | ⟨_, he⟩⟩ <;> rw [he]
  · refine ⟨hcn, rfl, rfl, rfl, rfl, hq, id, fun h => ?_⟩
    -- `would_block` is the answer of the third and fourth test only
    rcases hf with h1 | h1 | h1 | h1
    · rw [h1] at h; cases h
    · rw [h1] at h; split at h <;> cases h
    · exact absurd hcn h1
    · exact h1
  · refine ⟨hcn, rfl, rfl, rfl, rfl, fun x hx => hq x (by rw [hi]; exact List.mem_cons_of_mem _ hx),
      fun h => (by rw [hi] at h; cases h), fun h => ?_⟩
    rcases hq p (by rw [hi]; exact List.mem_cons_self) with hp | hp
    · exact absurd (Except.error.inj h) hp.2
    · exact absurd hty hp.1
  · exact ⟨hcn, rfl, rfl, rfl, rfl, takeQueued_wf _ _ _ hq, fun h => (by rw [hi] at h; cases h), nofun⟩

theorem RCore.ofIdle {t : TcpSock} (h : RPre t) (h1 : t.recvH = none) (h2 : t.waitRecvH = none) : RCore t :=
  { h with pend := fun hh => by simp [h1, h2] at hh }

theorem asyncReadImpl_rcore (t : TcpSock) (op : ReadOp) (h : RPre t) (hi2 : t.waitRecvH = none) :
    RCore (t.asyncReadImpl op).1 := by
  obtain ⟨a1, _, a3, _, a5, a6, _, a8⟩ := readSome_rpre t t.chan.isSome op.caps h.wfq h.conn
  rcases asyncReadImpl_rows t op with ⟨hr, e⟩ | ⟨c, -, -, e⟩ <;> rw [e]
  · exact ⟨⟨h.conn, fun _ => ⟨rfl, hi2⟩, fun hh => by simp [hi2] at hh, h.wfq, h.wfr⟩, fun _ => a8 hr⟩
  · exact RCore.ofIdle ⟨a1, nofun, fun hh => by simp [a3, hi2] at hh, a6, a5 ▸ h.wfr⟩ rfl (a3.trans hi2)

theorem asyncWaitReadImpl_rcore (t : TcpSock) (hd : Nat) (h : RPre t) (hi1 : t.recvH = none)
    (hi2 : t.waitRecvH = none) : RCore (t.asyncWaitReadImpl hd).1 := by
  rcases asyncWaitReadImpl_rows t hd with ⟨hk, e⟩ | ⟨c, -, -, e⟩ <;> rw [e]
  · have hq : t.inq = [] := by
      cases ho : t.isOpen
      · simp [TcpSock.available, ho] at hk
      cases hc : t.chan.isSome
      · simp [TcpSock.available, ho, hc] at hk
      · rw [hc, available_eq_go t ho] at hk; exact (available_go_zero t.inq 0 h.wfq hk).2
    exact ⟨⟨h.conn, fun hh => by simp [hi1] at hh, fun _ => ⟨rfl, hi1⟩, h.wfq, h.wfr⟩, fun _ => hq⟩
  · exact RCore.ofIdle ⟨h.conn, nofun, fun hh => by simp [hi2] at hh, h.wfq, h.wfr⟩ rfl hi2

theorem abortRecv_rpre (t : TcpSock) (h : RPre t) :
    RPre (t.abortRecv).1 ∧ (t.abortRecv).1.recvH = none ∧ (t.abortRecv).1.waitRecvH = none
    ∧ (t.abortRecv).1.inq = t.inq := by
  rw [TcpSock.abortRecv_eq]
  exact ⟨⟨h.conn, nofun, nofun, h.wfq, h.wfr⟩, rfl, rfl, rfl⟩

/-- `maybe_wakeup_reader()` with the repair: whatever was queued, nothing is left stranded -/
theorem maybeWakeupReader_rcore (tp : TParams) (hF : tp.wakeReaderFixed = true) (t : TcpSock) (h : RPre t) :
    RCore (t.maybeWakeupReader tp).1 := by
  -- of the two handler slots at most one is taken, and `recvNull` says which
  have hr : t.waitRecvH.isSome = true ∨ t.recvNull = true → t.recvH = none := fun hh => by
    cases hx : t.recvH with
    | none => rfl
    | some _ => have := h.c1 (by rw [hx]; rfl); rcases hh with hh | hh <;> simp [this] at hh
  have hw : t.recvH.isSome = true ∨ t.recvNull = false → t.waitRecvH = none := fun hh => by
    cases hx : t.waitRecvH with
    | none => rfl
    | some _ => have := h.c2 (by rw [hx]; rfl); rcases hh with hh | hh <;> simp [this] at hh
  rcases wake_cases tp t with ⟨e, -, -, hidle⟩ | ⟨hd, hwd, e, -⟩ | ⟨op, hro, e, -⟩ <;> rw [e]
  · rcases hidle with hq | ⟨h1, h2⟩ | ⟨h1, h2⟩
    · rw [hF, if_pos rfl] at hq
      exact { h with pend := fun _ => List.isEmpty_iff.mp hq }
    · exact RCore.ofIdle h h1 (h2.elim id fun hn => hw (.inr hn))
    · exact RCore.ofIdle h (hr (.inr h2)) h1
  · have h1 := hr (.inl (by rw [hwd]; rfl))
    exact asyncWaitReadImpl_rcore _ hd ⟨h.conn, (fun hh => by rw [h1] at hh; cases hh), nofun, h.wfq, h.wfr⟩ h1 rfl
  · have h1 := hw (.inl (by rw [hro]; rfl))
    exact asyncReadImpl_rcore _ op ⟨h.conn, nofun, (fun hh => by rw [h1] at hh; cases hh), h.wfq, h.wfr⟩ h1

theorem rxData_rcore (tp : TParams) (hF : tp.wakeReaderFixed = true) {t : TcpSock} {p : Pkt} (hpk : PktOk p)
    (hc : RCore t) : RCore (t.rxData tp p).1 := by
  unfold TcpSock.rxData
  split
  · refine { hc with wfr := ?_ }
    intro e he
    change e ∈ (if (t.reorder.lookup p.id).isSome = true then t.reorder else t.reorder ++ [(p.id, p)]) at he
    split at he
    · exact hc.wfr e he
    · rcases List.mem_append.mp he with he | he
      · exact hc.wfr e he
      · rw [List.mem_singleton.mp he]; exact hpk
  · apply maybeWakeupReader_rcore tp hF
    obtain ⟨d1, d2, -⟩ := drainReorder_facts (t.reorder.length + 1) (t.nextIn + 1) t.reorder (t.inq ++ [p])
    refine ⟨hc.conn, hc.c1, hc.c2, fun x hx => ?_, fun e he => hc.wfr e (d1 e he)⟩
    rcases d2 x hx with h | ⟨e, he, rfl⟩
    · exact (List.mem_append.mp h).elim (hc.wfq x) (fun h => List.mem_singleton.mp h ▸ hpk)
    · exact hc.wfr e he

theorem readSome_rcore (t : TcpSock) (hc : Bool) (caps : List Nat) (h : RCore t) : RCore (t.readSome hc caps).1 := by
  obtain ⟨a1, a2, a3, a4, a5, a6, a7, _⟩ := readSome_rpre t hc caps h.wfq h.conn
  refine ⟨⟨a1, ?_, ?_, a6, by rw [a5]; exact h.wfr⟩, ?_⟩
  · rw [a2, a3, a4]; exact h.c1
  · rw [a2, a3, a4]; exact h.c2
  · rw [a2, a3]; exact fun hh => a7 (h.pend hh)

theorem asyncRead_rcore (t : TcpSock) (op : ReadOp) (h : RCore t) : RCore (t.abortRecv.1.asyncReadImpl op).1 := by
  obtain ⟨a1, a2, a3, _⟩ := abortRecv_rpre t h.toRPre
  exact asyncReadImpl_rcore _ op a1 a3

theorem waitRead_rcore (t : TcpSock) (hd : Nat) (h : RCore t) : RCore (t.abortRecv.1.asyncWaitReadImpl hd).1 := by
  obtain ⟨a1, a2, a3, _⟩ := abortRecv_rpre t h.toRPre
  exact asyncWaitReadImpl_rcore _ hd a1 a2 a3

theorem rabsorb_net (s : RxS) (e : List NEff) : (s.absorb e).net = s.net := by
  induction e generalizing s with
  | nil => rfl
  | cons x xs ih => cases x <;> simp only [RxS.absorb] <;> rw [ih]

def RInv (s : RxS) : Prop := ∃ t, s.net.tcp? sockB = some t ∧ RCore t

theorem RInv.step (tp : TParams) (hF : tp.wakeReaderFixed = true) {s : RxS} (h : RInv s) (l : RxLbl)
    (hl : l.ok) : RInv (RxS.step tp s l) := by
  obtain ⟨t, hs, hc⟩ := h
  cases l with
  | arrive now p =>
    simp only [RxS.step, RInv, rabsorb_net]
    have hpk : PktOk p := hl.imp id (fun h => ⟨by rw [h.1]; simp, h.2⟩)
    rw [tcpIncoming_data hs tp now p (hl.symm.imp (·.1) (·.1))]
    cases t.chan.bind s.net.chan? with
    | none => exact ⟨t, hs, hc⟩
    | some ch => exact ⟨_, tcp?_setTcp_same _ _ _, rxData_rcore tp hF hpk hc⟩
  | read op =>
    simp only [RxS.step, RInv, rabsorb_net]
    rw [tcpAsyncRead_eq hs]
    exact ⟨_, tcp?_setTcp_same _ _ _, asyncRead_rcore t op hc⟩
  | waitRead hd =>
    simp only [RxS.step, RInv, rabsorb_net]
    rw [tcpWaitRead_eq hs]
    exact ⟨_, tcp?_setTcp_same _ _ _, waitRead_rcore t hd hc⟩
  | readNb caps =>
    simp only [RxS.step, RInv]
    rw [tcpReadNb_eq hs]
    exact ⟨_, tcp?_setTcp_same _ _ _, readSome_rcore t _ caps hc⟩

theorem RInv.run (tp : TParams) (hF : tp.wakeReaderFixed = true) (ls : List RxLbl) {s : RxS} (h : RInv s)
    (hl : RxS.okRun ls) : RInv (RxS.run tp s ls) := by
  induction ls generalizing s with
  | nil => exact h
  | cons l ls ih => exact ih (h.step tp hF l hl.1) hl.2

def sockB0 (mss : Nat) : TcpSock :=
  { node := "n1", isOpen := true, bound := epB, fwd := some 2, chan := some 0, mss := mss, cwnd := mss * 2 }

theorem RInv.init (mss : Nat) : RInv (RxS.init mss) :=
  ⟨sockB0 mss, rfl, ⟨⟨rfl, fun h => by simp [sockB0] at h, fun h => by simp [sockB0] at h,
    fun p hp => by simp [sockB0] at hp, fun e he => by simp [sockB0] at he⟩, fun _ => rfl⟩⟩

/-! ### vocabulary of the handshake statements of Props/C06 -/

def forwards (e : List NEff) : List Pkt := e.filterMap (fun x => match x with | .forward p => some p | _ => none)

theorem forwards_append (a b : List NEff) : forwards (a ++ b) = forwards a ++ forwards b := fwdsOf_append a b

theorem forwards_eq (e : List NEff) : forwards e = s5_fwdsOf e := (s5_fwdsOf_eq e).symm

theorem chans_setTcp (n : NetSt) (name : String) (t : TcpSock) : (n.setTcp name t).chans = n.chans := rfl

theorem tcpAttach_spec (n : NetSt) (now : Int) (peer : String) (bindEp : Ep) (c : Nat) (p0 : TcpSock) (ch : Chan)
    (hs : n.tcp? peer = some p0) (hpc : p0.chan = none) (hch : n.chan? c = some ch) :
    forwards (n.tcpAttach now peer bindEp c).2 = []
    ∧ (∃ ch2, (n.tcpAttach now peer bindEp c).1.chan? c = some ch2 ∧ ch2.hops0 = ch.hops0)
    ∧ (∀ o, o ≠ peer → (n.tcpAttach now peer bindEp c).1.tcp? o = n.tcp? o) := by
  obtain ⟨cs, hb, e⟩ := tcpAttach_exact n now peer bindEp c p0 hs
  obtain ⟨ch1, hch1, e0⟩ := Option.map_eq_some_iff.mp ((hb.map Chan.hops0 (fun _ => rfl) c).trans (congrArg _ hch))
  rw [e, hch1]
  refine ⟨?_, ⟨_, chan?_setChan_same _ _ _ (by rw [show NetSt.chan? _ c = cs[c]? from rfl, hch1]; rfl), e0⟩,
    fun o ho' => tcp?_setTcp_other _ _ _ _ ho'⟩
  rw [forwards_eq, tcpCloseEof_noChan n now peer p0 (by rw [hpc]; rfl), List.nil_append]; exact (aborts_tcpCancelEffs p0).posts.s5_fwdsOf

def peerOf : AcceptOp → String
  | .into _ pn _ => pn
  | .fresh _ nn => nn

/-- the completion `check_accept_queue` posts for an accepted connection -/
def acceptDone (op : AcceptOp) (vis : Ep) : NEff :=
  match op with
  | .into h _ withEp => .post { h := h, ec := .ok, extra := if withEp then "ep=" ++ vis.toString else "" }
  | .fresh h _ => .post { h := h, ec := .ok }

def synAckFor (c : Nat) (ch : Chan) (bound : Ep) : Pkt :=
  { id := 0, ty := .synack, len := 0, ovh := 28, hops := ch.hops0, src := bound.toString, chan := some c }

end SimVerif.Prog
