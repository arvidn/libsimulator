/-
  SimVerif.Lemmas.TcpMtu — what property C20 (MSS, path MTU, segmentation) needs beyond the exact
  descriptions of Lemmas/TcpEq.lean: `s5_forwards` (TcpEq) against `fwdsOf` (UdpSend), and that
  `send_packet` forwards at most one, unaltered; `cutBuf` and `write_some_impl`'s segments; the
  don't-fragment flag of `send_to`; the example states of Props/C20. It opens with the `s5_`
  copies of the setter projections of Lemmas/Assoc.lean.
-/
import SimVerif.Lemmas.TcpEq
import SimVerif.Lemmas.UdpSend

namespace SimVerif

@[simp] theorem s5_udp?_setTcp (n : NetSt) (k k' : String) (v : TcpSock) :
    (n.setTcp k v).udp? k' = n.udp? k' := rfl
@[simp] theorem s5_cfg_setTcp (n : NetSt) (k : String) (v : TcpSock) : (n.setTcp k v).cfg = n.cfg := rfl
@[simp] theorem s5_chans_setTcp (n : NetSt) (k : String) (v : TcpSock) : (n.setTcp k v).chans = n.chans := rfl
@[simp] theorem s5_reg_setTcp (n : NetSt) (k : String) (v : TcpSock) : (n.setTcp k v).reg = n.reg := rfl
@[simp] theorem s5_fwds_setTcp (n : NetSt) (k : String) (v : TcpSock) : (n.setTcp k v).fwds = n.fwds := rfl

@[simp] theorem s5_tcp?_setUdp (n : NetSt) (k k' : String) (v : UdpSock) :
    (n.setUdp k v).tcp? k' = n.tcp? k' := rfl
@[simp] theorem s5_cfg_setUdp (n : NetSt) (k : String) (v : UdpSock) : (n.setUdp k v).cfg = n.cfg := rfl
@[simp] theorem s5_chans_setUdp (n : NetSt) (k : String) (v : UdpSock) : (n.setUdp k v).chans = n.chans := rfl
@[simp] theorem s5_reg_setUdp (n : NetSt) (k : String) (v : UdpSock) : (n.setUdp k v).reg = n.reg := rfl
@[simp] theorem s5_fwds_setUdp (n : NetSt) (k : String) (v : UdpSock) : (n.setUdp k v).fwds = n.fwds := rfl

@[simp] theorem s5_udp?_setChan (n : NetSt) (c : Nat) (ch : Chan) (k : String) :
    (n.setChan c ch).udp? k = n.udp? k := rfl
@[simp] theorem s5_cfg_setChan (n : NetSt) (c : Nat) (ch : Chan) : (n.setChan c ch).cfg = n.cfg := rfl
@[simp] theorem s5_reg_setChan (n : NetSt) (c : Nat) (ch : Chan) : (n.setChan c ch).reg = n.reg := rfl
@[simp] theorem s5_fwds_setChan (n : NetSt) (c : Nat) (ch : Chan) : (n.setChan c ch).fwds = n.fwds := rfl

@[simp] theorem s5_cfg_newFwd (n : NetSt) (k : String) : (n.newFwd k).1.cfg = n.cfg := rfl
@[simp] theorem s5_tcp?_newFwd (n : NetSt) (k k' : String) : (n.newFwd k).1.tcp? k' = n.tcp? k' := rfl
@[simp] theorem s5_udp?_newFwd (n : NetSt) (k k' : String) : (n.newFwd k).1.udp? k' = n.udp? k' := rfl
@[simp] theorem s5_chans_newFwd (n : NetSt) (k : String) : (n.newFwd k).1.chans = n.chans := rfl
@[simp] theorem s5_cfg_setFwd (n : NetSt) (f : Nat) (t : Option String) : (n.setFwd f t).cfg = n.cfg := rfl
@[simp] theorem s5_udp?_setFwd (n : NetSt) (f : Nat) (t : Option String) (k : String) :
    (n.setFwd f t).udp? k = n.udp? k := rfl
@[simp] theorem s5_chans_setFwd (n : NetSt) (f : Nat) (t : Option String) : (n.setFwd f t).chans = n.chans := rfl

theorem s5_forwards_eq (l : List NEff) : s5_forwards l = fwdsOf l := by
  unfold s5_forwards fwdsOf; congr 1

section sender
variable (n : NetSt) (now : Int) (name : String)

theorem tcpSendPacket_one_unaltered (p : Pkt) :
    (∀ q, NEff.forward q ∈ (n.tcpSendPacket now name p).2 → q = { p with bc := q.bc })
    ∧ (s5_forwards (n.tcpSendPacket now name p).2).length ≤ 1
    ∧ (∀ s, n.tcp? name = some s → (s.chan.bind n.chan?).isSome →
        (s5_forwards (n.tcpSendPacket now name p).2).length = 1) := by
  rcases tcpSendPacket_eq n now name p with ⟨hd, h⟩ | ⟨s, cid, ch, -, -, -, h⟩ <;> rw [h]
  · exact ⟨fun _ h => (nomatch h), Nat.zero_le _,
      fun s hs hc => by rw [(noChan_iff hs).mp hd] at hc; cases hc⟩
  · refine ⟨fun q hq => ?_, by rw [s5_forwards_sendEffs]; exact Nat.le_refl 1, fun _ _ _ => by rw [s5_forwards_sendEffs]; rfl⟩
    rw [← mem_s5_forwards, s5_forwards_sendEffs] at hq
    cases List.mem_singleton.mp hq; rfl

theorem tcpSendPacket_mem (p q : Pkt) (hq : q ∈ s5_forwards (n.tcpSendPacket now name p).2) :
    ∃ bc, q = { p with bc := bc } :=
  ⟨q.bc, (tcpSendPacket_one_unaltered n now name p).1 q ((mem_s5_forwards _ _).mp hq)⟩

end sender

theorem cutBuf_nil (mss f : Nat) : cutBuf mss f [] = [] := by cases f <;> rfl

/-- the piece length `k` is the MSS, or 1 for an MSS of 0 (where the C++ loop would not terminate) -/
theorem cutBuf_spec (mss : Nat) : ∀ (f : Nat) (b : List UInt8),
    (b.length < f → (cutBuf mss f b).flatten = b)
    ∧ (∀ x ∈ cutBuf mss f b, x ≠ [] ∧ x.length ≤ (if mss = 0 then 1 else mss))
    ∧ (∀ x ∈ (cutBuf mss f b).dropLast, x.length = (if mss = 0 then 1 else mss)) := by
  generalize hk : (if mss = 0 then 1 else mss) = k
  have hk0 : 0 < k := by rw [← hk]; split <;> omega
  intro f
  induction f with
  | zero => intro b; exact ⟨fun h => (by omega), fun _ hx => (List.not_mem_nil hx).elim, fun _ hx => (List.not_mem_nil hx).elim⟩
  | succ f ih =>
    intro b
    unfold cutBuf
    split
    · rename_i he
      exact ⟨fun _ => (by simpa using he.symm), fun _ hx => (List.not_mem_nil hx).elim,
        fun _ hx => (List.not_mem_nil hx).elim⟩
    · rename_i he
      have hne : b ≠ [] := by simpa using he
      have hl := List.length_pos_iff.mpr hne
      dsimp only; rw [hk]
      obtain ⟨i1, i2, i3⟩ := ih (b.drop k)
      refine ⟨fun h => ?_, fun x hx => ?_, fun x hx => ?_⟩
      · rw [List.flatten_cons, i1 (by rw [List.length_drop]; omega), List.take_append_drop]
      · rcases List.mem_cons.mp hx with rfl | hx
        · refine ⟨fun h0 => ?_, by rw [List.length_take]; omega⟩
          rcases List.take_eq_nil_iff.mp h0 with h | h
          · omega
          · exact hne h
        · exact i2 x hx
      · cases hc : cutBuf mss f (b.drop k) with
        | nil => rw [hc] at hx; cases hx
        | cons y ys =>
          rw [hc, List.dropLast_cons_cons] at hx
          rcases List.mem_cons.mp hx with rfl | hx
          · -- the rest is non-empty, so `b` is longer than `k`
            have hd : b.drop k ≠ [] := fun h0 => by rw [h0, cutBuf_nil] at hc; cases hc
            have := List.length_pos_iff.mpr hd
            rw [List.length_drop] at this
            rw [List.length_take]; omega
          · exact i3 x (hc ▸ hx)

theorem cutBufs_bound (mss : Nat) (hm : 0 < mss) (bufs : List (List UInt8)) :
    ∀ x ∈ cutBufs mss bufs, x ≠ [] ∧ x.length ≤ mss := fun x hx => by
  obtain ⟨l, hl, hxl⟩ := List.mem_flatten.mp hx
  obtain ⟨b, _, rfl⟩ := List.mem_map.mp hl
  have h := (cutBuf_spec mss (b.length + 1) b).2.1 x hxl
  rwa [if_neg (by omega)] at h

theorem tcpWritePrep_spec (n : NetSt) (name : String) (bufs : List (List UInt8)) (hops : List String)
    (segs : List (List UInt8)) (h : n.tcpWritePrep name bufs = .ok (hops, segs)) :
    ∃ s, n.tcp? name = some s ∧ s.isOpen = true ∧ segs.flatten = bufs.flatten ∧
      (0 < s.mss → ∀ x ∈ segs, x ≠ [] ∧ x.length ≤ s.mss) := by
  obtain ⟨s, _, hs, hopen, _, _, _, _, _, rfl⟩ := tcpWritePrep_ok n name bufs hops segs h
  refine ⟨s, hs, hopen, ?_, fun hm => cutBufs_bound s.mss hm bufs⟩
  clear h
  unfold cutBufs
  induction bufs with
  | nil => rfl
  | cons b rest ih =>
    rw [List.map_cons, List.flatten_cons, List.flatten_append, ih, List.flatten_cons,
      (cutBuf_spec s.mss (b.length + 1) b).1 (Nat.lt_succ_self _)]

theorem internalConnect_cfg (n : NetSt) (name : String) (target : Ep) :
    (n.internalConnect name target).1.cfg = n.cfg := by
  rcases internalConnect_table n name target with h | ⟨_, _, _, -, -, -, -, h⟩ <;> rw [h]

theorem udpSendTail_df (n n' : NetSt) (e0 : List NEff) (now : Int) (name : String) (dst : Ep)
    (payload : List UInt8) (v : UdpSock) (d : Bool) (hv : n.udp? name = some v)
    (hv' : n'.udp? name = some { v with df := d }) (hcfg : n'.cfg = n.cfg)
    (hr : n'.udpRoute v.bound dst = n.udpRoute v.bound dst)
    (hsmall : ¬ payload.length > n.cfg.pathMtu v.bound.addr dst.addr) :
    (n'.udpSendTail e0 .ok now name dst payload).2 = (n.udpSendTail e0 .ok now name dst payload).2
    ∧ (n'.udpSendTail e0 .ok now name dst payload).1.udp? name
        = ((n.udpSendTail e0 .ok now name dst payload).1.udp? name).map (fun w => { w with df := d }) := by
  have h2 : ∀ w : UdpSock, ¬ (w.df = true ∧ payload.length > n.cfg.pathMtu v.bound.addr dst.addr) :=
    fun _ h => hsmall h.2
  have h2' : ¬ (({ v with df := d } : UdpSock).df = true
      ∧ payload.length > n'.cfg.pathMtu v.bound.addr dst.addr) := by
    rw [hcfg]; exact h2 _
  by_cases h0 : payload.length = 0
  · rw [udpSendTail_invalid n' e0 now name dst payload _ hv' h0, udpSendTail_invalid n e0 now name dst payload _ hv h0]
    exact ⟨rfl, by rw [hv, hv']; rfl⟩
  by_cases h1 : payload.length > 65535
  · rw [udpSendTail_msgSize n' e0 now name dst payload _ hv' h1, udpSendTail_msgSize n e0 now name dst payload _ hv h1]
    exact ⟨rfl, by rw [hv, hv']; rfl⟩
  have h1' : payload.length ≤ 65535 := by omega
  by_cases h3 : v.nextSend - now > v.sendQueueTime
  · rw [udpSendTail_paced n' e0 now name dst payload _ hv' h0 h1' h2' h3,
      udpSendTail_paced n e0 now name dst payload _ hv h0 h1' (h2 v) h3]
    exact ⟨rfl, by rw [hv, hv']; rfl⟩
  cases h4 : n.udpRoute v.bound dst with
  | none =>
    rw [udpSendTail_noRoute n' e0 now name dst payload _ hv' h0 h1' h2' h3 (hr.trans h4),
      udpSendTail_noRoute n e0 now name dst payload _ hv h0 h1' (h2 v) h3 h4]
    exact ⟨rfl, by rw [hv, hv']; rfl⟩
  | some hops =>
    rw [udpSendTail_sent n' e0 now name dst payload _ hv' h0 h1' h2' h3 hops (hr.trans h4),
      udpSendTail_sent n e0 now name dst payload _ hv h0 h1' (h2 v) h3 hops h4]
    exact ⟨by rw [hcfg], by rw [udp?_setUdp_same, udp?_setUdp_same]; rfl⟩


/-- two nodes; the path MTU is 100 from A to B and 3000 from B to A -/
def c20Cfg : NetCfg :=
  { nodes := [("A", ["10.0.0.1"]), ("B", ["10.0.0.2"])],
    routeNet := [("*", ["q"])],
    mtu := [("10.0.0.1>10.0.0.2", 100), ("10.0.0.2>10.0.0.1", 3000)] }

/-- a fresh socket `c` on A, a listening acceptor `a` on B, a fresh socket `p` on B -/
def c20Listen : NetSt :=
  { cfg := c20Cfg,
    reg := { tcp := [({ addr := "10.0.0.2", port := 8080 }, "a")] },
    tcps := [("c", { node := "A" }),
             ("a", { node := "B", isOpen := true, bound := { addr := "10.0.0.2", port := 8080 },
                     acc := some { queueLimit := 20 } }),
             ("p", { node := "B" })] }

theorem c20Probe : probePort [({ addr := "10.0.0.2", port := 8080 }, "a")] "10.0.0.1" 65536 2000 = some 2000 := by
  show probePort _ "10.0.0.1" (65535 + 1) 2000 = some 2000
  unfold probePort
  have : (List.lookup ({ addr := "10.0.0.1", port := 2000 } : Ep) [({ addr := "10.0.0.2", port := 8080 }, "a")]).isSome = false := by decide
  simp [this]

/-- `c` is bound and attached to the pending channel 0 to `a`, its connect handler already completed -/
def c20Pending : NetSt :=
  { cfg := c20Cfg,
    reg := { tcp := [({ addr := "10.0.0.2", port := 8080 }, "a"), ({ addr := "10.0.0.1", port := 2000 }, "c")],
             nextPort := 2001 },
    fwds := [some "c"],
    chans := [{ hops0 := ["q", "@0"], hops1 := ["q"], ep0 := { addr := "10.0.0.1", port := 2000 },
                ep1 := { addr := "10.0.0.2", port := 8080 }, vis0 := { addr := "10.0.0.1", port := 2000 },
                vis1 := { addr := "10.0.0.2", port := 8080 } }],
    tcps := [("c", { node := "A", isOpen := true, bound := { addr := "10.0.0.1", port := 2000 }, fwd := some 0,
                     chan := some 0, connectH := none, mss := 100, cwnd := 200 }),
             ("a", { node := "B", isOpen := true, bound := { addr := "10.0.0.2", port := 8080 },
                     acc := some { queueLimit := 20 } }),
             ("p", { node := "B" })] }

def c20Mss3 : NetSt :=
  c20Pending.setTcp "c" { node := "A", isOpen := true, bound := { addr := "10.0.0.1", port := 2000 },
                          chan := some 0, mss := 3, cwnd := 6 }

/-- a socket that is already connecting (handler 7), unbound, on a node without addresses -/
def c20NoAddr : NetSt :=
  { cfg := { nodes := [("A", [])], mtu := [("*", 100)] },
    tcps := [("c", { node := "A", isOpen := true, connectH := some 7 })] }

def c20Buf250 : List UInt8 := List.replicate 250 7

/-- UDP: `u` on A (don't-fragment as given), `v` on B -/
def c20Udp (df : Bool) : NetSt :=
  { cfg := c20Cfg,
    reg := { udp := [({ addr := "10.0.0.1", port := 3000 }, "u"), ({ addr := "10.0.0.2", port := 4000 }, "v")] },
    udps := [("u", { node := "A", isOpen := true, bound := { addr := "10.0.0.1", port := 3000 }, df := df }),
             ("v", { node := "B", isOpen := true, bound := { addr := "10.0.0.2", port := 4000 } })] }


end SimVerif
