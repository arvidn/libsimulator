/-
  Every timer wait completes at most once (`OnceInv`), and none is lost (`Held`).

  A wait is identified by the handler id given to `async_wait`. A handler id lives in at
  most one place: the handler slot of one timer (`m_handler`), or one timer completion
  that was posted (still in the io_context queue, or already executed). `fire` moves it
  from the slot to the queue, `exec` from the queue to `ran`; nothing copies it.

  Hypotheses on the label sequence: for `OnceInv`, every `wait i h` uses a fresh handler id
  (`FreshWaits`) — ids are names of distinct `async_wait` calls; for `Held`, no wait is started
  on a timer that has one outstanding (`WaitPre`, the code's `assert(!m_handler)`).
-/
import SimVerif.Lemmas.KernelBasic

namespace SimVerif

/-- Handler ids of every timer completion posted so far, in posting order: the executed
    ones (`ran`) followed by the ones still queued (`ready`). -/
def K.posted (k : K) : List Nat :=
  ((k.ran.map Prod.fst ++ k.ready).filter (·.tm)).map (·.h)

/-! The view (handler slots, `posted`, `started`) is changed only by `fire` (slot to `posted`) and
`setHandler` (fresh id into a slot). -/

theorem fire_handler (k : K) (i j : Nat) (ec : Ec) :
    ((fire k i ec).timers j).handler = if j = i then none else (k.timers j).handler := by
  by_cases hji : j = i <;> simp [fire_eq, setF, hji]

theorem fire_posted (k : K) (i : Nat) (ec : Ec) :
    (fire k i ec).posted = k.posted ++ (k.timers i).handler.toList := by
  rw [fire_eq]; unfold K.posted completion
  cases (k.timers i).handler <;> simp

theorem setHandler_handler (k : K) (i h j : Nat) :
    ((setHandler k i h).timers j).handler = if j = i then some h else (k.timers j).handler := by
  by_cases hji : j = i <;> simp [setHandler, setF, hji]

/-- A property of the view that `fire` keeps, and `setHandler` keeps under a condition on
    the view at the `wait` label, is kept by every transition. -/
theorem view_step (p : KParams) {I : K → Prop} (k : K) (l : Lbl) (h0 : I k)
    (hcongr : ∀ k k', (∀ i, (k'.timers i).handler = (k.timers i).handler) → k'.posted = k.posted →
      k'.started = k.started → I k → I k')
    (hfire : ∀ k i ec, I k → I (fire k i ec))
    (hset : ∀ k' i h, l = .wait i h → (∀ j, (k'.timers j).handler = (k.timers j).handler) →
      k'.started = k.started → I k' → I (setHandler k' i h)) : I (step p k l) := by
  refine step_ind p k l h0
    (hcancel := fun k i h => ?_)
    (harm := fun k i e _ h => hcongr k _ (setF_proj TimerSt.handler _ _ _ rfl) rfl rfl h)
    (hset := fun k' i h hl _ hk' h' =>
      have hv : (∀ j, (k'.timers j).handler = (k.timers j).handler) ∧ k'.started = k.started := by
        rcases hk' with e | e <;> rw [e]
        · exact ⟨fun _ => rfl, rfl⟩
        · exact ⟨setF_proj TimerSt.handler _ _ _ rfl, rfl⟩
      hset k' i h hl hv.1 hv.2 h')
    (hnow := fun i h hl _ _ => hfire _ i .ok (hset k i h hl (fun _ => rfl) rfl h0))
    (hpost := fun k a h => hcongr k _ (fun _ => rfl) (by simp [postTask, K.posted]) rfl h)
    (hexec := fun t rest _ hr => hcongr k _ (fun _ => rfl) (by simp [K.posted, hr]) rfl h0)
    (hstop := fun k b h => hcongr k _ (fun _ => rfl) rfl rfl h)
    (htick := fun _ _ _ _ _ _ => hcongr k _ (fun _ => rfl) rfl rfl h0)
    (hpop := fun k e i rest _ _ h => hfire _ i .ok (hcongr k _ (fun _ => rfl) rfl rfl h))
  by_cases hexp : (k.timers i).expired = true
  · rwa [cancel_fst, if_pos hexp]
  · rw [cancel_eq_fire k i (by simpa using hexp)]
    exact hfire _ i .aborted (hcongr k _ (setF_proj TimerSt.handler _ _ _ rfl) rfl rfl h)


/-- `slotUniq`, `slotExcl`, `nodup`: a handler id is in at most one place (one timer's slot, or
    once in `posted`). `startedS`, `startedP` tie both places to `started`, so that a fresh id
    (not in `started`) is in neither. -/
structure OnceInv (k : K) : Prop where
  slotUniq : ∀ i j h, (k.timers i).handler = some h → (k.timers j).handler = some h → i = j
  slotExcl : ∀ i h, (k.timers i).handler = some h → h ∉ k.posted
  nodup    : k.posted.Nodup
  startedS : ∀ i h, (k.timers i).handler = some h → h ∈ k.started
  startedP : ∀ h, h ∈ k.posted → h ∈ k.started

theorem OnceInv_init : OnceInv ({} : K) := by
  constructor <;> simp [K.posted]

theorem OnceInv_congr (k k' : K) (hH : ∀ i, (k'.timers i).handler = (k.timers i).handler)
    (hP : k'.posted = k.posted) (hS : k'.started = k.started) (ho : OnceInv k) : OnceInv k' := by
  constructor
  · intro i j h hi hj; rw [hH] at hi hj; exact ho.slotUniq i j h hi hj
  · intro i h hi; rw [hH] at hi; rw [hP]; exact ho.slotExcl i h hi
  · rw [hP]; exact ho.nodup
  · intro i h hi; rw [hH] at hi; rw [hS]; exact ho.startedS i h hi
  · intro h hh; rw [hP] at hh; rw [hS]; exact ho.startedP h hh

theorem OnceInv_fire (k : K) (i : Nat) (ec : Ec) (ho : OnceInv k) : OnceInv (fire k i ec) := by
  have hS : (fire k i ec).started = k.started := by rw [fire_eq]
  cases hh : (k.timers i).handler with
  | none =>
    refine OnceInv_congr k _ (fun j => ?_) (by rw [fire_posted, hh]; simp) hS ho
    rw [fire_handler]; split
    · subst j; exact hh.symm
    · rfl
  | some h =>
    have hp : (fire k i ec).posted = k.posted ++ [h] := by rw [fire_posted, hh]; rfl
    have hsl : ∀ a h', ((fire k i ec).timers a).handler = some h' →
        a ≠ i ∧ (k.timers a).handler = some h' := by
      intro a h' ha
      rw [fire_handler] at ha
      split at ha
      · cases ha
      · exact ⟨‹_›, ha⟩
    constructor
    · intro a b h' ha hb
      exact ho.slotUniq a b h' (hsl a h' ha).2 (hsl b h' hb).2
    · intro a h' ha
      obtain ⟨hne, ha'⟩ := hsl a h' ha
      rw [hp, List.mem_append, List.mem_singleton]
      rintro (hm | rfl)
      · exact ho.slotExcl a h' ha' hm
      · exact hne (ho.slotUniq a i h' ha' hh)
    · rw [hp, List.nodup_append]
      refine ⟨ho.nodup, by simp, ?_⟩
      intro a ha b hb
      rw [List.mem_singleton.mp hb]
      rintro rfl; exact ho.slotExcl i a hh ha
    · intro a h' ha
      rw [hS]
      exact ho.startedS a h' (hsl a h' ha).2
    · intro h' hm
      rw [hS]
      rw [hp, List.mem_append, List.mem_singleton] at hm
      rcases hm with hm | rfl
      · exact ho.startedP h' hm
      · exact ho.startedS i h' hh

theorem OnceInv_setHandler (k : K) (i h : Nat) (hf : h ∉ k.started) (ho : OnceInv k) :
    OnceInv (setHandler k i h) := by
  have hnoslot : ∀ a, (k.timers a).handler ≠ some h := fun a ha => hf (ho.startedS a h ha)
  have hnopost : h ∉ k.posted := fun hm => hf (ho.startedP h hm)
  refine ⟨fun a b h' ha hb => ?_, fun a h' ha => ?_, ho.nodup, fun a h' ha => ?_,
    fun h' hm => List.mem_cons_of_mem _ (ho.startedP h' hm)⟩ <;> rw [setHandler_handler] at ha
  · rw [setHandler_handler] at hb
    split at ha <;> split at hb
    · rename_i h1 h2; rw [h1, h2]
    · cases ha; exact absurd hb (hnoslot b)
    · cases hb; exact absurd ha (hnoslot a)
    · exact ho.slotUniq a b h' ha hb
  · split at ha
    · cases ha; exact hnopost
    · exact ho.slotExcl a h' ha
  · split at ha
    · cases ha; exact List.mem_cons_self
    · exact List.mem_cons_of_mem _ (ho.startedS a h' ha)

def Lbl.waitId? : Lbl → Option Nat
  | .wait _ h => some h
  | _ => none

/-- Every `wait` in the sequence uses a handler id that is neither in `used` nor used by an
    earlier `wait` of the sequence. -/
def FreshWaits : List Nat → List Lbl → Prop
  | _, [] => True
  | used, l :: rest =>
    match l.waitId? with
    | some h => h ∉ used ∧ FreshWaits (h :: used) rest
    | none => FreshWaits used rest

theorem step_started (p : KParams) (k : K) (l : Lbl) (hl : l.waitId? = none) :
    (step p k l).started = k.started :=
  step_ind p (P := fun k' => k'.started = k.started) k l rfl
    (hcancel := fun k i h => by rw [cancel_fst]; split <;> exact h)
    (harm := fun _ _ _ _ h => h)
    (hset := fun _ _ _ hl' => by subst hl'; cases hl)
    (hnow := fun _ _ hl' => by subst hl'; cases hl)
    (hpost := fun _ _ h => h)
    (hexec := fun _ _ _ _ => rfl)
    (hstop := fun _ _ h => h)
    (htick := fun _ _ _ _ _ _ => rfl)
    (hpop := fun k e i rest _ _ h => by rw [fire_eq]; exact h)

theorem asyncWait_started (p : KParams) (k : K) (i h : Nat) :
    (asyncWait p k i h).started = h :: k.started := by
  unfold asyncWait
  split
  · split
    · rfl
    · rw [fire_eq]; rfl
  · rfl

theorem OnceInv_step (p : KParams) (k : K) (l : Lbl)
    (hf : ∀ h, l.waitId? = some h → h ∉ k.started) (ho : OnceInv k) : OnceInv (step p k l) :=
  view_step p k l ho OnceInv_congr OnceInv_fire
    fun k' i h hl _ hS ho' => OnceInv_setHandler k' i h (hS ▸ hf h (hl ▸ rfl)) ho'


theorem OnceInv_run (p : KParams) (ls : List Lbl) (k : K) (hf : FreshWaits k.started ls)
    (ho : OnceInv k) : OnceInv (runLbls p k ls) := by
  induction ls generalizing k with
  | nil => exact ho
  | cons l rest ih =>
    unfold FreshWaits at hf
    cases hw : l.waitId? with
    | none =>
      rw [hw] at hf
      exact ih _ (by rw [step_started p k l hw]; exact hf) (OnceInv_step p k l (by simp [hw]) ho)
    | some h =>
      rw [hw] at hf
      refine ih _ ?_ (OnceInv_step p k l (fun h' hh => by cases hw.symm.trans hh; exact hf.1) ho)
      obtain ⟨i, rfl⟩ : ∃ i, l = .wait i h := by
        cases l <;> simp [Lbl.waitId?] at hw
        exact ⟨_, by rw [hw]⟩
      rw [show step p k (.wait i h) = asyncWait p k i h from rfl, asyncWait_started]; exact hf.2

theorem freshWaits_iff (used : List Nat) (ls : List Lbl) :
    FreshWaits used ls ↔
      (ls.filterMap Lbl.waitId?).Nodup ∧ ∀ h, h ∈ ls.filterMap Lbl.waitId? → h ∉ used := by
  induction ls generalizing used with
  | nil => simp [FreshWaits]
  | cons l rest ih =>
    unfold FreshWaits
    cases hw : l.waitId? with
    | none => simp only [List.filterMap_cons, hw]; exact ih used
    | some h =>
      simp only [List.filterMap_cons, hw, List.nodup_cons, List.mem_cons]
      rw [ih (h :: used)]
      constructor
      · rintro ⟨h1, h2, h3⟩
        refine ⟨⟨fun hm => h3 h hm (.head _), h2⟩, ?_⟩
        rintro h' (rfl | hm)
        · exact h1
        · exact fun hu => h3 h' hm (.tail _ hu)
      · rintro ⟨⟨h1, h2⟩, h3⟩
        refine ⟨h3 h (.inl rfl), h2, fun h' hm hu => ?_⟩
        rcases List.mem_cons.mp hu with rfl | hu
        · exact h1 hm
        · exact h3 h' (.inr hm) hu

/-- The precondition of `async_wait` (an `assert` compiled out under NDEBUG): no wait is
    started on a timer while another one is outstanding on it. Threaded along the run. -/
def WaitPre (p : KParams) : K → List Lbl → Prop
  | _, [] => True
  | k, l :: rest =>
    (∀ i h, l = .wait i h → (k.timers i).handler = none) ∧ WaitPre p (step p k l) rest

def Held (k : K) : Prop :=
  ∀ h, h ∈ k.started → (∃ i, (k.timers i).handler = some h) ∨ h ∈ k.posted

theorem Held_congr (k k' : K) (hH : ∀ i, (k'.timers i).handler = (k.timers i).handler)
    (hP : k'.posted = k.posted) (hS : k'.started = k.started) (ho : Held k) : Held k' := by
  intro h hm
  rw [hP]; simp only [hH]
  exact ho h (hS ▸ hm)

theorem Held_fire (k : K) (i : Nat) (ec : Ec) (ho : Held k) : Held (fire k i ec) := by
  intro h hm
  rw [fire_posted]
  rcases ho h (by rwa [fire_eq] at hm) with ⟨a, ha⟩ | hp
  · by_cases hai : a = i
    · subst hai; right; simp [ha]
    · left; exact ⟨a, by rw [fire_handler]; simp [hai, ha]⟩
  · exact .inr (List.mem_append_left _ hp)

theorem Held_setHandler (k : K) (i h : Nat) (hn : (k.timers i).handler = none) (ho : Held k) :
    Held (setHandler k i h) := by
  intro h' hm
  simp only [setHandler_handler]
  rcases List.mem_cons.mp hm with rfl | hm
  · exact .inl ⟨i, by simp⟩
  · rcases ho h' hm with ⟨a, ha⟩ | hq
    · have hai : a ≠ i := by rintro rfl; simp [hn] at ha
      exact .inl ⟨a, by simp [hai, ha]⟩
    · exact .inr hq

theorem Held_step (p : KParams) (k : K) (l : Lbl)
    (hn : ∀ i h, l = .wait i h → (k.timers i).handler = none) (ho : Held k) :
    Held (step p k l) :=
  view_step p k l ho Held_congr Held_fire
    fun k' i h hl hH _ ho' => Held_setHandler k' i h ((hH i).trans (hn i h hl)) ho'

theorem Held_run (p : KParams) (ls : List Lbl) (k : K) (hp : WaitPre p k ls) (ho : Held k) :
    Held (runLbls p k ls) := by
  induction ls generalizing k with
  | nil => exact ho
  | cons l rest ih => exact ih _ hp.2 (Held_step p k l hp.1 ho)

theorem Held_init : Held ({} : K) := fun _ hm => by cases hm

theorem OnceInv.ran_nodup {k : K} (ho : OnceInv k) :
    ((k.ran.filter (fun x => x.1.tm)).map (fun x => x.1.h)).Nodup := by
  have h := ho.nodup
  unfold K.posted at h
  rw [List.filter_append, List.map_append] at h
  have h1 := (List.nodup_append.mp h).1
  have : (k.ran.filter (fun x => x.1.tm)).map (fun x => x.1.h)
      = ((k.ran.map Prod.fst).filter (·.tm)).map (·.h) := by
    simp [List.filter_map, Function.comp_def]
  rw [this]; exact h1

end SimVerif
