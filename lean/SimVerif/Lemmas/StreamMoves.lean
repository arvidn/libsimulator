/-
  SimVerif.Lemmas.StreamMoves — what one step of the open stream system `TS` (SimVerif/StreamSys.lean)
  is made of.

  `TS.Move c l s eA eB s'`: under label `l` the system goes from `s` to `s'` by ONE call of a mechanism
  function (or none, or two in a row), the writer's functions returning the effect list `eA`, the
  reader's `eB`; every constructor carries the tests of its branch of `TS.step`. `TS.step_move` walks
  `TS.step` / `runCtl` / `wake` / `startWrite` (and the effect lists `effsA` / `effsB` that follow
  them) once; every invariant of `TS` is then proved move by move and never looks at a label again.
  The exception are the equations between two runs of `TS.step` on states that differ in the bag
  (`TS.step_addBag`, `TS.step_deliver_frame`, `TS.step_drop_eq` in Lemmas/StreamNet.lean): a relation
  without determinism does not give them, they walk `TS.step` themselves.

  A parked write is taken out of its slot in the same move that decides to run it (`submit`,
  `ackWake`): the state in between — a write parked although the window has room — is not one in which
  the system ever rests, and the quiescence invariant does not hold in it.
-/
import SimVerif.StreamNet

namespace SimVerif

/-! ### the effect lists `TS.step` interprets, re-collected

  `TS.step` passes every effect list of a mechanism function to `TS.emit`, which keeps the forwards
  and the completions and discards everything else — the capture records too. The functions below
  follow `TS.step` case by case and return the same effect lists whole: `effsA` those of the
  writer's functions, `effsB` those of the reader's. -/

def TS.finishE (c : TcpCfg) (s : TS) (op : WriteOp) (r : Except Ec Nat) : List NEff :=
  (s.net.tcpWriteFinish c.a op r).2

def TS.startWriteE (c : TcpCfg) (s : TS) (t : Int) (op : WriteOp) : List NEff :=
  match s.net.tcpWritePrep c.a op.bufs with
  | .error e => s.finishE c op (.error e)
  | .ok (_, []) => s.finishE c op (.ok 0)
  | .ok (hops, seg :: _) => (s.net.tcpSendSeg t c.a hops seg).2

def TS.wakeE (c : TcpCfg) (s : TS) (t : Int) : List NEff :=
  match s.net.tcp? c.a with
  | some sa =>
    match sa.sendH with
    | some op => ({ s with net := s.net.setTcp c.a { sa with sendH := none } }).startWriteE c t op
    | none => []
  | none => []

def TS.runCtlE (c : TcpCfg) (s : TS) (t : Int) : List NEff :=
  match s.ctl with
  | .idle => []
  | .resend (_ + 1) _ _ =>
    match s.net.tcpResendOne t c.a with
    | none => []
    | some r => r.2
  | .resend 0 wb acked =>
    let r := s.net.tcpAckPost c.tp c.a wb acked
    if r.2 then ({ s with net := r.1, ctl := .idle }).wakeE c t else []
  | .segs op hops rest acc =>
    if s.net.tcpWindowFull c.a then s.finishE c op (.ok acc)
    else
      match rest with
      | [] => s.finishE c op (.ok acc)
      | seg :: _ => (s.net.tcpSendSeg t c.a hops seg).2

def TS.effsA (c : TcpCfg) (s : TS) : TLbl → List NEff
  | .write t op =>
    match s.ctl with
    | .idle =>
      let r := s.net.tcpAsyncWrite c.a op
      r.2 ++ (({ s with net := r.1 }).emit r.2).wakeE c t
    | _ => []
  | .run t => s.runCtlE c t
  | .deliver t i tr =>
    match s.bag[i]? with
    | none => []
    | some p0 =>
      match (p0.inTransit tr).ty with
      | .ack => (match s.ctl with | .idle => (s.net.tcpIncoming c.tp t c.a (p0.inTransit tr)).2 | _ => [])
      | _ => []
  | .closeA t =>
    match s.ctl with
    | .idle => (s.net.tcpClose t c.a).2
    | _ => []
  | _ => []

def TS.effsB (c : TcpCfg) (s : TS) : TLbl → List NEff
  | .deliver t i tr =>
    match s.bag[i]? with
    | none => []
    | some p0 =>
      match (p0.inTransit tr).ty with
      | .payload | .err => (s.net.tcpIncoming c.tp t c.b (p0.inTransit tr)).2
      | _ => []
  | .read op => (s.net.tcpAsyncRead c.b op).2
  | .waitRead h => (s.net.tcpWaitRead c.b h).2
  | _ => []

/-- all effects of one step, in emission order (at most one of the two is non-empty) -/
def TS.effs (c : TcpCfg) (s : TS) (l : TLbl) : List NEff := s.effsA c l ++ s.effsB c l

/-- the virtual time of a step (labels of the reader's API carry none: they emit no packet) -/
def TLbl.time : TLbl → Int
  | .write t _ => t
  | .run t => t
  | .deliver t _ _ => t
  | .closeA t => t
  | _ => 0

theorem Pkt.inTransit_eq (p : Pkt) (tr : Option (List String × String)) :
    ∃ hops src, p.inTransit tr = { p with hops := hops, src := src } := by
  cases tr with
  | none => exact ⟨_, _, rfl⟩
  | some x => exact ⟨x.1, x.2, rfl⟩

theorem inTransit_fields (p : Pkt) (tr : Option (List String × String)) :
    (p.inTransit tr).id = p.id ∧ (p.inTransit tr).ty = p.ty ∧ (p.inTransit tr).payload = p.payload
    ∧ (p.inTransit tr).hasDrop = p.hasDrop := by
  obtain ⟨_, _, e⟩ := p.inTransit_eq tr; rw [e]; exact ⟨rfl, rfl, rfl, rfl⟩

theorem TLbl.isDrop_of_isNet {l : TLbl} (h : l.isNet = false) : l.isDrop = false := by
  cases l <;> first | rfl | cases h

namespace TS

/-- `Move c l s eA eB s'`: under label `l` the state `s` becomes `s'` by one call of a mechanism function
    (`skip`: none, `seq`: two), whose effect list is `eA` if it is a function of the writer `c.a` and `eB`
    if of the reader `c.b`; the hypotheses of a constructor are the tests of its branch of `TS.step` -/
inductive Move (c : TcpCfg) : TLbl → TS → List NEff → List NEff → TS → Prop
  /-- the label is not enabled -/
  | skip {l s} : Move c l s [] [] s
  /-- a parked write taken out of its slot is started in the same step -/
  | seq {l s e1 s1 e2 s'} (h1 : Move c l s e1 [] s1) (h2 : Move c l s1 e2 [] s') (hl : l.isNet = false) :
    Move c l s (e1 ++ e2) [] s'
  /-- `async_write_some` on a socket that parks nothing (it does not exist) -/
  | submit0 {s t op} (hi : s.ctl = .idle)
      (hn : ∀ sa, (s.net.tcpAsyncWrite c.a op).1.tcp? c.a = some sa → sa.sendH = none) :
    Move c (.write t op) s (s.net.tcpAsyncWrite c.a op).2 []
      (({ s with net := (s.net.tcpAsyncWrite c.a op).1 } : TS).emit (s.net.tcpAsyncWrite c.a op).2)
  /-- `async_write_some`: the previous write is aborted, the new one parked and taken out again -/
  | submit {s t op sa op'} (hi : s.ctl = .idle)
      (hs : (s.net.tcpAsyncWrite c.a op).1.tcp? c.a = some sa) (hp : sa.sendH = some op') :
    Move c (.write t op) s (s.net.tcpAsyncWrite c.a op).2 []
      (({ s with net := (s.net.tcpAsyncWrite c.a op).1.setTcp c.a { sa with sendH := none } } : TS).emit
        (s.net.tcpAsyncWrite c.a op).2)
  /-- end of the ACK path: window growth; no writer to wake -/
  | ackIdle {s t wb acked} (hc : s.ctl = .resend 0 wb acked)
      (hn : (s.net.tcpAckPost c.tp c.a wb acked).2 = false
        ∨ ∀ sa, (s.net.tcpAckPost c.tp c.a wb acked).1.tcp? c.a = some sa → sa.sendH = none) :
    Move c (.run t) s [] [] { s with net := (s.net.tcpAckPost c.tp c.a wb acked).1, ctl := .idle }
  /-- end of the ACK path: window growth; the parked write is taken out of its slot -/
  | ackWake {s t wb acked sa op} (hc : s.ctl = .resend 0 wb acked)
      (hw : (s.net.tcpAckPost c.tp c.a wb acked).2 = true)
      (hs : (s.net.tcpAckPost c.tp c.a wb acked).1.tcp? c.a = some sa) (hp : sa.sendH = some op) :
    Move c (.run t) s [] []
      { s with net := (s.net.tcpAckPost c.tp c.a wb acked).1.setTcp c.a { sa with sendH := none }, ctl := .idle }
  /-- `write_some_impl` refuses (or would block: the write is parked) -/
  | startFail {l s op e} (hi : s.ctl = .idle) (h : s.net.tcpWritePrep c.a op.bufs = .error e) :
    Move c l s (s.net.tcpWriteFinish c.a op (.error e)).2 [] (s.finish c op (.error e))
  | startEmpty {l s op hops} (hi : s.ctl = .idle) (h : s.net.tcpWritePrep c.a op.bufs = .ok (hops, [])) :
    Move c l s (s.net.tcpWriteFinish c.a op (.ok 0)).2 [] (s.finish c op (.ok 0))
  | startSeg {l s op hops seg rest} (hi : s.ctl = .idle)
      (h : s.net.tcpWritePrep c.a op.bufs = .ok (hops, seg :: rest)) :
    Move c l s (s.net.tcpSendSeg l.time c.a hops seg).2 []
      { s.sendSeg c l.time hops seg with ctl := .segs op hops rest seg.length }
  | loopDone {s t op hops rest acc} (hc : s.ctl = .segs op hops rest acc)
      (h : s.net.tcpWindowFull c.a = true ∨ rest = []) :
    Move c (.run t) s (s.net.tcpWriteFinish c.a op (.ok acc)).2 [] (s.finish c op (.ok acc))
  | loopSeg {s t op hops seg rest acc} (hc : s.ctl = .segs op hops (seg :: rest) acc)
      (h : s.net.tcpWindowFull c.a = false) :
    Move c (.run t) s (s.net.tcpSendSeg t c.a hops seg).2 []
      { s.sendSeg c t hops seg with ctl := .segs op hops rest (acc + seg.length) }
  /-- the retransmission loop ends: nothing to resend, or the head does not fit the window -/
  | resendStop {s t n wb acked} (hc : s.ctl = .resend (n + 1) wb acked) (h : s.net.tcpResendOne t c.a = none) :
    Move c (.run t) s [] [] { s with ctl := .resend 0 wb acked }
  | resendOne {s t n wb acked r} (hc : s.ctl = .resend (n + 1) wb acked) (h : s.net.tcpResendOne t c.a = some r) :
    Move c (.run t) s r.2 [] (({ s with net := r.1, ctl := .resend n wb acked } : TS).emit r.2)
  /-- an ACK reaches the writer: the ACK path begins -/
  | ackArrive {s t i tr p0} (hp : s.bag[i]? = some p0) (hty : (p0.inTransit tr).ty = .ack) (hi : s.ctl = .idle) :
    Move c (.deliver t i tr) s (s.net.tcpIncoming c.tp t c.a (p0.inTransit tr)).2 []
      (({ s with bag := s.bag.eraseIdx i, net := (s.net.tcpIncoming c.tp t c.a (p0.inTransit tr)).1,
                 ctl := match ackPostOf (s.net.tcpIncoming c.tp t c.a (p0.inTransit tr)).2 with
                   | some (wb, acked) => TCtl.resend
                       ((((s.net.tcpIncoming c.tp t c.a (p0.inTransit tr)).1.tcp? c.a).map (·.resend.length)).getD 0) wb acked
                   | none => TCtl.idle } : TS).emit (s.net.tcpIncoming c.tp t c.a (p0.inTransit tr)).2)
  | dataArrive {s t i tr p0} (hp : s.bag[i]? = some p0)
      (hty : (p0.inTransit tr).ty = .payload ∨ (p0.inTransit tr).ty = .err) :
    Move c (.deliver t i tr) s [] (s.net.tcpIncoming c.tp t c.b (p0.inTransit tr)).2
      ((({ s with bag := s.bag.eraseIdx i, net := (s.net.tcpIncoming c.tp t c.b (p0.inTransit tr)).1 } : TS).emit
          (s.net.tcpIncoming c.tp t c.b (p0.inTransit tr)).2).note
        ((s.net.tcpPreWake c.b (p0.inTransit tr)).bind (·.wakeRead c.tp)))
  /-- a packet of no kind this connection sends -/
  | vanish {s t i tr p0} (hp : s.bag[i]? = some p0) (h1 : (p0.inTransit tr).ty ≠ .ack)
      (h2 : (p0.inTransit tr).ty ≠ .payload) (h3 : (p0.inTransit tr).ty ≠ .err) :
    Move c (.deliver t i tr) s [] [] { s with bag := s.bag.eraseIdx i }
  | handBack {s i tr p0} (hp : s.bag[i]? = some p0) (hd : (p0.inTransit tr).hasDrop = true) :
    Move c (.drop i tr) s [] []
      { s with bag := s.bag.eraseIdx i, net := s.net.tcpPacketDropped c.tp c.a (p0.inTransit tr) }
  | read {s op} :
    Move c (.read op) s [] (s.net.tcpAsyncRead c.b op).2
      ((({ s with net := (s.net.tcpAsyncRead c.b op).1 } : TS).emit (s.net.tcpAsyncRead c.b op).2).note
        ((s.net.tcp? c.b).bind fun sb => rdEvOf (sb.readSome sb.chan.isSome op.caps).2))
  | readNb {s caps} :
    Move c (.readNb caps) s [] []
      (({ s with net := (s.net.tcpReadNb c.b caps).1 } : TS).note (rdEvOf (s.net.tcpReadNb c.b caps).2))
  | waitRead {s h} :
    Move c (.waitRead h) s [] (s.net.tcpWaitRead c.b h).2
      ((({ s with net := (s.net.tcpWaitRead c.b h).1 } : TS).emit (s.net.tcpWaitRead c.b h).2).note
        ((s.net.tcp? c.b).bind fun sb =>
          match sb.available sb.chan.isSome with | .error e => some (RdEv.err e) | .ok _ => none))
  | close {s t} (hi : s.ctl = .idle) :
    Move c (.closeA t) s (s.net.tcpClose t c.a).2 []
      (({ s with net := (s.net.tcpClose t c.a).1, closed := true } : TS).emit (s.net.tcpClose t c.a).2)

variable (c : TcpCfg)

theorem start_move (l : TLbl) (s : TS) (hi : s.ctl = .idle) (op : WriteOp) :
    Move c l s (s.startWriteE c l.time op) [] (s.startWrite c l.time op) := by
  unfold TS.startWrite TS.startWriteE
  cases h : s.net.tcpWritePrep c.a op.bufs with
  | error e => exact .startFail hi h
  | ok x =>
    obtain ⟨hops, segs⟩ := x
    cases segs with
    | nil => exact .startEmpty hi h
    | cons seg rest => exact .startSeg hi h

theorem wake_unpark (s : TS) (hi : s.ctl = .idle) (t : Int) :
    ((∀ sa, s.net.tcp? c.a = some sa → sa.sendH = none) ∧ s.wake c t = s ∧ s.wakeE c t = [])
    ∨ ∃ sa op, s.net.tcp? c.a = some sa ∧ sa.sendH = some op
        ∧ s.wake c t = ({ s with net := s.net.setTcp c.a { sa with sendH := none } } : TS).startWrite c t op
        ∧ s.wakeE c t = ({ s with net := s.net.setTcp c.a { sa with sendH := none } } : TS).startWriteE c t op := by
  have e : ({ s with ctl := .idle } : TS) = s := by rw [← hi]
  unfold TS.wake TS.wakeE
  cases hs : s.net.tcp? c.a with
  | none => exact .inl ⟨fun _ h => (nomatch h), e, rfl⟩
  | some sa =>
    dsimp only
    cases hp : sa.sendH with
    | none => exact .inl ⟨fun _ h => Option.some.inj h ▸ hp, e, rfl⟩
    | some op => exact .inr ⟨sa, op, rfl, hp, rfl, rfl⟩

theorem runCtl_move (s : TS) (t : Int) : Move c (.run t) s (s.runCtlE c t) [] (s.runCtl c t) := by
  unfold TS.runCtl TS.runCtlE
  cases hc : s.ctl with
  | idle => exact .skip
  | resend n wb acked =>
    cases n with
    | succ n =>
      cases h : s.net.tcpResendOne t c.a with
      | none => exact .resendStop hc h
      | some r => exact .resendOne hc h
    | zero =>
      dsimp only
      cases hw : (s.net.tcpAckPost c.tp c.a wb acked).2 with
      | false => exact .ackIdle hc (.inl hw)
      | true =>
        rcases wake_unpark c { s with net := (s.net.tcpAckPost c.tp c.a wb acked).1, ctl := .idle } rfl t with
          ⟨hn, e1, e2⟩ | ⟨sa, op, hs, hp, e1, e2⟩ <;> simp only [if_true, e1, e2]
        · exact .ackIdle hc (.inr hn)
        · exact .seq (.ackWake hc hw hs hp) (start_move c (.run t) _ rfl op) rfl
  | segs op hops rest acc =>
    dsimp only
    cases hf : s.net.tcpWindowFull c.a with
    | true => exact .loopDone hc (.inl hf)
    | false =>
      cases rest with
      | nil => exact .loopDone hc (.inr rfl)
      | cons seg rest => exact .loopSeg hc hf

theorem step_move (s : TS) (l : TLbl) : Move c l s (s.effsA c l) (s.effsB c l) (s.step c l) := by
  cases l with
  | write t op =>
    simp only [TS.step, TS.effsA, TS.effsB]
    cases hc : s.ctl with
    | idle =>
      dsimp only
      rw [← hc]
      rcases wake_unpark c (({ s with net := (s.net.tcpAsyncWrite c.a op).1 } : TS).emit (s.net.tcpAsyncWrite c.a op).2)
          hc t with ⟨hn, e1, e2⟩ | ⟨sa, op', hs, hp, e1, e2⟩ <;> rw [e1, e2]
      · rw [List.append_nil]; exact .submit0 hc hn
      · exact .seq (.submit hc hs hp) (start_move c (.write t op) _ (by exact hc) op') rfl
    | resend n wb acked => exact .skip
    | segs op' hops rest acc => exact .skip
  | run t => exact runCtl_move c s t
  | deliver t i tr =>
    simp only [TS.step, TS.effsA, TS.effsB]
    cases hp : s.bag[i]? with
    | none => exact .skip
    | some p0 =>
      dsimp only
      cases hty : (p0.inTransit tr).ty with
      | ack =>
        cases hc : s.ctl with
        | idle => exact .ackArrive hp hty hc
        | resend n wb acked => exact .skip
        | segs op' hops rest acc => exact .skip
      | payload => exact .dataArrive hp (.inl hty)
      | err => exact .dataArrive hp (.inr hty)
      | uninit => exact .vanish hp (by simp [hty]) (by simp [hty]) (by simp [hty])
      | syn => exact .vanish hp (by simp [hty]) (by simp [hty]) (by simp [hty])
      | synack => exact .vanish hp (by simp [hty]) (by simp [hty]) (by simp [hty])
  | drop i tr =>
    simp only [TS.step, TS.effsA, TS.effsB]
    cases hp : s.bag[i]? with
    | none => exact .skip
    | some p0 =>
      dsimp only
      cases hd : (p0.inTransit tr).hasDrop with
      | true => exact .handBack hp hd
      | false => exact .skip
  | read op => exact .read
  | readNb caps => exact .readNb
  | waitRead h => exact .waitRead
  | closeA t =>
    simp only [TS.step, TS.effsA, TS.effsB]
    cases hc : s.ctl with
    | idle => dsimp only; rw [← hc]; exact .close hc
    | resend n wb acked => exact .skip
    | segs op' hops rest acc => exact .skip

end TS

end SimVerif
