/-
  C04 / C12 helper lemmas about TCP sockets and acceptors (SimVerif/Tcp.lean), at the level of
  one socket object: what the abort functions post (explicit expressions of the slots), that
  completing functions empty the slot they complete, and `SStep`, the summary of what a
  function of one socket does to everything the invariants of the object table look at
  (handler ids, accept queue, retransmission queue, kind of effects).
-/
import SimVerif.Lemmas.HandlersBasic
import SimVerif.Lemmas.TcpRead

namespace SimVerif

/-- the handler ids a TCP socket / acceptor holds, in the order the aborts visit them -/
def TcpSock.slotIds (s : TcpSock) : List Nat :=
  (s.recvH.map (·.h)).toList ++ s.waitRecvH.toList ++ (s.sendH.map (·.h)).toList
    ++ s.connectH.toList ++ (s.acceptOp.map AcceptOp.h).toList

/-- at most one of read / wait-for-read is outstanding (both entry points abort both first) -/
def TcpSock.recvExcl (s : TcpSock) : Prop := s.recvH = none ∨ s.waitRecvH = none

def TcpSock.conns (s : TcpSock) : List Nat := (s.acc.map (·.conns)).getD []

/-- **Summary of a step of one socket object** from `s` to `s'` with effects `effs`; `new` are the
    handler ids brought in. -/
structure SStep (s s' : TcpSock) (effs : List NEff) (new : List Nat) : Prop where
  ids    : s.recvExcl → (s'.slotIds ++ effIds effs).Perm (s.slotIds ++ new) ∧ s'.recvExcl
  conns  : ∀ c ∈ s'.conns, c ∈ s.conns
  resend : ∀ p ∈ s'.resend, p ∈ s.resend
  posts  : Posts effs

theorem Posts.postsOnly {l : List NEff} (h : Posts l) : postsOnly l :=
  fun e he => let ⟨_, hc⟩ := h e he; hc ▸ rfl

theorem Posts.noInvoke {l : List NEff} (h : Posts l) : noInvoke l := h.postsOnly.noInvoke

theorem Aborts.postsOf_aborted {l : List NEff} (h : Aborts l) : ∀ c ∈ h4_postsOf l, c.ec = .aborted := by
  induction l with
  | nil => exact fun _ hc => nomatch hc
  | cons e r ih =>
    obtain ⟨c, rfl, hc⟩ := h e List.mem_cons_self
    intro d hd
    rcases List.mem_cons.mp hd with rfl | hd
    · exact hc
    · exact ih (fun x hx => h x (List.mem_cons_of_mem _ hx)) d hd

namespace HL

theorem acceptOp_congr {s s' : TcpSock} (h : s'.acc = s.acc) : s'.acceptOp = s.acceptOp := by
  unfold TcpSock.acceptOp; rw [h]

theorem conns_congr {s s' : TcpSock} (h : s'.acc = s.acc) : s'.conns = s.conns := by
  unfold TcpSock.conns; rw [h]

/-- every hypothesis is closed by `rfl` when `s'` is `s` with other fields updated -/
theorem ids_keep {s s' : TcpSock} (recvH : s'.recvH = s.recvH := by rfl)
    (waitRecvH : s'.waitRecvH = s.waitRecvH := by rfl) (sendH : s'.sendH = s.sendH := by rfl)
    (connectH : s'.connectH = s.connectH := by rfl) (acceptOp : s'.acceptOp = s.acceptOp := by rfl)
    (hx : s.recvExcl) : (s'.slotIds ++ effIds []).Perm (s.slotIds ++ []) ∧ s'.recvExcl :=
  ⟨by unfold TcpSock.slotIds; rw [recvH, waitRecvH, sendH, connectH, acceptOp]; exact List.Perm.refl _,
    by unfold TcpSock.recvExcl at *; rw [recvH, waitRecvH]; exact hx⟩

theorem ids_connectH {s s' : TcpSock} {e new : List Nat}
    (h : (s'.connectH.toList ++ e).Perm (s.connectH.toList ++ new)) (recvH : s'.recvH = s.recvH := by rfl)
    (waitRecvH : s'.waitRecvH = s.waitRecvH := by rfl) (sendH : s'.sendH = s.sendH := by rfl)
    (acceptOp : s'.acceptOp = s.acceptOp := by rfl) : (s'.slotIds ++ e).Perm (s.slotIds ++ new) := by
  unfold TcpSock.slotIds; rw [recvH, waitRecvH, sendH, acceptOp]
  simp only [List.append_assoc]
  -- move the accept slot's ids past the connect slot's on both sides
  exact .append_left _ (.append_left _ (.append_left _ ((List.perm_append_comm_assoc ..).trans
    ((h.append_left _).trans (List.perm_append_comm_assoc ..)))))

theorem ids_acceptOp {s s' : TcpSock} {e new : List Nat}
    (h : ((s'.acceptOp.map AcceptOp.h).toList ++ e).Perm ((s.acceptOp.map AcceptOp.h).toList ++ new))
    (recvH : s'.recvH = s.recvH := by rfl) (waitRecvH : s'.waitRecvH = s.waitRecvH := by rfl)
    (sendH : s'.sendH = s.sendH := by rfl) (connectH : s'.connectH = s.connectH := by rfl) :
    (s'.slotIds ++ e).Perm (s.slotIds ++ new) := by
  unfold TcpSock.slotIds; rw [recvH, waitRecvH, sendH, connectH]
  simp only [List.append_assoc]
  exact .append_left _ (.append_left _ (.append_left _ (.append_left _ h)))

theorem _root_.SimVerif.SStep.keep {s s' : TcpSock} (recvH : s'.recvH = s.recvH := by rfl)
    (waitRecvH : s'.waitRecvH = s.waitRecvH := by rfl) (sendH : s'.sendH = s.sendH := by rfl)
    (connectH : s'.connectH = s.connectH := by rfl) (acceptOp : s'.acceptOp = s.acceptOp := by rfl)
    (conns : ∀ c ∈ s'.conns, c ∈ s.conns := by exact fun _ h => h)
    (resend : ∀ p ∈ s'.resend, p ∈ s.resend := by exact fun _ h => h) : SStep s s' [] [] :=
  ⟨ids_keep recvH waitRecvH sendH connectH acceptOp, conns, resend, .nil⟩

theorem _root_.SimVerif.SStep.trans {s s1 s2 : TcpSock} {e1 e2 : List NEff} {new1 new2 : List Nat}
    (h1 : SStep s s1 e1 new1) (h2 : SStep s1 s2 e2 new2) : SStep s s2 (e1 ++ e2) (new1 ++ new2) := by
  refine ⟨fun hx => ?_, fun c hc => h1.conns c (h2.conns c hc), fun p hp => h1.resend p (h2.resend p hp),
    h1.posts.append h2.posts⟩
  obtain ⟨p1, x1⟩ := h1.ids hx
  obtain ⟨p2, x2⟩ := h2.ids x1
  refine ⟨?_, x2⟩
  rw [effIds_append]
  perm_omega p1 p2

theorem tcp_abortAccept_slots (s : TcpSock) :
    s.abortAccept.1.acceptOp = none ∧ s.abortAccept.1.recvH = s.recvH ∧ s.abortAccept.1.waitRecvH = s.waitRecvH
    ∧ s.abortAccept.1.sendH = s.sendH ∧ s.abortAccept.1.connectH = s.connectH := by
  rw [TcpSock.abortAccept_eq]
  refine ⟨?_, rfl, rfl, rfl, rfl⟩
  unfold TcpSock.acceptOp
  cases s.acc <;> rfl

theorem tcp_abortAccept_frame (s : TcpSock) :
    s.abortAccept.1.acc.isSome = s.acc.isSome ∧ s.abortAccept.1.conns = s.conns
    ∧ s.abortAccept.1.resend = s.resend := by
  rw [TcpSock.abortAccept_eq]
  unfold TcpSock.conns
  cases s.acc <;> exact ⟨rfl, rfl, rfl⟩

theorem posts_tcpAbortRecvEffs (s : TcpSock) :
    (h4_postsOf (tcpAbortRecvEffs s)).map (·.h) = (s.recvH.map (·.h)).toList ++ s.waitRecvH.toList := by
  unfold tcpAbortRecvEffs
  cases s.recvH <;> cases s.waitRecvH <;> simp [h4_postsOf]

theorem posts_tcpAbortSendEffs (s : TcpSock) :
    (h4_postsOf (tcpAbortSendEffs s)).map (·.h) = (s.sendH.map (·.h)).toList := by
  unfold tcpAbortSendEffs
  cases s.sendH <;> simp [h4_postsOf]

theorem posts_tcpAbortConnEffs (s : TcpSock) :
    (h4_postsOf (tcpAbortConnEffs s)).map (·.h) = s.connectH.toList := by
  unfold tcpAbortConnEffs
  cases s.connectH <;> simp [h4_postsOf]

theorem posts_tcpAbortAcceptEffs (s : TcpSock) :
    (h4_postsOf (tcpAbortAcceptEffs s)).map (·.h) = (s.acceptOp.map AcceptOp.h).toList := by
  unfold tcpAbortAcceptEffs
  cases h : s.acceptOp with
  | none => simp [h4_postsOf]
  | some op => cases op <;> simp [h4_postsOf, acceptAbortEff, AcceptOp.h]

theorem effIds_tcpAbortRecvEffs (s : TcpSock) :
    effIds (tcpAbortRecvEffs s) = (s.recvH.map (·.h)).toList ++ s.waitRecvH.toList := by
  rw [effIds_noInvoke (aborts_tcpAbortRecvEffs s).posts.noInvoke, posts_tcpAbortRecvEffs s]
theorem effIds_tcpAbortSendEffs (s : TcpSock) : effIds (tcpAbortSendEffs s) = (s.sendH.map (·.h)).toList := by
  rw [effIds_noInvoke (aborts_tcpAbortSendEffs s).posts.noInvoke, posts_tcpAbortSendEffs s]
theorem effIds_tcpAbortConnEffs (s : TcpSock) : effIds (tcpAbortConnEffs s) = s.connectH.toList := by
  rw [effIds_noInvoke (aborts_tcpAbortConnEffs s).posts.noInvoke, posts_tcpAbortConnEffs s]
theorem effIds_tcpAbortAcceptEffs (s : TcpSock) :
    effIds (tcpAbortAcceptEffs s) = (s.acceptOp.map AcceptOp.h).toList := by
  rw [effIds_noInvoke (aborts_tcpAbortAcceptEffs s).posts.noInvoke, posts_tcpAbortAcceptEffs s]

theorem sstep_abortRecv (s : TcpSock) : SStep s s.abortRecv.1 s.abortRecv.2 [] := by
  refine ⟨fun _ => ⟨?_, Or.inl rfl⟩, fun _ h => h, fun _ h => h, (aborts_tcpAbortRecvEffs s).posts⟩
  rw [TcpSock.abortRecv_eq]; dsimp only
  rw [effIds_tcpAbortRecvEffs]
  unfold TcpSock.slotIds TcpSock.acceptOp; dsimp only
  simp only [Option.map_none, Option.toList_none, List.nil_append]
  perm_omega

theorem sstep_abortSend (s : TcpSock) : SStep s s.abortSend.1 s.abortSend.2 [] := by
  refine ⟨fun hx => ⟨?_, hx⟩, fun _ h => h, fun _ h => h, (aborts_tcpAbortSendEffs s).posts⟩
  rw [TcpSock.abortSend_eq]; dsimp only
  rw [effIds_tcpAbortSendEffs]
  unfold TcpSock.slotIds TcpSock.acceptOp; dsimp only
  simp only [Option.map_none, Option.toList_none]
  perm_omega

theorem sstep_cancel (s : TcpSock) : SStep s s.cancel.1 s.cancel.2 [] := by
  rw [TcpSock.cancel_eq]
  refine ⟨fun _ => ⟨?_, Or.inl rfl⟩, fun _ h => h, fun _ h => h, (aborts_tcpCancelEffs s).posts⟩
  dsimp only
  simp only [tcpCancelEffs, effIds_append, effIds_tcpAbortRecvEffs, effIds_tcpAbortSendEffs, effIds_tcpAbortConnEffs]
  unfold TcpSock.slotIds TcpSock.acceptOp; dsimp only
  simp only [Option.map_none, Option.toList_none, List.nil_append]
  perm_omega

theorem sstep_abortAccept (s : TcpSock) : SStep s s.abortAccept.1 s.abortAccept.2 [] := by
  obtain ⟨h0, h1, h2, h3, h4⟩ := tcp_abortAccept_slots s
  obtain ⟨_, f7, f9⟩ := tcp_abortAccept_frame s
  refine ⟨fun hx => ⟨?_, by unfold TcpSock.recvExcl at *; rw [h1, h2]; exact hx⟩,
    by rw [f7]; exact fun _ h => h, by rw [f9]; exact fun _ h => h, (aborts_abortAccept s).posts⟩
  rw [TcpSock.abortAccept_effs, effIds_tcpAbortAcceptEffs]
  unfold TcpSock.slotIds
  rw [h0, h1, h2, h3, h4]
  simp

theorem sstep_setSendH (s : TcpSock) (x : Option WriteOp) {effs : List NEff} {new : List Nat} (hp : Posts effs)
    (h : ((x.map (·.h)).toList ++ effIds effs).Perm ((s.sendH.map (·.h)).toList ++ new)) :
    SStep s { s with sendH := x } effs new := by
  refine ⟨fun hx => ⟨?_, hx⟩, fun _ h => h, fun _ h => h, hp⟩
  unfold TcpSock.slotIds TcpSock.acceptOp
  perm_omega h

theorem tcp_readSome_slots (s : TcpSock) (b : Bool) (caps : List Nat) :
    (s.readSome b caps).1.recvH = s.recvH ∧ (s.readSome b caps).1.waitRecvH = s.waitRecvH
    ∧ (s.readSome b caps).1.sendH = s.sendH ∧ (s.readSome b caps).1.connectH = s.connectH
    ∧ (s.readSome b caps).1.acc = s.acc ∧ (s.readSome b caps).1.resend = s.resend := by
  rcases readSome_cases s b caps with ⟨-, e⟩ | ⟨_, _, -, -, -, -, ⟨-, e⟩ | ⟨-, e⟩⟩ <;> rw [e] <;>
    exact ⟨rfl, rfl, rfl, rfl, rfl, rfl⟩

theorem tcp_asyncReadImpl_cases (s : TcpSock) (op : ReadOp) :
    ((s.asyncReadImpl op).1.recvH = some op ∧ (s.asyncReadImpl op).2 = [])
    ∨ ((s.asyncReadImpl op).1.recvH = none ∧ ∃ c, (s.asyncReadImpl op).2 = [.post c] ∧ c.h = op.h) :=
  (asyncReadImpl_rows s op).imp (fun h => by rw [h.2]; exact ⟨rfl, rfl⟩)
    fun ⟨c, hc, _, e⟩ => by rw [e]; exact ⟨rfl, c, rfl, hc⟩

theorem tcp_asyncReadImpl_other (s : TcpSock) (op : ReadOp) :
    (s.asyncReadImpl op).1.waitRecvH = s.waitRecvH ∧ (s.asyncReadImpl op).1.sendH = s.sendH
    ∧ (s.asyncReadImpl op).1.connectH = s.connectH ∧ (s.asyncReadImpl op).1.acc = s.acc
    ∧ (s.asyncReadImpl op).1.resend = s.resend := by
  have h := tcp_readSome_slots s s.chan.isSome op.caps
  rcases asyncReadImpl_rows s op with ⟨-, e⟩ | ⟨_, -, -, e⟩ <;> rw [e] <;> simp [h]

theorem tcp_asyncWaitReadImpl_cases (s : TcpSock) (h : Nat) :
    ((s.asyncWaitReadImpl h).1.waitRecvH = some h ∧ (s.asyncWaitReadImpl h).1.recvH = s.recvH
        ∧ (s.asyncWaitReadImpl h).2 = [])
    ∨ ((s.asyncWaitReadImpl h).1.waitRecvH = s.waitRecvH ∧ (s.asyncWaitReadImpl h).1.recvH = none
        ∧ ∃ c, (s.asyncWaitReadImpl h).2 = [.post c] ∧ c.h = h) :=
  (asyncWaitReadImpl_rows s h).imp (fun hh => by rw [hh.2]; exact ⟨rfl, rfl, rfl⟩)
    fun ⟨c, hc, _, e⟩ => by rw [e]; exact ⟨rfl, rfl, c, rfl, hc⟩

theorem tcp_asyncWaitReadImpl_other (s : TcpSock) (h : Nat) :
    (s.asyncWaitReadImpl h).1.sendH = s.sendH
    ∧ (s.asyncWaitReadImpl h).1.connectH = s.connectH ∧ (s.asyncWaitReadImpl h).1.acc = s.acc
    ∧ (s.asyncWaitReadImpl h).1.resend = s.resend := by
  rcases asyncWaitReadImpl_rows s h with ⟨-, e⟩ | ⟨_, -, -, e⟩ <;> rw [e] <;> exact ⟨rfl, rfl, rfl, rfl⟩

theorem sstep_readSome (s : TcpSock) (b : Bool) (caps : List Nat) : SStep s (s.readSome b caps).1 [] [] :=
  have ⟨h1, h2, h3, h4, h5, h6⟩ := tcp_readSome_slots s b caps
  .keep h1 h2 h3 h4 (acceptOp_congr h5) (by rw [conns_congr h5]; exact fun _ h => h)
    (by rw [h6]; exact fun _ h => h)

theorem sstep_asyncReadImpl (s : TcpSock) (op : ReadOp) (hr : s.recvH = none) (hw : s.waitRecvH = none) :
    SStep s (s.asyncReadImpl op).1 (s.asyncReadImpl op).2 [op.h] := by
  obtain ⟨h2, h3, h4, h5, h6⟩ := tcp_asyncReadImpl_other s op
  refine ⟨fun _ => ⟨?_, Or.inr (by rw [h2, hw])⟩, by rw [conns_congr h5]; exact fun _ h => h,
    by rw [h6]; exact fun _ h => h, ?_⟩
  · unfold TcpSock.slotIds
    rw [h2, h3, h4, acceptOp_congr h5, hr]
    rcases tcp_asyncReadImpl_cases s op with ⟨h1, he⟩ | ⟨h1, c, he, hc⟩
    · rw [h1, he]
      simp only [Option.map_some, Option.toList_some, Option.map_none, Option.toList_none, effIds]
      perm_omega
    · rw [h1, he]
      simp only [Option.map_none, Option.toList_none, effIds, hc]
      exact .refl _
  · exact posts_asyncReadImpl s op

theorem sstep_asyncWaitReadImpl (s : TcpSock) (h : Nat) (hr : s.recvH = none) (hw : s.waitRecvH = none) :
    SStep s (s.asyncWaitReadImpl h).1 (s.asyncWaitReadImpl h).2 [h] := by
  obtain ⟨h3, h4, h5, h6⟩ := tcp_asyncWaitReadImpl_other s h
  refine ⟨fun _ => ⟨?_, ?_⟩, by rw [conns_congr h5]; exact fun _ h => h, by rw [h6]; exact fun _ h => h, ?_⟩
  · unfold TcpSock.slotIds
    rw [h3, h4, acceptOp_congr h5]
    rcases tcp_asyncWaitReadImpl_cases s h with ⟨h1, h2, he⟩ | ⟨h1, h2, c, he, hc⟩
    · rw [h1, h2, he, hw]
      simp only [Option.toList_some, Option.toList_none, effIds]
      perm_omega
    · rw [h1, h2, he, hw, hr]
      simp only [Option.map_none, Option.toList_none, effIds, hc]
      exact .refl _
  · rcases tcp_asyncWaitReadImpl_cases s h with ⟨_, h2, _⟩ | ⟨_, h2, _⟩
    · exact Or.inl (by rw [h2, hr])
    · exact Or.inl h2
  · exact posts_asyncWaitReadImpl s h

theorem sstep_maybeWakeupReader (tp : TParams) (s : TcpSock) :
    SStep s (s.maybeWakeupReader tp).1 (s.maybeWakeupReader tp).2 [] := by
  rcases wake_cases tp s with ⟨e, -⟩ | ⟨h, hw, e, -⟩ | ⟨op, hr, e, -⟩ <;> rw [e]
  · exact SStep.keep
  · obtain ⟨_, _, h5, h6⟩ := tcp_asyncWaitReadImpl_other { s with waitRecvH := none } h
    refine ⟨fun hx => ?_, by rw [conns_congr h5]; exact fun _ h => h, by rw [h6]; exact fun _ h => h,
      posts_asyncWaitReadImpl _ h⟩
    -- the two read slots are exclusive, so the read slot is empty
    have hr : s.recvH = none := hx.resolve_right (by rw [hw]; exact fun e => nomatch e)
    obtain ⟨p, x⟩ := (sstep_asyncWaitReadImpl { s with waitRecvH := none } h hr rfl).ids (Or.inl hr)
    refine ⟨p.trans ?_, x⟩
    unfold TcpSock.slotIds TcpSock.acceptOp; dsimp only; rw [hw]
    simp only [Option.toList_some, Option.toList_none]
    perm_omega
  · obtain ⟨_, _, _, h5, h6⟩ := tcp_asyncReadImpl_other { s with recvH := none } op
    refine ⟨fun hx => ?_, by rw [conns_congr h5]; exact fun _ h => h, by rw [h6]; exact fun _ h => h,
      posts_asyncReadImpl _ op⟩
    have hw : s.waitRecvH = none := hx.resolve_left (by rw [hr]; exact fun e => nomatch e)
    obtain ⟨p, x⟩ := (sstep_asyncReadImpl { s with recvH := none } op rfl hw).ids (Or.inr hw)
    refine ⟨p.trans ?_, x⟩
    unfold TcpSock.slotIds TcpSock.acceptOp; dsimp only; rw [hr]
    simp only [Option.map_some, Option.toList_some, Option.map_none, Option.toList_none]
    perm_omega

end HL

end SimVerif
