/-
  The kernel/timer invariant `KInv` and its preservation by every transition.
-/
import SimVerif.Lemmas.KernelBasic

namespace SimVerif

/-- `max` on `Int`, spelled with `if`: the proofs `split` on it before `omega` -/
def imax (a b : Int) : Int := if a ≤ b then b else a

/-- `sorted` … `queued`: `m_timer_queue` and the timer objects describe each other (one entry per
    armed timer, at its expiry). `pend` … `noOver` carry the timing of `readyT`: a wait is pending
    only on an armed timer and started after the arming; an entry can be overdue only if it was
    armed at this very instant, with an expiry already past (the clock stops at the front expiry). `readyT`/`readyP`:
    what is ready was posted at this instant — at `max(expiry, wait start)` for a successful timer
    completion — and `ranT`/`ranP` record that for what has run (C03_fires_exactly,
    C02_runs_when_posted). -/
structure KInv (k : K) : Prop where
  sorted : SortedTq k.tq
  nodup  : (k.tq.map Prod.snd).Nodup
  agree  : ∀ e i, (e, i) ∈ k.tq → (k.timers i).expiry = e ∧ (k.timers i).expired = false
  queued : ∀ i, (k.timers i).expired = false → ((k.timers i).expiry, i) ∈ k.tq
  pend   : ∀ i h, (k.timers i).handler = some h →
            (k.timers i).expired = false ∧ (k.timers i).armedAt ≤ (k.timers i).startedAt
              ∧ (k.timers i).startedAt ≤ k.now
  armed  : ∀ i, (k.timers i).armedAt ≤ k.now
  noOver : ∀ e i, (e, i) ∈ k.tq → e < k.now → (k.timers i).armedAt = k.now
  readyT : ∀ t, t ∈ k.ready → t.tm = true → t.ec = .ok → imax t.exp t.st = k.now
  readyP : ∀ t, t ∈ k.ready → t.tm = false → t.st = k.now
  ranT   : ∀ t c, (t, c) ∈ k.ran → t.tm = true → t.ec = .ok → c = imax t.exp t.st
  ranP   : ∀ t c, (t, c) ∈ k.ran → t.tm = false → c = t.st

theorem KInv_init : KInv ({} : K) := by
  constructor <;> simp [SortedTq]

theorem KInv.mem_tq {k : K} (hk : KInv k) (e : Int) (i : Nat) :
    (e, i) ∈ k.tq ↔ (k.timers i).expired = false ∧ e = (k.timers i).expiry :=
  ⟨fun h => ⟨(hk.agree e i h).2, (hk.agree e i h).1.symm⟩, fun ⟨h1, h2⟩ => h2 ▸ hk.queued i h1⟩

theorem KInv.not_mem_tq {k : K} (hk : KInv k) {i : Nat} (hexp : (k.timers i).expired = true)
    (e : Int) : (e, i) ∉ k.tq := fun h => by simp [(hk.agree e i h).2] at hexp

theorem KInv.no_handler {k : K} (hk : KInv k) {i : Nat} (hexp : (k.timers i).expired = true) :
    (k.timers i).handler = none := by
  cases hh : (k.timers i).handler with
  | none => rfl
  | some h => simp [(hk.pend i h hh).1] at hexp

/-- The shape all operations on one timer share: timer `i` gets a new state, the queue holds
    the entry that state asks for, completions are appended to `ready`; the clock, the other
    timers, their queue entries and `ran` stay. -/
theorem KInv.upd {k k' : K} (hk : KInv k) (i : Nat) (hnow : k'.now = k.now) (hran : k'.ran = k.ran)
    (hoth : ∀ j, j ≠ i → k'.timers j = k.timers j)
    (hsort : SortedTq k'.tq) (hnd : (k'.tq.map Prod.snd).Nodup)
    (htq : ∀ e j, (e, j) ∈ k'.tq ↔
      if j = i then (k'.timers i).expired = false ∧ e = (k'.timers i).expiry else (e, j) ∈ k.tq)
    (hpend : ∀ h, (k'.timers i).handler = some h → (k'.timers i).expired = false
      ∧ (k'.timers i).armedAt ≤ (k'.timers i).startedAt ∧ (k'.timers i).startedAt ≤ k.now)
    (harmed : (k'.timers i).armedAt ≤ k.now)
    (hover : (k'.timers i).expired = false → (k'.timers i).expiry < k.now →
      (k'.timers i).armedAt = k.now)
    (hready : ∀ t ∈ k'.ready, t ∈ k.ready ∨ (t.tm = true ∧ (t.ec = .ok → imax t.exp t.st = k.now))) :
    KInv k' := by
  refine ⟨hsort, hnd, fun e j hj => ?_, fun j hj => ?_, fun j h hj => ?_, fun j => ?_,
    fun e j hj hlt => ?_, fun t ht htm hec => ?_, fun t ht htm => ?_, hran ▸ hk.ranT, hran ▸ hk.ranP⟩
  · rw [htq] at hj; split at hj
    · subst j; exact ⟨hj.2.symm, hj.1⟩
    · rw [hoth j ‹_›]; exact hk.agree e j hj
  · rw [htq]; split
    · subst j; exact ⟨hj, rfl⟩
    · rw [hoth j ‹_›] at hj ⊢; exact hk.queued j hj
  · rw [hnow]; by_cases hji : j = i
    · subst j; exact hpend h hj
    · rw [hoth j hji] at hj ⊢; exact hk.pend j h hj
  · rw [hnow]; by_cases hji : j = i
    · subst j; exact harmed
    · rw [hoth j hji]; exact hk.armed j
  · rw [hnow] at hlt ⊢; rw [htq] at hj; split at hj
    · subst j; exact hover hj.1 (hj.2 ▸ hlt)
    · rw [hoth j ‹_›]; exact hk.noOver e j hj hlt
  · rw [hnow]; rcases hready t ht with h | h
    · exact hk.readyT t h htm hec
    · exact h.2 hec
  · rw [hnow]; rcases hready t ht with h | h
    · exact hk.readyP t h htm
    · simp [h.1] at htm

theorem KInv_cancel (k : K) (i : Nat) (hk : KInv k) : KInv (cancel k i).1 := by
  rw [cancel_fst]; split
  · exact hk
  · rename_i hexp
    replace hexp : (k.timers i).expired = false := by simpa using hexp
    refine hk.upd i rfl rfl (fun j hji => setF_other _ _ _ _ hji)
      (hk.sorted.sublist List.erase_sublist) (hk.nodup.sublist (List.erase_sublist.map _)) (fun e j => ?_)
      (by simp) (by simpa using hk.armed i) (by simp) (fun t ht => ?_)
    · rw [mem_erase_of_nodup_snd hk.nodup (hk.queued i hexp)]
      by_cases hji : j = i <;> simp [hji]
    · rcases List.mem_append.mp ht with ht | ht
      · exact .inl ht
      · obtain ⟨a, -, rfl⟩ := mem_completion ht
        exact .inr ⟨rfl, fun h => by cases h⟩

theorem KInv_arm (k : K) (i : Nat) (e : Int) (hexp : (k.timers i).expired = true) (hk : KInv k) :
    KInv (arm k i e) := by
  have hni : i ∉ k.tq.map Prod.snd := fun h => by
    obtain ⟨⟨e', _⟩, hm, rfl⟩ := List.mem_map.mp h
    exact hk.not_mem_tq hexp e' hm
  refine hk.upd i rfl rfl (fun j hji => setF_other _ _ _ _ hji)
    (pairwise_insertUB hk.sorted (fun _ _ h => h) (fun _ _ h => h) (fun _ _ h => Int.le_of_lt h))
    (((insertUB_perm e i k.tq).map Prod.snd).nodup_iff.mpr (List.nodup_cons.mpr ⟨hni, hk.nodup⟩))
    (fun e' j => ?_) (by simp [arm, hk.no_handler hexp]) (by simp [arm]) (by simp [arm])
    (fun t ht => .inl ht)
  show (e', j) ∈ insertUB e i k.tq ↔ _
  rw [mem_insertUB]
  by_cases hji : j = i
  · subst j; simp [arm, hk.not_mem_tq hexp e']
  · simp [hji]

theorem KInv_setHandler (k : K) (i h : Nat) (hne : (k.timers i).expired = false) (hk : KInv k) :
    KInv (setHandler k i h) := by
  refine hk.upd i rfl rfl (fun j hji => setF_other _ _ _ _ hji) hk.sorted hk.nodup (fun e j => ?_)
    (fun _ _ => ?_) (by simpa [setHandler] using hk.armed i) (fun _ hlt => ?_) (fun t ht => .inl ht)
  · show (e, j) ∈ k.tq ↔ _
    split
    · subst j; simpa [setHandler] using hk.mem_tq e i
    · rfl
  · simpa [setHandler, hne] using hk.armed i
  · simpa [setHandler] using hk.noOver _ i (hk.queued i hne) (by simpa [setHandler] using hlt)

theorem KInv_waitNow (k : K) (i h : Nat) (hexp : (k.timers i).expired = true)
    (hdue : (k.timers i).expiry ≤ k.now) (hk : KInv k) : KInv (fire (setHandler k i h) i .ok) := by
  rw [fire_eq]
  refine hk.upd i rfl rfl (fun j hji => by simp [setHandler, hji]) hk.sorted hk.nodup (fun e j => ?_)
    (by simp) (by simpa [setHandler] using hk.armed i) (by simp) (fun t ht => ?_)
  · show (e, j) ∈ k.tq ↔ _
    split
    · subst j; simp [hk.not_mem_tq hexp e]
    · rfl
  · rcases List.mem_append.mp ht with ht | ht
    · exact .inl ht
    · obtain ⟨a, -, rfl⟩ := mem_completion ht
      refine .inr ⟨rfl, fun _ => ?_⟩
      simp only [setHandler, setF_same, imax]; split <;> omega

theorem KInv_popFire (k : K) (e : Int) (i : Nat) (rest : List (Int × Nat))
    (htq : k.tq = (e, i) :: rest) (hdue : e ≤ k.now) (hk : KInv k) :
    KInv (fire { k with tq := rest } i .ok) := by
  have hmem : (e, i) ∈ k.tq := by rw [htq]; exact .head _
  have hs := hk.sorted; have hnd := hk.nodup
  rw [htq] at hs hnd
  simp only [List.map_cons, List.nodup_cons, List.mem_map] at hnd
  rw [fire_eq]
  refine hk.upd i rfl rfl (fun j hji => setF_other _ _ _ _ hji) (List.pairwise_cons.mp hs).2 hnd.2
    (fun e' j => ?_) (by simp) (by simpa using hk.armed i) (by simp) (fun t ht => ?_)
  · show (e', j) ∈ rest ↔ _
    split
    · subst j; simpa using fun hm => hnd.1 ⟨_, hm, rfl⟩
    · rename_i hji; simp [htq, hji]
  · rcases List.mem_append.mp ht with ht | ht
    · exact .inl ht
    · obtain ⟨a, ha, rfl⟩ := mem_completion ht
      have hp := hk.pend i a ha
      refine .inr ⟨rfl, fun _ => ?_⟩
      have hst : e < k.now → (k.timers i).startedAt = k.now := fun hlt => by
        have := hk.noOver e i hmem hlt; omega
      simp only [imax, (hk.agree e i hmem).1]; split <;> omega

theorem KInv_post (k : K) (h : Nat) (hk : KInv k) : KInv (postTask k h) := by
  refine ⟨hk.sorted, hk.nodup, hk.agree, hk.queued, hk.pend, hk.armed, hk.noOver,
    fun t ht htm hec => ?_, fun t ht htm => ?_, hk.ranT, hk.ranP⟩ <;>
    rcases List.mem_append.mp ht with ht | ht
  · exact hk.readyT t ht htm hec
  · simp at ht; subst ht; simp at htm
  · exact hk.readyP t ht htm
  · simp at ht; subst ht; rfl

theorem KInv_exec (k : K) (hk : KInv k) {t : Task} {rest : List Task} (hr : k.ready = t :: rest) :
    KInv { k with ready := rest, ran := k.ran ++ [(t, k.now)] } := by
  refine ⟨hk.sorted, hk.nodup, hk.agree, hk.queued, hk.pend, hk.armed, hk.noOver,
    fun t' ht' => hk.readyT t' (hr ▸ .tail _ ht'), fun t' ht' => hk.readyP t' (hr ▸ .tail _ ht'),
    fun t' c h htm hec => ?_, fun t' c h htm => ?_⟩ <;>
    rcases List.mem_append.mp h with h | h
  · exact hk.ranT t' c h htm hec
  · simp at h; obtain ⟨rfl, rfl⟩ := h
    exact (hk.readyT t' (hr ▸ .head _) htm hec).symm
  · exact hk.ranP t' c h htm
  · simp at h; obtain ⟨rfl, rfl⟩ := h
    exact (hk.readyP t' (hr ▸ .head _) htm).symm

theorem KInv_setStopped (k : K) (b : Bool) (hk : KInv k) : KInv { k with stopped := b } :=
  ⟨hk.sorted, hk.nodup, hk.agree, hk.queued, hk.pend, hk.armed, hk.noOver, hk.readyT, hk.readyP,
    hk.ranT, hk.ranP⟩

theorem KInv_setNow (k : K) (n : Int) (hk : KInv k) (hr : k.ready = []) (hmono : k.now ≤ n)
    (hover : ∀ e i, (e, i) ∈ k.tq → e < n → n = k.now) : KInv { k with now := n } := by
  refine ⟨hk.sorted, hk.nodup, hk.agree, hk.queued, fun i h hh => ?_, fun i => ?_,
    fun e i hm hlt => ?_, fun t ht => ?_, fun t ht => ?_, hk.ranT, hk.ranP⟩
  · have := hk.pend i h hh; exact ⟨this.1, this.2.1, Int.le_trans this.2.2 hmono⟩
  · exact Int.le_trans (hk.armed i) hmono
  · obtain rfl := hover e i hm hlt; exact hk.noOver e i hm hlt
  · simp [hr] at ht
  · simp [hr] at ht

theorem KInv_tick (p : KParams) (hp : p.advanceGuard = true) (k : K) (e : Int) (i : Nat)
    (rest : List (Int × Nat)) (hr : k.ready = []) (htq : k.tq = (e, i) :: rest) (hk : KInv k) :
    KInv { k with now := if p.advanceGuard then (if k.now < e then e else k.now) else e } := by
  have hs := List.pairwise_cons.mp (htq ▸ hk.sorted)
  refine KInv_setNow k _ hk hr (by simp only [hp, if_true]; split <;> omega) fun e' i' hm hlt => ?_
  simp only [hp, if_true] at hlt ⊢
  have : e ≤ e' := by
    rcases List.mem_cons.mp (htq ▸ hm) with h | h
    · cases h; exact Int.le_refl _
    · exact hs.1 _ h
  split at hlt <;> split <;> omega

theorem KInv_step (k : K) (l : Lbl) (hk : KInv k) : KInv (step repaired k l) :=
  step_ind repaired k l hk
    (hcancel := KInv_cancel)
    (harm := KInv_arm)
    (hset := fun k' i h _ hne _ => KInv_setHandler k' i h hne)
    (hnow := fun i h _ hexp hdue => KInv_waitNow k i h hexp (hdue rfl) hk)
    (hpost := KInv_post)
    (hexec := fun _ _ _ hr => KInv_exec k hk hr)
    (hstop := KInv_setStopped)
    (htick := fun e i rest _ hr htq => KInv_tick repaired rfl k e i rest hr htq hk)
    (hpop := KInv_popFire)

theorem KInv_run (ls : List Lbl) (k : K) (hk : KInv k) : KInv (runLbls repaired k ls) :=
  List.foldlRecOn ls _ hk fun k hk l _ => KInv_step k l hk

end SimVerif
