/-
  C12 helper lemmas, kernel part: cancelling every queued timer (the first thing the
  catch-all of `simulation::run()` does) empties the timer queue and posts every pending wait
  exactly once with `operation_aborted`.
-/
import SimVerif.Lemmas.KernelInv

namespace SimVerif

/-- `for (auto* t : copy_of(m_timer_queue)) t->cancel();` -/
def cancelAllL (l : List (Int × Nat)) (k : K) : K := l.foldl (fun k x => (cancel k x.2).1) k

/-- the completion `cancel()` posts for a queue entry whose timer has a wait pending -/
def abortCompletion (k : K) (x : Int × Nat) : Option Task :=
  ((k.timers x.2).handler).map (fun h =>
    { h := h, ec := .aborted, tm := true, exp := (k.timers x.2).expiry, st := (k.timers x.2).startedAt })

/-- nothing refers to a timer any more -/
structure KDead (k : K) : Prop where
  tq  : k.tq = []
  exp : ∀ i, (k.timers i).expired = true

namespace HL

theorem cancelAllL_spec (l : List (Int × Nat)) (k : K) (hk : KInv k) (h : k.tq = l) :
    KInv (cancelAllL l k)
    ∧ (cancelAllL l k).tq = []
    ∧ (cancelAllL l k).ready = k.ready ++ l.filterMap (abortCompletion k) := by
  induction l generalizing k with
  | nil => exact ⟨hk, h, by simp [cancelAllL]⟩
  | cons a rest ih =>
    obtain ⟨e, i⟩ := a
    have hmem : (e, i) ∈ k.tq := by rw [h]; exact List.mem_cons_self
    obtain ⟨hexp, hne⟩ := hk.agree e i hmem
    have hnd := hk.nodup
    rw [h] at hnd
    simp only [List.map_cons, List.nodup_cons, List.mem_map] at hnd
    have htq1 : (cancel k i).1.tq = rest := by
      rw [cancel_tq, hne, hexp, h]; simp
    obtain ⟨i1, i2, i3⟩ := ih (cancel k i).1 (KInv_cancel k i hk) htq1
    have hfold : cancelAllL ((e, i) :: rest) k = cancelAllL rest (cancel k i).1 := rfl
    rw [hfold]
    refine ⟨i1, i2, ?_⟩
    · have hcongr : rest.filterMap (abortCompletion (cancel k i).1) = rest.filterMap (abortCompletion k) := by
        apply filterMap_congr_mem
        intro x hx
        have hxi : x.2 ≠ i := fun hxi => hnd.1 ⟨x, hx, hxi⟩
        unfold abortCompletion
        rw [cancel_timers_other k i x.2 hxi]
      rw [i3, hcongr, cancel_fst, if_neg (by simp [hne]), List.filterMap_cons]
      cases hh : (k.timers i).handler with
      | none => simp [abortCompletion, completion, hh]
      | some hd => simp [abortCompletion, completion, hh, hexp]

theorem cancelAllL_dead (k : K) (hk : KInv k) :
    KDead (cancelAllL k.tq k) ∧ ∀ i, ((cancelAllL k.tq k).timers i).handler = none := by
  obtain ⟨i1, i2, _⟩ := cancelAllL_spec k.tq k hk rfl
  have hexp : ∀ i, ((cancelAllL k.tq k).timers i).expired = true := by
    intro i
    cases hx : ((cancelAllL k.tq k).timers i).expired with
    | true => rfl
    | false =>
      have := i1.queued i hx
      rw [i2] at this; cases this
  exact ⟨⟨i2, hexp⟩, fun i => i1.no_handler (hexp i)⟩

theorem KDead_post (k : K) (h : Nat) (hd : KDead k) : KDead (postTask k h) := ⟨hd.tq, hd.exp⟩

theorem cancel_of_dead (k : K) (i : Nat) (hd : KDead k) : (cancel k i).1 = k := by
  rw [cancel_fst, if_pos (hd.exp i)]

end HL

end SimVerif
