/-
  SimVerif.Lemmas.HttpServerRun — the mechanism (`on_read` / `on_write` / `read` /
  `close_connection` of SimVerif/HttpServer.lean, run by `serve`) refines the reference
  `specStream` for EVERY chunking of the client's byte stream.
-/
import SimVerif.Lemmas.HttpServerCb

namespace SimVerif.HttpServer

open SimVerif.Http

section
variable (f : Nat) (s : Srv) (chunks : List Bytes)

theorem serve_read_nil (cap : Nat) :
    serve (f + 1) (s, [.asyncReadSome cap]) [] = ⟨[], .waiting⟩ := rfl

theorem serve_read_cons (cap : Nat) (c : Bytes) (rest : List Bytes) :
    serve (f + 1) (s, [.asyncReadSome cap]) (c :: rest) =
      if c = [] then serve f (s, [.asyncReadSome cap]) rest
      else if cap = 0 then ⟨[], .ub⟩
      else serve f (s.onRead .ok (c.take cap)) (if c.length ≤ cap then rest else c.drop cap :: rest) :=
  rfl

theorem serve_write (r : Bytes) (c : Bool) :
    serve (f + 1) (s, [.asyncWrite r c]) chunks = (serve f (s.onWrite .ok c) chunks).cons r := rfl

theorem serve_post :
    serve (f + 1) (s, [.postOnRead]) chunks = serve f (s.onRead .ok []) chunks := rfl

theorem serve_stalled :
    serve (f + 1) (s, []) chunks = ⟨[], .stalled⟩ := rfl

theorem serve_ub :
    serve (f + 1) (s, [.ub]) chunks = ⟨[], .ub⟩ := rfl

theorem serve_close (t : Srv) :
    serve (f + 1) (s, closeActs t) chunks = ⟨[], .closed (!t.closing)⟩ := by
  unfold closeActs
  cases t.closing <;> rfl

end

/-- internal fuel bound: a delivery moves `k ≥ 1` bytes from `total` to `used` (net `-k`), a
    request removes at least one byte from `used` (net `≤ -2`), an empty chunk costs `2`. -/
def bnd (u : Nat) (chunks : List Bytes) : Nat := 2 * u + 3 * total chunks + 2 * chunks.length + 2

theorem total_cons (c : Bytes) (rest : List Bytes) : total (c :: rest) = c.length + total rest := by
  simp [total]

theorem bnd_pos (u : Nat) (chunks : List Bytes) : 0 < bnd u chunks := by
  unfold bnd; omega

theorem bnd_skip (u : Nat) (rest : List Bytes) : bnd u rest < bnd u ([] :: rest) := by
  unfold bnd
  rw [total_cons, List.length_cons]
  omega

/-- a request consumed leaves fuel for its `async_write` and the posted `on_read` -/
theorem bnd_request (u u' f : Nat) (chunks : List Bytes) (h : u' < u) (hf : bnd u chunks ≤ f + 1) :
    ∃ f', f = f' + 1 ∧ bnd u' chunks ≤ f' := by
  unfold bnd at *
  exact ⟨f - 1, by omega, by omega⟩

theorem bnd_deliver (u cap : Nat) (c : Bytes) (rest : List Bytes) (hc : c ≠ []) (hcap : 0 < cap) :
    c.take cap ++ (if c.length ≤ cap then rest else c.drop cap :: rest).flatten = (c :: rest).flatten ∧
    bnd (u + (c.take cap).length) (if c.length ≤ cap then rest else c.drop cap :: rest)
      < bnd u (c :: rest) := by
  have := List.length_pos_iff.mpr hc
  unfold bnd
  split
  · rename_i h
    rw [List.take_of_length_le h, total_cons, List.length_cons]
    exact ⟨rfl, by omega⟩
  · rw [total_cons, total_cons, List.flatten_cons, List.flatten_cons, ← List.append_assoc,
      List.take_append_drop]
    refine ⟨rfl, ?_⟩
    simp only [List.length_take, List.length_drop, List.length_cons]
    omega

/-- Two statements proved together by induction on the fuel, for a server state `s` whose tables
    and flags are those of `cfg`: (1) with a read outstanding and no complete request pending,
    (2) at an `on_read` that is handed `data`; in both, serving ANY chunking of the remaining
    stream yields what the reference says about pending bytes ++ stream. -/
theorem serve_both (cfg : Srv) (fuel : Nat) :
    (∀ (s : Srv) (chunks : List Bytes), cfg.sameCfg s → s.used < s.buf.length →
      reqStep cfg s.pend = .more → bnd s.used chunks ≤ fuel →
      serve fuel (s, [.asyncReadSome (s.buf.length - s.used)]) chunks
        = specStream cfg (s.pend ++ chunks.flatten)) ∧
    (∀ (s : Srv) (data : Bytes) (chunks : List Bytes), cfg.sameCfg s →
      s.used + data.length ≤ s.buf.length → bnd (s.used + data.length) chunks ≤ fuel →
      serve fuel (s.onRead .ok data) chunks = specStream cfg (s.pend ++ data ++ chunks.flatten)) := by
  induction fuel using Nat.strongRecOn with
  | _ fuel ih =>
    have hR : ∀ (s : Srv) (chunks : List Bytes), cfg.sameCfg s → s.used < s.buf.length →
        reqStep cfg s.pend = .more → bnd s.used chunks ≤ fuel →
        serve fuel (s, [.asyncReadSome (s.buf.length - s.used)]) chunks
          = specStream cfg (s.pend ++ chunks.flatten) := by
      intro s chunks hcfg hcap hmore hfuel
      obtain ⟨f, rfl⟩ := Nat.exists_eq_add_one_of_ne_zero
        (Nat.ne_of_gt (Nat.lt_of_lt_of_le (bnd_pos _ _) hfuel))
      cases chunks with
      | nil => rw [serve_read_nil, List.flatten_nil, List.append_nil, specStream_eq, hmore]
      | cons c rest =>
        rw [serve_read_cons]
        by_cases hc : c = []
        · subst hc
          rw [if_pos rfl, (ih f (Nat.lt_succ_self f)).1 s rest hcfg hcap hmore
            (Nat.le_of_lt_succ (Nat.lt_of_lt_of_le (bnd_skip _ _) hfuel))]
          rfl
        · have hpos := Nat.sub_pos_of_lt hcap
          obtain ⟨h1, h2⟩ := bnd_deliver s.used _ c rest hc hpos
          rw [if_neg hc, if_neg (Nat.ne_of_gt hpos), (ih f (Nat.lt_succ_self f)).2 s _ _ hcfg
            (by rw [List.length_take]; omega)
            (Nat.le_of_lt_succ (Nat.lt_of_lt_of_le h2 hfuel)), List.append_assoc, h1]
    refine ⟨hR, ?_⟩
    intro s data chunks hcfg hfit hfuel
    obtain ⟨f, rfl⟩ := Nat.exists_eq_add_one_of_ne_zero
      (Nat.ne_of_gt (Nat.lt_of_lt_of_le (bnd_pos _ _) hfuel))
    have hpl : (s.pend ++ data).length = s.used + data.length := by
      rw [List.length_append, pend_length s (Nat.le_trans (Nat.le_add_right _ _) hfit)]
    have ht := onRead_ok s data hfit
    rw [← reqStep_congr cfg s hcfg] at ht
    have hap := reqStep_append cfg (s.pend ++ data) chunks.flatten
    rw [specStream_eq, hap]
    cases hs : reqStep cfg (s.pend ++ data) <;> rw [hs] at ht hap <;> dsimp only at ht ⊢
    case more =>
      obtain ⟨s', h1, h2, h3, h4⟩ := ht
      have hu : s'.used = s.used + data.length := by
        rw [← pend_length s' (Nat.le_of_lt h2), h3, hpl]
      rw [h1, hR s' chunks (hcfg.trans h4) h2 (h3 ▸ hs) (hu ▸ hfuel), h3, specStream_eq, hap]
    case fail => rw [ht, serve_close, hcfg.1]
    case stall rest =>
      obtain ⟨s', h1, _⟩ := ht
      rw [h1, serve_stalled]
    case ub =>
      obtain ⟨s', h1, _⟩ := ht
      rw [h1, serve_ub]
    case respond r c rest =>
      obtain ⟨s', h1, h2, h3, h4⟩ := ht
      have hlt : s'.used + 0 < s.used + data.length := by
        rw [Nat.add_zero, ← pend_length s' h2, h3, ← hpl]
        exact reqStep_respond_lt cfg _ r c rest hs
      obtain ⟨f', rfl, hf⟩ := bnd_request _ _ f chunks hlt hfuel
      rw [h1, serve_write, onWrite_ok, ← (hcfg.trans h4).2.1]
      split
      · rw [serve_post, (ih f' (Nat.lt_succ_of_lt (Nat.lt_succ_self f'))).2 s' [] chunks
          (hcfg.trans h4) h2 hf, h3, List.append_nil]
      · rw [serve_close, (hcfg.trans h4).1]
        rfl

theorem serve_read_eq_spec (chunks : List Bytes) (s : Srv) (fuel : Nat)
    (hcap : s.used < s.buf.length) (hmore : reqStep s s.pend = .more)
    (hfuel : need s.used chunks ≤ fuel) :
    serve fuel (s, [.asyncReadSome (s.buf.length - s.used)]) chunks
      = specStream s (s.pend ++ chunks.flatten) :=
  (serve_both s fuel).1 s chunks ⟨rfl, rfl, rfl, rfl⟩ hcap hmore (by unfold need at hfuel; unfold bnd; omega)

theorem run_eq_spec (cfg : Srv) (chunks : List Bytes) : run cfg chunks = specStream cfg chunks.flatten := by
  obtain ⟨s', h1, h2, h3, h4⟩ := read_spec cfg.fresh (Nat.zero_le _)
  have hp : s'.pend = [] := h3
  have hu : s'.used = 0 := by rw [← pend_length s' (Nat.le_of_lt h2), hp]; rfl
  unfold run Srv.onAccept
  rw [if_neg (by decide), h1, (serve_both cfg _).1 s' chunks h4 h2
    (reqStep_more _ _ (hp ▸ firstBlank_nil)) (by unfold bnd need; omega), hp]
  rfl

end SimVerif.HttpServer
