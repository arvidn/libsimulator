/-
  SimVerif.Lemmas.StreamQuiesce — the quiescence invariant of the open stream system
  (SimVerif/StreamSys.lean, SimVerif/StreamQuiesce.lean) and its preservation by every move
  under the drop side condition `TS.dropOk`.

  `QPure` is the socket-level part (the writer's window account `Prog.Acct` against the bag, where
  every segment is, the reader's reorder buffer and pending read), `QLive` adds the two liveness
  clauses `JOk` / `WOk`; `QView.move` keeps it move by move (Lemmas/StreamMoves.lean), with what `TInv`
  says about packet kinds and sizes while both sockets are open.
-/
import SimVerif.StreamQuiesce
import SimVerif.Lemmas.TcpSysInv
import SimVerif.Lemmas.TcpGhost
import SimVerif.Lemmas.TcpProgress

namespace SimVerif
open Prog (sumSizes keys ids Acct ChanOk tcpSendPacket_upd tcpSendSeg_upd tcpWindowFull_eq tcpWriteFinish_upd
  tcpAsyncWrite_posts tcpPacketDropped_floor)

/-- segment `k` has reached the reader: already released into the incoming queue, or parked in
    the reorder buffer -/
def Arrived (sb : TcpSock) (k : Nat) : Prop := k < sb.nextIn ∨ k ∈ sb.reorder.map (·.1)

/-- no end-of-stream / error packet among them (both sockets stay open) -/
def NoErr (l : List Pkt) : Prop := ∀ q ∈ l, q.ty ≠ .err

theorem q_readSome_chan (t : TcpSock) (hc : Bool) (caps : List Nat) (h : NoErr t.inq) :
    (t.readSome hc caps).1.chan = t.chan := by
  rcases readSome_cases t hc caps with ⟨_, he⟩ | ⟨p, rest, _, _, _, hi, ⟨hty, _⟩ | ⟨_, he⟩⟩
  · rw [he]
  · exact absurd hty (h p (by rw [hi]; exact List.mem_cons_self))
  · rw [he]

theorem q_asyncReadImpl_chan (t : TcpSock) (op : ReadOp) (h : NoErr t.inq) :
    (t.asyncReadImpl op).1.chan = t.chan := by
  rcases asyncReadImpl_rows t op with ⟨-, e⟩ | ⟨c, -, -, e⟩ <;> rw [e]
  exact q_readSome_chan t t.chan.isSome op.caps h

theorem q_asyncWaitReadImpl_chan (t : TcpSock) (h : Nat) : (t.asyncWaitReadImpl h).1.chan = t.chan := by
  rcases asyncWaitReadImpl_rows t h with ⟨-, e⟩ | ⟨c, -, -, e⟩ <;> rw [e]

theorem q_maybeWakeupReader_chan (tp : TParams) (t : TcpSock) (h : NoErr t.inq) :
    (t.maybeWakeupReader tp).1.chan = t.chan := by
  rcases wake_cases tp t with ⟨e, _⟩ | ⟨hd, -, e, _⟩ | ⟨op, -, e, _⟩ <;> rw [e]
  · exact q_asyncWaitReadImpl_chan _ _
  · exact q_asyncReadImpl_chan _ _ h

theorem q_rxData (tp : TParams) (t : TcpSock) (p : Pkt) (hdr : t.reorder.lookup t.nextIn = none) :
    s5_fwdsOf (t.rxData tp p).2 = []
    ∧ (NoErr t.inq → (∀ e ∈ t.reorder, e.2.ty ≠ .err) → p.ty ≠ .err → (t.rxData tp p).1.chan = t.chan)
    ∧ Arrived (t.rxData tp p).1 p.id ∧ (∀ k, Arrived t k → Arrived (t.rxData tp p).1 k)
    ∧ (t.rxData tp p).1.reorder.lookup (t.rxData tp p).1.nextIn = none := by
  unfold TcpSock.rxData TcpSock.preWake
  split
  · rename_i hne
    have hne' : (t.nextIn == p.id) = false :=
      beq_false_of_ne fun e => (bne_iff_ne.mp hne) e.symm
    dsimp only
    by_cases hsome : (t.reorder.lookup p.id).isSome = true
    · rw [if_pos hsome]
      obtain ⟨v, hv⟩ := Option.isSome_iff_exists.mp hsome
      exact ⟨rfl, fun _ _ _ => rfl, Or.inr (List.mem_map.mpr ⟨(p.id, v), mem_of_lookup hv, rfl⟩),
        fun k hk => hk, hdr⟩
    · rw [if_neg hsome]
      refine ⟨rfl, fun _ _ _ => rfl, Or.inr (by simp), fun k hk => hk.imp_right fun h => ?_, ?_⟩
      · rw [List.map_append, List.mem_append]; exact Or.inl h
      · rw [List.lookup_append, hdr]; simp [List.lookup, hne']
  · rename_i heq
    have hid : p.id = t.nextIn := by simpa using heq
    obtain ⟨-, dm, d1, d2, d3⟩ := drainReorder_facts (t.reorder.length + 1) (t.nextIn + 1) t.reorder (t.inq ++ [p])
    dsimp only
    generalize drainReorder (t.reorder.length + 1) (t.nextIn + 1) t.reorder (t.inq ++ [p]) = d at d1 d2 d3 dm ⊢
    obtain ⟨hnx, hro, -, hfw⟩ := s5_maybeWakeupReader_spec tp { t with nextIn := d.1, reorder := d.2.1, inq := d.2.2 }
    refine ⟨hfw, ?_, ?_, ?_, ?_⟩
    · intro hq hro hpe
      rw [q_maybeWakeupReader_chan]
      intro x hx
      rcases dm x hx with h | ⟨e, he, rfl⟩
      · exact (List.mem_append.mp h).elim (hq x) (fun h => List.mem_singleton.mp h ▸ hpe)
      · exact hro e he
    · left; rw [hnx]; show p.id < d.1; omega
    · intro k hk
      rcases hk with hk | hk
      · left; rw [hnx]; show k < d.1; omega
      · rcases d2 k hk with h | h
        · right; rw [hro]; exact h
        · left; rw [hnx]; exact h
    · rw [hnx, hro]; exact d3 (by omega)

/-- what a read-side API call does to the reader's socket -/
structure RdStep (t t' : TcpSock) : Prop where
  nextIn : t'.nextIn = t.nextIn
  reorder : t'.reorder = t.reorder
  chan : NoErr t.inq → t'.chan = t.chan
  rcore : Prog.RCore t → Prog.RCore t'

theorem q_readNb {n : NetSt} {name : String} {t : TcpSock} (hs : n.tcp? name = some t) (caps : List Nat) :
    ∃ t', (n.tcpReadNb name caps).1 = n.setTcp name t' ∧ RdStep t t' := by
  rw [tcpReadNb_eq hs]
  obtain ⟨hnx, hro, -⟩ := s5_readSome_spec t t.chan.isSome caps
  exact ⟨_, rfl, hnx, hro, q_readSome_chan t _ caps, Prog.readSome_rcore t _ caps⟩

theorem q_abortRecv_chan (t : TcpSock) : t.abortRecv.1.chan = t.chan := by
  rw [TcpSock.abortRecv_eq]

theorem q_asyncRead {n : NetSt} {name : String} {t : TcpSock} (hs : n.tcp? name = some t) (op : ReadOp) :
    ∃ t', (n.tcpAsyncRead name op).1 = n.setTcp name t' ∧ RdStep t t'
      ∧ s5_fwdsOf (n.tcpAsyncRead name op).2 = [] := by
  rw [tcpAsyncRead_eq hs]
  -- `abortRecv` touches handler slots only: `nextIn`, `reorder`, `inq` of `t.abortRecv.1` are those of `t`
  obtain ⟨hnx, hro, -, hfw⟩ := s5_asyncReadImpl_spec t.abortRecv.1 op
  refine ⟨_, rfl, ⟨hnx, hro, ?_, ?_⟩, ?_⟩
  · intro hq
    rw [q_asyncReadImpl_chan t.abortRecv.1 op hq, q_abortRecv_chan]
  · exact Prog.asyncRead_rcore t op
  · rw [s5_fwdsOf_append, abortRecv_s5_fwdsOf, hfw]; rfl

theorem q_waitRead {n : NetSt} {name : String} {t : TcpSock} (hs : n.tcp? name = some t) (h : Nat) :
    ∃ t', (n.tcpWaitRead name h).1 = n.setTcp name t' ∧ RdStep t t'
      ∧ s5_fwdsOf (n.tcpWaitRead name h).2 = [] := by
  rw [tcpWaitRead_eq hs]
  obtain ⟨hnx, hro, -, hfw⟩ := s5_asyncWaitReadImpl_spec t.abortRecv.1 h
  refine ⟨_, rfl, ⟨hnx, hro, ?_, ?_⟩, ?_⟩
  · intro _
    rw [q_asyncWaitReadImpl_chan, q_abortRecv_chan]
  · exact Prog.waitRead_rcore t h
  · rw [s5_fwdsOf_append, abortRecv_s5_fwdsOf, hfw]; rfl

/-- `sa` the writer's socket, `sb` the reader's, `bag` the packets in the network (both sockets
    open: the bag holds the writer's payload segments and the reader's ACKs only) -/
structure QPure (R : Prop) (sa sb : TcpSock) (bag : List Pkt) : Prop where
  mssPos : 0 < sa.mss
  floor : sa.mss ≤ sa.cwnd
  connA : sa.connectH = none
  acct : sa.inFlight = sumSizes sa.outstanding
  keysND : (keys sa.outstanding).Nodup
  /-- sizes are recorded for exactly the numbers in the network: as a segment or as its ACK -/
  live : ∀ k, k ∈ keys sa.outstanding ↔ k ∈ ids bag
  bagND : (ids bag).Nodup
  resND : (ids sa.resend).Nodup
  disj : ∀ k, k ∈ ids sa.resend → k ∉ ids bag
  fresh : ∀ k, k ∈ ids bag ∨ k ∈ ids sa.resend → k < sa.nextOut
  /-- every segment created is in the network, waits for retransmission, or has arrived -/
  whereK : ∀ k, k < sa.nextOut → k ∈ ids bag ∨ k ∈ ids sa.resend ∨ Arrived sb k
  acked : ∀ p ∈ bag, p.ty = .ack → Arrived sb p.id
  drained : sb.reorder.lookup sb.nextIn = none
  /-- (`R`: the reader wake-up repair is in place) no read is pending while anything is queued -/
  rd : R → Prog.RCore sb

section
variable {R : Prop} {sa sb : TcpSock} {bag : List Pkt} (h : QPure R sa sb bag)
include h

theorem QPure.toAcct : Acct sa (ids bag) :=
  ⟨h.floor, h.acct, h.keysND, h.live, h.resND, h.disj, h.fresh⟩

theorem QPure.ofAcct {sa' sb' : TcpSock} {bag' : List Pkt}
    (a : Acct sa' (ids bag')) (hm : sa'.mss = sa.mss) (hc : sa'.connectH = sa.connectH) (hnd : (ids bag').Nodup)
    (hw : ∀ k, k < sa'.nextOut → k ∈ ids bag' ∨ k ∈ ids sa'.resend ∨ Arrived sb' k)
    (hak : ∀ p ∈ bag', p.ty = .ack → Arrived sb' p.id) (hdr : sb'.reorder.lookup sb'.nextIn = none)
    (hrd : R → Prog.RCore sb') : QPure R sa' sb' bag' :=
  ⟨hm ▸ h.mssPos, a.floor, hc.trans h.connA, a.acct, a.keysND, a.live, hnd, a.resND, a.disj, a.fresh, hw, hak, hdr, hrd⟩

theorem QPure.slots (sh : Option WriteOp) (cw : Nat) (hfl : sa.mss ≤ cw) :
    QPure R { sa with sendH := sh, cwnd := cw } sb bag :=
  { h with floor := hfl }

theorem QPure.rdB {sb' : TcpSock}
    (h1 : sb'.nextIn = sb.nextIn) (h2 : sb'.reorder = sb.reorder) (h3 : R → Prog.RCore sb') : QPure R sa sb' bag := by
  have harr : ∀ k, Arrived sb k → Arrived sb' k := by
    intro k hk; unfold Arrived at hk ⊢; rw [h1, h2]; exact hk
  exact h.ofAcct h.toAcct rfl rfl h.bagND (fun k hk => (h.whereK k hk).imp_right (Or.imp_right (harr k)))
    (fun p hp hty => harr _ (h.acked p hp hty)) (by rw [h1, h2]; exact h.drained) h3

/-- `Acct.send` with the packet `p'` that goes into the bag for `p` -/
theorem QPure.send (r : List Pkt) (k : Nat) (p p' : Pkt)
    (hres : ∀ j, j ∈ ids r → j ∈ ids sa.resend) (hrND : (ids r).Nodup) (hnext : sa.nextOut ≤ k)
    (hbag : p.id ∉ ids bag) (hr : p.id ∉ ids r) (hlt : p.id < k)
    (hw : ∀ j, j < k → j = p.id ∨ j ∈ ids bag ∨ j ∈ ids r ∨ Arrived sb j)
    (hp' : p'.id = p.id) (hty : p'.ty = .payload) :
    QPure R (TcpSock.sendAcct { sa with resend := r, nextOut := k } p) sb (bag ++ [p']) := by
  have hids : ids (bag ++ [p']) = ids bag ++ [p.id] := by simp [ids, hp']
  refine h.ofAcct (hids ▸ h.toAcct.send r k p hres hrND hnext hbag hr hlt) rfl rfl
    (hids ▸ Prog.nodup_snoc h.bagND hbag) ?_ ?_ h.drained h.rd
  · intro j hj
    rw [hids, List.mem_append, List.mem_singleton]
    rcases hw j hj with a | a | a
    · exact Or.inl (Or.inr a)
    · exact Or.inl (Or.inl a)
    · exact Or.inr a
  · intro q hq hqt
    rcases List.mem_append.mp hq with hq | hq
    · exact h.acked q hq hqt
    · rw [List.mem_singleton.mp hq, hty] at hqt; cases hqt

theorem QPure.ack {i : Nat} {p : Pkt}
    (hp : bag[i]? = some p) (hty : p.ty = .ack) : QPure R (ackSock sa p.id) sb (bag.eraseIdx i) := by
  have hids := Prog.ids_eraseIdx h.bagND hp
  refine h.ofAcct (hids ▸ h.toAcct.ack p.id) rfl rfl (hids ▸ h.bagND.filter _) ?_
    (fun q hq hqt => h.acked q (List.mem_of_mem_eraseIdx hq) hqt) h.drained h.rd
  intro k hk
  rw [hids, Prog.mem_filter_ne]
  by_cases hkp : k = p.id
  · exact Or.inr (Or.inr (hkp ▸ h.acked p (List.mem_of_getElem? hp) hty))
  · exact (h.whereK k hk).imp_left (fun a => ⟨a, hkp⟩)

/-- a segment reaches the reader, which acknowledges it -/
theorem QPure.data {sb' : TcpSock} {i : Nat} {p : Pkt}
    (hp : bag[i]? = some p) (ack : Pkt) (hid : ack.id = p.id)
    (harr : Arrived sb' p.id) (hmono : ∀ k, Arrived sb k → Arrived sb' k)
    (hdr : sb'.reorder.lookup sb'.nextIn = none) (hrd : R → Prog.RCore sb') :
    QPure R sa sb' (bag.eraseIdx i ++ [ack]) := by
  have hpm : p.id ∈ ids bag := Prog.mem_ids.mpr ⟨p, List.mem_of_getElem? hp, rfl⟩
  have hids : ids (bag.eraseIdx i ++ [ack]) = (ids bag).filter (fun j => j != p.id) ++ [p.id] := by
    rw [Prog.ids_append, Prog.ids_eraseIdx h.bagND hp]; simp [ids, hid]
  have hset : ∀ k, k ∈ ids (bag.eraseIdx i ++ [ack]) ↔ k ∈ ids bag := by
    intro k
    rw [hids, List.mem_append, Prog.mem_filter_ne, List.mem_singleton]
    by_cases hkp : k = p.id <;> simp [hkp, hpm]
  refine h.ofAcct (h.toAcct.perm hset) rfl rfl ?_ (fun k hk => ?_) ?_ hdr hrd
  · rw [hids]; exact Prog.nodup_snoc (h.bagND.filter _) (fun hh => (Prog.mem_filter_ne.mp hh).2 rfl)
  · rw [hset k]; exact (h.whereK k hk).imp_right (Or.imp_right (hmono k))
  · intro q hq hqt
    rcases List.mem_append.mp hq with hq | hq
    · exact hmono _ (h.acked q (List.mem_of_mem_eraseIdx hq) hqt)
    · rw [List.mem_singleton.mp hq, hid]; exact harr

theorem QPure.drop {i : Nat} {p : Pkt}
    (hp : bag[i]? = some p) (p' : Pkt) (hid : p'.id = p.id) (cw ld : Nat) (hcw : sa.mss ≤ cw) :
    QPure R { dropBase sa p' with cwnd := cw, lastDrop := ld } sb (bag.eraseIdx i) := by
  have hpm : p.id ∈ ids bag := Prog.mem_ids.mpr ⟨p, List.mem_of_getElem? hp, rfl⟩
  have hids : ids (bag.eraseIdx i) = (ids bag).filter (fun j => j != p'.id) := hid ▸ Prog.ids_eraseIdx h.bagND hp
  refine h.ofAcct (hids ▸ h.toAcct.drop p' (hid ▸ hpm) cw ld hcw) rfl rfl (hids ▸ h.bagND.filter _) ?_
    (fun q hq hqt => h.acked q (List.mem_of_mem_eraseIdx hq) hqt) h.drained h.rd
  intro k hk
  show k ∈ ids (bag.eraseIdx i) ∨ k ∈ ids (sa.resend ++ [p']) ∨ Arrived sb k
  rw [hids, Prog.mem_filter_ne, Prog.ids_append, List.mem_append]
  by_cases hkp : k = p'.id
  · exact Or.inr (Or.inl (Or.inr (by simp [ids, hkp])))
  · exact (h.whereK k hk).imp (fun a => ⟨a, hkp⟩) (Or.imp_left Or.inl)

theorem QPure.empty_zero (hb : bag = []) :
    sa.inFlight = 0 := by
  have a := h.toAcct
  rw [hb] at a
  exact a.empty_zero.2

theorem QPure.empty_notFull (hb : bag = []) :
    ¬ sa.WindowFull := by
  have h0 := h.empty_zero hb
  have hf := h.floor
  unfold TcpSock.WindowFull; omega

end

/-- `sa`, `sb` are the writer's and the reader's socket of `net`, both attached to an existing channel
    (`ca`, `cb`), and `QPure` holds of them and the bag -/
structure QAt (c : TcpCfg) (net : NetSt) (bag : List Pkt) (sa sb : TcpSock) : Prop where
  ne : c.a ≠ c.b
  hsa : net.tcp? c.a = some sa
  hsb : net.tcp? c.b = some sb
  ca : ChanOk net sa
  cb : ChanOk net sb
  pure : QPure (c.tp.wakeReaderFixed = true) sa sb bag

/-- segments waiting for retransmission never wait alone: something of the connection is in
    the network, or the loop in progress will send -/
def JOk (sa : TcpSock) (bag : List Pkt) (ctl : TCtl) : Prop :=
  sa.resend ≠ [] → bag ≠ [] ∨ ctl.willSend = true

/-- outside the ACK path a parked write has a reason -/
def WOk (sa : TcpSock) (ctl : TCtl) : Prop :=
  ctl.inAck = false → sa.sendH.isSome = true → sa.WindowFull ∨ sa.resend ≠ []

theorem JOk.bag {sa : TcpSock} {bag : List Pkt} {ctl : TCtl} (h : JOk sa bag ctl) (hc : ctl.willSend = false) :
    sa.resend ≠ [] → bag ≠ [] :=
  fun hne => (h hne).resolve_right (by rw [hc]; exact Bool.false_ne_true)

/-- `QLive` on the components of the state it reads -/
def QL (c : TcpCfg) (net : NetSt) (bag : List Pkt) (ctl : TCtl) : Prop :=
  ∃ sa sb, QAt c net bag sa sb ∧ JOk sa bag ctl ∧ (c.tp.wakeWriterFixed = true → WOk sa ctl)

/-- the quiescence invariant while both sockets are open -/
def QLive (c : TcpCfg) (s : TS) : Prop := QL c s.net s.bag s.ctl

theorem QAt.updA {c : TcpCfg} {n n' : NetSt} {bag bag' : List Pkt} {sa sa' sb : TcpSock}
    (h : QAt c n bag sa sb) (hu : NStep n n' c.a (fun _ s' => s' = sa')) (hc : sa'.chan = sa.chan)
    (hp : QPure (c.tp.wakeReaderFixed = true) sa' sb bag') :
    QAt c n' bag' sa' sb :=
  ⟨h.ne, hu.self_eq h.hsa, (hu.other c.b (Ne.symm h.ne)).trans h.hsb, h.ca.upd hu hc, h.cb.upd hu rfl, hp⟩

theorem QAt.set {c : TcpCfg} {n : NetSt} {bag bag' : List Pkt} {sa sb : TcpSock}
    (h : QAt c n bag sa sb) (sa' : TcpSock) (hc : sa'.chan = sa.chan)
    (hp : QPure (c.tp.wakeReaderFixed = true) sa' sb bag') : QAt c (n.setTcp c.a sa') bag' sa' sb :=
  h.updA (.set h.hsa rfl) hc hp

theorem QAt.setB {c : TcpCfg} {n : NetSt} {bag bag' : List Pkt} {sa sb : TcpSock}
    (h : QAt c n bag sa sb) (sb' : TcpSock) (hc : sb'.chan = sb.chan)
    (hp : QPure (c.tp.wakeReaderFixed = true) sa sb' bag') : QAt c (n.setTcp c.b sb') bag' sa sb' :=
  have hu : NStep n (n.setTcp c.b sb') c.b (fun _ s' => s' = sb') := .set h.hsb rfl
  ⟨h.ne, (hu.other c.a h.ne).trans h.hsa, hu.self_eq h.hsb, h.ca.upd hu rfl, h.cb.upd hu hc, hp⟩

theorem QAt.quiescent {c : TcpCfg} {s : TS} {sa sb : TcpSock} (hq : QAt c s.net s.bag sa sb)
    (hJ : JOk sa s.bag s.ctl) (hqs : s.Quiescent) :
    sa.resend = [] ∧ sa.inFlight = 0 ∧ (WOk sa s.ctl → sa.sendH = none) := by
  have hres : sa.resend = [] := by
    cases hr : sa.resend with
    | nil => rfl
    | cons p rest =>
      rcases hJ (by rw [hr]; simp) with x | x
      · exact absurd hqs.1 x
      · rw [hqs.2] at x; cases x
  refine ⟨hres, hq.pure.empty_zero hqs.1, fun hW => ?_⟩
  cases hs : sa.sendH with
  | none => rfl
  | some op =>
    rcases hW (by rw [hqs.2]; rfl) (by rw [hs]; rfl) with x | x
    · exact absurd x (hq.pure.empty_notFull hqs.1)
    · exact absurd hres x

theorem q_writePrep_block {n : NetSt} {name : String} {t : TcpSock} (hs : n.tcp? name = some t)
    (bufs : List (List UInt8)) (h : n.tcpWritePrep name bufs = .error .wouldBlock) :
    t.connectH.isSome = true ∨ t.WindowFull := by
  rcases tcpWritePrep_rows hs bufs with ⟨e, he, hw⟩ | ⟨_, -, -, -, -, -, hok⟩
  · rw [he] at h; exact hw (Except.error.inj h)
  · rw [hok] at h; cases h

section
variable {c : TcpCfg} {s : TS} {sa sb : TcpSock} (h : QAt c s.net s.bag sa sb) (hJ : sa.resend ≠ [] → s.bag ≠ [])
include h hJ

theorem QAt.live_finish (op : WriteOp) (r : Except Ec Nat)
    (hr : r = .error .wouldBlock → sa.WindowFull ∨ sa.resend ≠ []) : QLive c (s.finish c op r) := by
  obtain ⟨sh, heq, hsh, hfw⟩ := tcpWriteFinish_upd h.hsa op r
  show QL c (s.net.tcpWriteFinish c.a op r).1 (s.bag ++ s5_fwdsOf (s.net.tcpWriteFinish c.a op r).2) .idle
  rw [heq, hfw, List.append_nil]
  refine ⟨{ sa with sendH := sh }, sb, h.set _ rfl (h.pure.slots sh _ h.pure.floor), ?_, ?_⟩
  · intro hne; exact Or.inl (hJ hne)
  · intro _ _ hs; exact hr (hsh hs)

end

theorem TCore.q_bag {c : TcpCfg} {net : NetSt} {bag : List Pkt} {segs : List (List UInt8)} {w d : List UInt8}
    {e : Option Nat} {m : Nat} (h : TCore c net bag segs w d e false m) (hm : 0 < m) (p : Pkt) (hp : p ∈ bag) :
    (p.ty = .payload ∧ p.payload ≠ [] ∧ p.payload.length ≤ m) ∨ p.ty = .ack := by
  rcases h.bag p hp with (⟨h1, h2⟩ | ⟨_, h2, _⟩) | ⟨h1, _⟩
  · left
    have := h.segsB hm _ (List.mem_of_getElem? h2)
    exact ⟨h1, this.1, this.2⟩
  · cases h2
  · exact Or.inr h1

theorem TCore.q_resend {c : TcpCfg} {net : NetSt} {bag : List Pkt} {segs : List (List UInt8)} {w d : List UInt8}
    {e : Option Nat} {m : Nat} (h : TCore c net bag segs w d e false m) (sa : TcpSock)
    (hsa : net.tcp? c.a = some sa) :
    sa.mss = m ∧ (0 < m → ∀ p ∈ sa.resend, p.ty = .payload ∧ p.payload.length ≤ m) := by
  obtain ⟨sa', hsa', hao⟩ := h.exA
  rw [hsa] at hsa'; cases hsa'
  refine ⟨(hao.live rfl).2, ?_⟩
  intro hm p hp
  obtain ⟨h1, h2⟩ := hao.resend p hp
  exact ⟨h1, (h.segsB hm _ (List.mem_of_getElem? h2)).2⟩

theorem TCore.q_noErr {c : TcpCfg} {net : NetSt} {bag : List Pkt} {segs : List (List UInt8)} {w d : List UInt8}
    {e : Option Nat} {m : Nat} (h : TCore c net bag segs w d e false m) (sb : TcpSock)
    (hsb : net.tcp? c.b = some sb) : NoErr sb.inq ∧ ∀ x ∈ sb.reorder, x.2.ty ≠ .err := by
  obtain ⟨sb', hsb', hq⟩ := h.exB
  rw [hsb] at hsb'; cases hsb'
  constructor
  · intro p hp
    rcases (hq.qok p hp).2 with ⟨h1, _⟩ | ⟨_, h2, _⟩
    · rw [h1]; simp
    · cases h2
  · intro x hx
    rcases (hq.ro x hx).2 with ⟨h1, _⟩ | ⟨_, h2, _⟩
    · rw [h1]; simp
    · cases h2

theorem QLive.note {c : TcpCfg} {s : TS} (h : QLive c s) (ev : Option RdEv) : QLive c (s.note ev) := by
  rw [TS.note_eq]
  exact h

/-- one more segment goes out (first of a write, or next of the loop) -/
theorem QAt.live_sendSeg {c : TcpCfg} {s : TS} {sa sb : TcpSock} (hq : QAt c s.net s.bag sa sb)
    (hW : c.tp.wakeWriterFixed = true → WOk sa s.ctl) (hk : s.ctl.inAck = false) (t : Int) (hops : List String)
    (seg : List UInt8) (ctl' : TCtl) : QLive c { s.sendSeg c t hops seg with ctl := ctl' } := by
  obtain ⟨b, hu, -, hfw, _⟩ := tcpSendSeg_upd hq.hsa hq.ca t hops seg
  show QL c _ (s.bag ++ s5_fwdsOf (s.net.tcpSendSeg t c.a hops seg).2) ctl'
  rw [hfw]
  refine ⟨_, sb, hq.updA hu rfl ?_, fun _ => .inl (by simp), fun hF _ hs => ?_⟩
  · refine hq.pure.send sa.resend (sa.nextOut + 1) (sa.newSeg hops seg) _ (fun k hk => hk) hq.pure.resND (Nat.le_succ _)
      (fun hh => Nat.lt_irrefl _ (hq.pure.fresh _ (Or.inl hh))) (fun hh => Nat.lt_irrefl _ (hq.pure.fresh _ (Or.inr hh)))
      (Nat.lt_succ_self _) ?_ rfl rfl
    intro k hk
    by_cases hkn : k = sa.nextOut
    · exact Or.inl hkn
    · exact Or.inr (hq.pure.whereK k (Nat.lt_of_le_of_ne (Nat.le_of_lt_succ hk) hkn))
  · refine (hW hF hk hs).imp (fun hf => ?_) id
    unfold TcpSock.WindowFull at hf ⊢
    show sa.inFlight + _ + (sa.mss : Int) > (sa.cwnd : Int)
    omega

theorem QAt.live_rd {c : TcpCfg} {s : TS} {sa sb : TcpSock} (hq : QAt c s.net s.bag sa sb) (hJ : JOk sa s.bag s.ctl)
    (hW : c.tp.wakeWriterFixed = true → WOk sa s.ctl) (hne : NoErr sb.inq) {t' : TcpSock} {bag' : List Pkt}
    {posts' : List Compl} (ev : Option RdEv) (hrd : RdStep sb t') (hb : bag' = s.bag) :
    QLive c (({ s with net := s.net.setTcp c.b t', bag := bag', posts := posts' } : TS).note ev) := by
  subst hb
  apply QLive.note
  exact ⟨sa, _, hq.setB _ (hrd.chan hne)
    (hq.pure.rdB hrd.nextIn hrd.reorder (fun hR => hrd.rcore (hq.pure.rd hR))), hJ, hW⟩

/-- `QLive` taken apart (`hq`, `hJ`, `hW`) together with `TInv` (`inv`) and what it says while the writer
    has not closed: its core at `closed = false`, a positive start MSS, only payload of legal size waits
    for retransmission, no error packet is queued or parked at the reader -/
structure QView (c : TcpCfg) (s : TS) (sa sb : TcpSock) : Prop where
  inv : TInv c s
  hq : QAt c s.net s.bag sa sb
  hJ : JOk sa s.bag s.ctl
  hW : c.tp.wakeWriterFixed = true → WOk sa s.ctl
  hcore : TCore c s.net s.bag s.segs s.written s.delivered s.eofAt false s.mss0
  hm0 : 0 < s.mss0
  hres : ∀ p ∈ sa.resend, p.ty = .payload ∧ p.payload.length ≤ sa.mss
  hnoerr : NoErr sb.inq ∧ ∀ x ∈ sb.reorder, x.2.ty ≠ .err

theorem QLive.view {c : TcpCfg} {s : TS} (hT : TInv c s) (hcl : s.closed = false) (h : QLive c s) :
    ∃ sa sb, QView c s sa sb := by
  obtain ⟨sa, sb, hq, hJ, hW⟩ := h
  have hcore := hT.core
  rw [hcl] at hcore
  have hmss := hcore.q_resend sa hq.hsa
  have hm0 : 0 < s.mss0 := hmss.1 ▸ hq.pure.mssPos
  exact ⟨sa, sb, hT, hq, hJ, hW, hcore, hm0, fun p hp => hmss.1 ▸ hmss.2 hm0 p hp, hcore.q_noErr sb hq.hsb⟩

/-- **At quiescence everything written is at the reader**: nothing waits for retransmission, the bag is
    empty and the reorder buffer drained, so every segment created has arrived in order
    (`QPure.whereK`); with the stream invariant that is `written = delivered ++ queued`. -/
theorem QView.all_delivered {c : TcpCfg} {s : TS} {sa sb : TcpSock} (v : QView c s sa sb) (hqs : s.Quiescent) :
    sa.resend = [] ∧ sb.nextIn = sa.nextOut ∧ sa.nextOut = s.segs.length ∧ s.accepted = s.written
    ∧ s.written = s.delivered ++ bytesOf sb.inq
    ∧ (c.tp.wakeReaderFixed = true → (sb.recvH.isSome = true ∨ sb.waitRecvH.isSome = true) →
        s.delivered = s.written) := by
  have hres := (v.hq.quiescent v.hJ hqs).1
  obtain ⟨sa', hsa', hao⟩ := v.hcore.exA
  cases v.hq.hsa.symm.trans hsa'
  obtain ⟨sb', hsb', hbq⟩ := v.hcore.exB
  cases v.hq.hsb.symm.trans hsb'
  have hno : sa.nextOut = s.segs.length := (hao.live rfl).1
  have hge : sa.nextOut ≤ sb.nextIn := by
    apply Nat.le_of_not_lt
    intro hlt
    rcases v.hq.pure.whereK _ hlt with a | a | a | a
    · rw [hqs.1] at a; cases a
    · rw [hres] at a; cases a
    · omega
    · obtain ⟨e, he, hk⟩ := List.mem_map.mp a
      have hne := List.lookup_eq_none_iff.mp v.hq.pure.drained e he
      simp [hk] at hne
  have hle : sb.nextIn ≤ s.segs.length := by simpa using hbq.bound
  have hw : s.written = s.delivered ++ bytesOf sb.inq := by
    rw [hbq.bytes, List.take_of_length_le (hno ▸ hge), v.hcore.flat]
  refine ⟨hres, by omega, hno, ?_, hw, fun hR hp => ?_⟩
  · have := v.inv.ctl
    rw [hqs.2] at this
    exact this.symm
  · rw [hw, (v.hq.pure.rd hR).pend hp]; exact (List.append_nil _).symm

theorem QView.move {c : TcpCfg} {l : TLbl} {s s' : TS} {eA eB : List NEff} {sa sb : TcpSock}
    (hD : c.tp.releaseOnDrop = true) (m : TS.Move c l s eA eB s') (v : QView c s sa sb) (hl : s.dropOk l)
    (hcl' : s'.closed = false) : QLive c s' := by
  induction m generalizing sa sb
  case skip => exact ⟨sa, sb, v.hq, v.hJ, v.hW⟩
  case seq h1 h2 hn ih1 ih2 =>
    have hc1 := h2.closed hcl'
    obtain ⟨sa1, sb1, v1⟩ := QLive.view (v.inv.move h1) hc1 (ih1 v hl hc1)
    exact ih2 v1 (TS.dropOk_of_noDrop _ _ (TLbl.isDrop_of_isNet hn)) hcl'
  all_goals obtain ⟨-, hq, hJ, hW, hcore, hm0, hres, hnoerr⟩ := v
  case submit0 op hi hn =>
    obtain ⟨e0, -, -, heq⟩ := tcpAsyncWrite_posts hq.hsa op
    cases hn _ (by rw [heq]; exact tcp?_setTcp_same _ _ _)
  case submit op sa1 _ hi hs _ =>
    obtain ⟨e0, hf0, -, heq⟩ := tcpAsyncWrite_posts hq.hsa op
    rw [heq] at hs ⊢
    cases (tcp?_setTcp_same _ _ _).symm.trans hs
    simp only [TS.emit, s5_fwdsOf_append, hf0, s5_fwdsOf, List.append_nil]
    exact ⟨_, sb, (hq.set { sa with sendH := some op } rfl (hq.pure.slots _ _ hq.pure.floor)).set
        { sa with sendH := none } rfl (hq.pure.slots _ _ hq.pure.floor), fun hne => .inl (hJ.bag (by rw [hi]; rfl) hne), fun _ _ hs => by cases hs⟩
  case ackIdle wb acked hcs hn =>
    have hJs := hJ.bag (by rw [hcs]; rfl)
    rw [tcpAckPost_eq hq.hsa c.tp wb acked] at hn ⊢
    refine ⟨_, sb, hq.set { sa with cwnd := sa.cwnd + sa.mss * acked / sa.cwnd } rfl
      (hq.pure.slots _ _ (Nat.le_trans hq.pure.floor (Nat.le_add_right _ _))),
      fun hne => .inl (hJs hne), fun hF _ hs => ?_⟩
    rcases hn with hn | hn
    · left
      rw [hF] at hn
      simp only [if_true, decide_eq_false_iff_not] at hn
      show sa.inFlight + (sa.mss : Int) > ((sa.cwnd + sa.mss * acked / sa.cwnd : Nat) : Int)
      omega
    · have := hn _ (tcp?_setTcp_same _ _ _)
      rw [show sa.sendH = none from this] at hs; cases hs
  case ackWake wb acked sa1 _ hcs _ hs _ =>
    have hJs := hJ.bag (by rw [hcs]; rfl)
    rw [tcpAckPost_eq hq.hsa c.tp wb acked] at hs ⊢
    cases (tcp?_setTcp_same _ _ _).symm.trans hs
    have hfl := Nat.le_trans hq.pure.floor (Nat.le_add_right _ (sa.mss * acked / sa.cwnd))
    exact ⟨_, sb, (hq.set { sa with cwnd := sa.cwnd + sa.mss * acked / sa.cwnd } rfl (hq.pure.slots _ _ hfl)).set
      { sa with cwnd := sa.cwnd + sa.mss * acked / sa.cwnd, sendH := none } rfl
      (hq.pure.slots _ _ hfl), fun hne => .inl (hJs hne), fun _ _ hs => by cases hs⟩
  case startFail op e hi hprep =>
    refine hq.live_finish (hJ.bag (by rw [hi]; rfl)) op _ fun hr => ?_
    cases hr
    rcases q_writePrep_block hq.hsa _ hprep with hc | hf
    · rw [hq.pure.connA] at hc; cases hc
    · exact .inl hf
  case startEmpty op _ hi _ => exact hq.live_finish (hJ.bag (by rw [hi]; rfl)) op _ nofun
  case startSeg hi _ => exact hq.live_sendSeg hW (by rw [hi]; rfl) _ _ _ _
  case loopDone op hops rest acc hcs hg =>
    rcases hg with hfull | rfl
    · refine hq.live_finish (fun _ hb => ?_) op _ nofun
      rw [tcpWindowFull_eq hq.hsa] at hfull
      exact hq.pure.empty_notFull hb (by unfold TcpSock.WindowFull; simpa using hfull)
    · exact hq.live_finish (hJ.bag (by rw [hcs]; rfl)) op _ nofun
  case loopSeg hcs _ => exact hq.live_sendSeg hW (by rw [hcs]; rfl) _ _ _ _
  case resendStop t _ _ _ _ h =>
    rw [tcpResendOne_eq _ t _ sa hq.hsa hq.ca.isSome] at h
    refine ⟨sa, sb, hq, fun hne => .inl fun hb => ?_, fun _ hi => nomatch hi⟩
    cases hrs : sa.resend with
    | nil => exact hne hrs
    | cons p rest =>
      rw [hrs] at h
      dsimp only at h
      have hfit : ¬ sa.inFlight + p.payload.length ≤ sa.cwnd := fun hf => by rw [if_pos hf] at h; cases h
      have h0 := hq.pure.empty_zero hb
      have hl := (hres p (by rw [hrs]; exact List.mem_cons_self)).2
      have hf := hq.pure.floor
      omega
  case resendOne s t n wb acked r _ h =>
    obtain ⟨sa', p, rest, hsa', hrs, -, -, rfl⟩ := tcpResendOne_some _ _ _ _ h
    cases hq.hsa.symm.trans hsa'
    have hpm : p ∈ sa.resend := by rw [hrs]; exact List.mem_cons_self
    have hpi : p.id ∈ ids sa.resend := Prog.mem_ids.mpr ⟨p, hpm, rfl⟩
    have hu1 : NStep s.net (s.net.setTcp c.a { sa with resend := rest }) c.a (fun _ s' => s' = _) :=
      .set hq.hsa rfl
    obtain ⟨b, hu2, -, hfw, _⟩ := tcpSendPacket_upd (t := { sa with resend := rest }) (tcp?_setTcp_same _ _ _)
      (hq.ca.upd hu1 rfl) t p
    have hnd := hq.pure.resND
    rw [hrs] at hnd
    simp only [ids, List.map_cons, List.nodup_cons] at hnd
    simp only [TS.emit, hfw]
    refine ⟨_, sb, hq.updA (hu1.trans hu2 fun _ _ _ _ h => h) rfl ?_, fun _ => Or.inl (by simp), fun _ hi => nomatch hi⟩
    refine hq.pure.send rest sa.nextOut p _ (fun k hk => by rw [hrs]; exact List.mem_cons_of_mem _ hk) hnd.2
      (Nat.le_refl _) (hq.pure.disj _ hpi) hnd.1 (hq.pure.fresh _ (Or.inr hpi)) (fun k hk => ?_) rfl (hres p hpm).1
    rcases hq.pure.whereK k hk with a | a | a
    · exact Or.inr (Or.inl a)
    · rw [hrs] at a
      exact (List.mem_cons.mp a).imp id fun a => Or.inr (Or.inl a)
    · exact Or.inr (Or.inr (Or.inr a))
  case ackArrive s t i tr p0 hp hty hi =>
    obtain ⟨f1, f2, -, -⟩ := inTransit_fields p0 tr
    rw [tcpIncoming_ack hq.hsa c.tp t _ hty]
    simp only [tcp?_setTcp_same, Option.map_some, Option.getD_some, ackPostOf, TS.emit, s5_fwdsOf, List.append_nil, f1]
    refine ⟨_, sb, hq.set (ackSock sa p0.id) rfl (hq.pure.ack hp (f2 ▸ hty)), fun hne => .inr ?_, fun _ hi => nomatch hi⟩
    show TCtl.willSend (.resend sa.resend.length _ _) = true
    cases hx : sa.resend with
    | nil => exact absurd hx hne
    | cons y ys => rfl
  case dataArrive s t i tr p0 hp hty =>
    obtain ⟨f1, f2, f3, -⟩ := inTransit_fields p0 tr
    have hkind := hcore.q_bag hm0 p0 (List.mem_of_getElem? hp)
    rw [← f2, ← f3] at hkind
    generalize p0.inTransit tr = p at f1 hty hkind ⊢
    have hty : p.ty = .payload := hty.resolve_right fun h => by rcases hkind with ⟨h1, _⟩ | h1 <;> rw [h] at h1 <;> cases h1
    have hpk : Prog.PktOk p := .inr ⟨by rw [hty]; simp, (hkind.resolve_right fun h => by rw [hty] at h; cases h).2.1⟩
    obtain ⟨ch, hb⟩ := hq.cb.bind
    obtain ⟨he2, hch, harr, hmono, hdr⟩ := q_rxData c.tp sb p hq.pure.drained
    apply QLive.note
    rw [tcpIncoming_data hq.hsb c.tp t p (Or.inl hty), hb]
    simp only [TS.emit, fwdsOf_forward, he2]
    exact ⟨sa, _, hq.setB _ (hch hnoerr.1 hnoerr.2 (by rw [hty]; simp))
      (hq.pure.data hp _ f1 (f1 ▸ harr) hmono hdr fun hR => Prog.rxData_rcore c.tp hR hpk (hq.pure.rd hR)),
      fun _ => Or.inl (by simp), hW⟩
  case vanish p0 hp h1 h2 _ =>
    obtain ⟨-, f2, -, -⟩ := inTransit_fields p0 _
    rcases hcore.q_bag hm0 p0 (List.mem_of_getElem? hp) with ⟨h, _⟩ | h
    · exact absurd (f2.trans h) h2
    · exact absurd (f2.trans h) h1
  case handBack s i tr p0 hp hdrop =>
    obtain ⟨f1, -, -, f4⟩ := inTransit_fields p0 tr
    obtain ⟨hops, cw, ld, hcw, heq⟩ := tcpPacketDropped_floor hq.hsa c.tp hD hq.ca hq.pure.floor (p0.inTransit tr)
    rw [heq]
    have hJ' : s.bag.eraseIdx i ≠ [] ∨ s.ctl.willSend = true := by
      simp only [TS.dropOk, hp] at hl; exact hl (f4 ▸ hdrop)
    exact ⟨_, sb, hq.set _ rfl (hq.pure.drop hp (handedBack c.tp sa hops (p0.inTransit tr)) f1 cw ld hcw),
      fun _ => hJ', fun _ _ _ => .inr (List.append_ne_nil_of_right_ne_nil _ (List.cons_ne_nil _ _))⟩
  case read op =>
    obtain ⟨t', heq, hrd, hfw⟩ := q_asyncRead hq.hsb op
    rw [heq]
    exact hq.live_rd hJ hW hnoerr.1 _ hrd (by rw [hfw, List.append_nil])
  case readNb s caps =>
    obtain ⟨t', heq, hrd⟩ := q_readNb hq.hsb caps
    rw [heq]
    exact hq.live_rd hJ hW hnoerr.1 _ hrd rfl
  case waitRead hh =>
    obtain ⟨t', heq, hrd, hfw⟩ := q_waitRead hq.hsb hh
    rw [heq]
    exact hq.live_rd hJ hW hnoerr.1 _ hrd (by rw [hfw, List.append_nil])
  case close => cases hcl'

theorem QLive.run {c : TcpCfg}
    (hD : c.tp.releaseOnDrop = true) (ls : List TLbl) : ∀ {s : TS}, TInv c s → (s.closed = false → QLive c s) →
      TS.okRun c s ls → (TS.run c s ls).closed = false → QLive c (TS.run c s ls) := by
  induction ls with
  | nil => intro s _ h _ hc; exact h hc
  | cons l rest ih =>
    intro s hT h hok hc
    apply ih (hT.step l) _ hok.2 hc
    intro hc1
    have hc0 := (TS.step_move c s l).closed hc1
    obtain ⟨sa, sb, v⟩ := QLive.view hT hc0 (h hc0)
    exact v.move hD (TS.step_move c s l) hok.1 hc1

theorem QLive.init {c : TcpCfg} {n : NetSt} (h : TcpStartQ c n) : QLive c (TS.init c n) := by
  obtain ⟨sa, hsa, a1, a2, a3, a4, a5, a6, a7⟩ := h.qa
  obtain ⟨sb, hsb, b1, b2, b3, b4⟩ := h.qb
  obtain ⟨sa', hsa', c1, c2, _⟩ := h.sa
  obtain ⟨sb', hsb', d1, d2, d3⟩ := h.sb
  rw [hsa] at hsa'; cases hsa'
  rw [hsb] at hsb'; cases hsb'
  refine ⟨sa, sb, ⟨h.ne, hsa, hsb, a7, b4, ?_⟩, fun hne => absurd c2 hne, fun _ _ hs => by rw [a2] at hs; cases hs⟩
  -- nothing outstanding, nothing to resend, nothing sent, an empty bag, nothing received
  exact {
    mssPos := a5
    floor := a6
    connA := a1
    acct := by rw [a3, a4]; rfl
    keysND := by rw [a4]; simp [keys]
    live := by intro k; rw [a4]; simp [keys, ids, TS.init]
    bagND := by simp [ids, TS.init]
    resND := by rw [c2]; simp [ids]
    disj := by intro k hk; rw [c2] at hk; simp [ids] at hk
    fresh := by intro k hk; rw [c2] at hk; simp [ids, TS.init] at hk
    whereK := by intro k hk; rw [c1] at hk; omega
    acked := by intro p hp; simp [TS.init] at hp
    drained := by rw [d2]; rfl
    rd := fun _ => ⟨⟨b1, (by intro hh; rw [b2] at hh; cases hh), (by intro hh; rw [b3] at hh; cases hh),
      (by intro p hp; rw [d3] at hp; cases hp), (by intro e he; rw [d2] at he; cases he)⟩, fun _ => d3⟩ }

theorem QLive.reach {c : TcpCfg} {n : NetSt}
    (hD : c.tp.releaseOnDrop = true) (h : TcpStartQ c n) (ls : List TLbl) (hok : TS.okRun c (TS.init c n) ls)
    (hc : (TS.run c (TS.init c n) ls).closed = false) : QLive c (TS.run c (TS.init c n) ls) :=
  QLive.run hD ls (TInv.init h.toTcpStart) (fun _ => QLive.init h) hok hc

/-- `TcpStartQ` from decidable projections (for concrete states) -/
theorem tcpStartQ_of_check (c : TcpCfg) (n : NetSt) (h : TcpStart c n)
    (ha : (n.tcp? c.a).map (fun s => (s.connectH, s.sendH.isSome, s.inFlight, s.outstanding.length,
            decide (0 < s.mss ∧ s.mss ≤ s.cwnd), (s.chan.bind n.chan?).isSome))
          = some (none, false, 0, 0, true, true))
    (hb : (n.tcp? c.b).map (fun s => (s.connectH, s.recvH.isSome, s.waitRecvH.isSome, (s.chan.bind n.chan?).isSome))
          = some (none, false, false, true)) : TcpStartQ c n := by
  have hch : ∀ (s : TcpSock), (s.chan.bind n.chan?).isSome = true → ∃ cid, s.chan = some cid ∧ (n.chan? cid).isSome = true := by
    intro s hs
    cases hc : s.chan with
    | none => rw [hc] at hs; cases hs
    | some cid => rw [hc] at hs; exact ⟨cid, rfl, hs⟩
  refine { h with qa := ?_, qb := ?_ }
  · obtain ⟨s, hs, hv⟩ := Option.map_eq_some_iff.mp ha
    simp only [Prod.mk.injEq, decide_eq_true_eq] at hv
    obtain ⟨a1, a2, a3, a4, a5, a6⟩ := hv
    exact ⟨s, hs, a1, by simpa using a2, a3, List.eq_nil_of_length_eq_zero a4, a5.1, a5.2, hch s a6⟩
  · obtain ⟨s, hs, hv⟩ := Option.map_eq_some_iff.mp hb
    simp only [Prod.mk.injEq] at hv
    obtain ⟨b1, b2, b3, b4⟩ := hv
    exact ⟨s, hs, b1, by simpa using b2, by simpa using b3, hch s b4⟩

theorem established_startQ (cfg : NetCfg) (c : TcpCfg) (epA epB : Ep) (hopsAB hopsBA : List String)
    (h : c.a ≠ c.b) (hA : 0 < cfg.pathMtu epA.addr epB.addr) (hB : 0 < cfg.pathMtu epB.addr epA.addr) :
    TcpStartQ c (established cfg c epA epB hopsAB hopsBA)
    ∧ TcpStartQ { a := c.b, b := c.a, tp := c.tp } (established cfg c epA epB hopsAB hopsBA) := by
  have hs := established_start cfg c epA epB hopsAB hopsBA h
  have hba : (c.b == c.a) = false := by simpa using (Ne.symm h)
  constructor
  · apply tcpStartQ_of_check _ _ hs.1
    · simp [established, NetSt.tcp?, NetSt.chan?, hA]; omega
    · simp [established, NetSt.tcp?, NetSt.chan?, List.lookup, hba]
  · apply tcpStartQ_of_check _ _ hs.2
    · simp [established, NetSt.tcp?, NetSt.chan?, List.lookup, hba, hB]; omega
    · simp [established, NetSt.tcp?, NetSt.chan?]

end SimVerif
