/-
  SimVerif.Lemmas.SocksUdp — the UDP ASSOCIATE relay of the SOCKS proxy model: one equation for
  `on_read_udp` of the repaired tree on a datagram the I/O layer stored (`onReadUdp_eq`), in the
  terms of the specification (`udpUnwrap`, `udpWrap`); the byte arithmetic of the wrap / unwrap
  round trip. That it cannot fault and the forwarding theorems of C17 are read off the equation.
-/
import SimVerif.Lemmas.SocksTable

namespace SimVerif.Socks

theorem u8_toNat (n : Nat) : (u8 n).toNat = n % 256 := by
  simp [u8]

theorem be16_port2 (p : Nat) (hp : p < 65536) : be16 (u8 (p / 256)) (u8 p) = p := by
  simp only [be16, u8_toNat]; omega

theorem be32_addr4 (a : Nat) (ha : a < 4294967296) :
    be32 (u8 (a / 16777216)) (u8 (a / 65536)) (u8 (a / 256)) (u8 a) = a := by
  simp only [be32, u8_toNat]; omega

theorem complete_udpRecv {p : Params} {c : Conn} {cnt : List Int} {ec : Ec} {dg : Bytes} {src : Nat × Nat}
    (hs : c.Sized) (hl : dg.length ≤ 1500) :
    complete p c cnt .udpRecv (.dgram ec dg src)
      = onReadUdp p { c with udpBuf := c.udpBuf.store 0 dg } cnt ec dg.length src := by
  have hin : c.udpBuf.inb 0 dg.length = true := by
    simp only [Buf.inb, hs.udp]; simp; omega
  simp only [complete, Buf.write, hin, if_true]
  rfl

/-- the connection's datagram array holds `dg` at its start -/
structure UdpHolds (C : Conn) (dg : Bytes) : Prop where
  cap : C.udpBuf.cap = 1500
  len : dg.length ≤ 1500
  byte : ∀ j, j < dg.length → C.udpBuf.byte j = dg.getD j 0
  read : ∀ (off n : Int) (o m : Nat), off = o → n = m → o + m ≤ dg.length →
    C.udpBuf.readN off n = .ok ((dg.drop o).take m)

theorem UdpHolds.get {C : Conn} {dg : Bytes} (h : UdpHolds C dg) (i : Int) (j : Nat) (hi : i = j) (hj : j < dg.length) :
    C.udpBuf.get i = .ok (dg.getD j 0) := by
  have := h.len
  rw [Buf.get_ok _ _ (by omega) (by rw [h.cap]; omega), hi, Int.toNat_natCast, h.byte j hj]

theorem UdpHolds.get' {C : Conn} {dg : Bytes} (h : UdpHolds C dg) (i : Int) (j : Nat) (hi : i = j) (hj : j < 1500) :
    C.udpBuf.get i = .ok (C.udpBuf.byte j) := by
  rw [Buf.get_ok _ _ (by omega) (by rw [h.cap]; omega), hi, Int.toNat_natCast]

theorem udpHolds_store (c : Conn) (hs : c.Sized) (dg : Bytes) (hl : dg.length ≤ 1500) :
    UdpHolds { c with udpBuf := c.udpBuf.store 0 dg } dg where
  cap := hs.udp
  len := hl
  byte := fun j hj => Buf.store0_byte _ _ j hj
  read := by
    intro off n o m ho hm hle
    subst ho hm
    have := Buf.store0_readN c.udpBuf dg o m (by omega) (by omega) (by omega) (by rw [hs.udp]; exact hl)
    simpa using this

theorem wrapHeader_eq (src : Nat × Nat) (name : Option Bytes) (dg : Bytes) :
    wrapHeader src name ++ dg
      = udpWrap (match name with | some host => .name host src.2 | none => .ip src.1 src.2) dg := by
  cases name <;> simp [wrapHeader, udpWrap]

/-- `udpUnwrap` by positions: the form in which `on_read_udp` parses a datagram -/
theorem udpUnwrap_eq (dg : Bytes) : udpUnwrap dg =
    if dg.getD 3 0 = 1 ∧ 10 ≤ dg.length then
      some (.ip (be32 (dg.getD 4 0) (dg.getD 5 0) (dg.getD 6 0) (dg.getD 7 0)) (be16 (dg.getD 8 0) (dg.getD 9 0)), dg.drop 10)
    else if dg.getD 3 0 = 3 ∧ 7 + (dg.getD 4 0).toNat ≤ dg.length then
      some (.name ((dg.drop 5).take (dg.getD 4 0).toNat)
              (be16 (dg.getD ((dg.getD 4 0).toNat + 5) 0) (dg.getD ((dg.getD 4 0).toNat + 6) 0)), dg.drop ((dg.getD 4 0).toNat + 7))
    else none := by
  -- `udpUnwrap` is evaluated on each shape of `dg` it distinguishes (by `exact`, up to reduction);
  -- on most of them both conditions fail: for want of bytes (`short`) or by the address type
  have none_of : ∀ {c1 c3 : Prop} [Decidable c1] [Decidable c3] {x y : Option (UTarget × Bytes)}, ¬ c1 → ¬ c3 →
      none = if c1 then x else if c3 then y else none := fun h1 h3 => ((if_neg h1).trans (if_neg h3)).symm
  have short : ∀ {p : Prop} {n x m : Nat}, m < n → ¬ (p ∧ n + x ≤ m) := fun h a =>
    Nat.not_le_of_lt h (Nat.le_trans (Nat.le_add_right ..) a.2)
  have h31 : (1 : UInt8) ≠ 3 := by decide
  have h13 : (3 : UInt8) ≠ 1 := by decide
  -- where the address type `t` is neither 1 nor 3 `udpUnwrap` has to be split, not evaluated
  have other : ∀ {t : UInt8} {l : Bytes}, t ≠ 1 → t ≠ 3 → ∀ x0 x1 x2, udpUnwrap (x0 :: x1 :: x2 :: t :: l) = none := by
    intro t l h1 h3 x0 x1 x2
    unfold udpUnwrap
    split
    · rename_i h; cases h; exact absurd rfl h1
    · rename_i h; cases h; exact absurd rfl h3
    · rfl
  match dg with
  | [] | [_] | [_, _] | [_, _, _] => exact none_of (short (x := 0) (by simp)) (short (by simp))
  | x0 :: x1 :: x2 :: t :: rest =>
    by_cases h1 : t = 1
    · subst h1
      match rest with
      | l :: b :: c :: d :: ph :: pl :: rest' => exact (if_pos ⟨rfl, Nat.le_add_left 10 rest'.length⟩).symm
      | [] | [_] | [_, _] | [_, _, _] | [_, _, _, _] | [_, _, _, _, _] =>
        exact none_of (short (x := 0) (by simp)) (fun a => h31 a.1)
    · by_cases h3 : t = 3
      · subst h3
        match rest with
        | [] => exact none_of (fun a => h13 a.1) (short (by simp))
        | l :: rest' =>
          rw [if_neg (fun a => h13 a.1)]
          split
          · rename_i h
            have : 7 + l.toNat ≤ rest'.length + 5 := h.2
            exact if_pos (by omega)
          · rename_i h
            exact if_neg (fun hl => h ⟨rfl, (by omega : 7 + l.toNat ≤ rest'.length + 5)⟩)
      · exact (other h1 h3 ..).trans (none_of (fun a => h1 a.1) (fun a => h3 a.1))

/-- `m_udp_associate_ep` once a datagram from the client's address showed the client's port -/
def Conn.seen (C : Conn) (src : Nat × Nat) : Conn :=
  if C.assoc.2 = 0 ∧ src.1 = C.assoc.1 then { C with assoc := (C.assoc.1, src.2) } else C

/-- what `on_read_udp` does with the datagram `dg` from `src`: a client's datagram is unwrapped and
    forwarded (or dropped when its header does not fit), any other is wrapped and sent to the client -/
def udpActs (C : Conn) (src : Nat × Nat) (dg : Bytes) : List Act :=
  if src = C.assoc then
    match udpUnwrap dg with
    | some (.ip a pt, payload) => [.udpSend payload a pt, .udpRecv .udpRecv]
    | some (.name host pt, payload) =>
      [match C.nameMap.find? (fun e => e.2 == host) with
       | some (a, _) => .udpSend payload a pt
       | none => .udpResolve host pt (.udpResolve payload host),
       .udpRecv .udpRecv]
    | none => [.udpRecv .udpRecv]
  else
    [.udpSend (udpWrap (match (C.nameMap.find? (fun e => e.1 == src.1)).map Prod.snd with
                        | some host => .name host src.2
                        | none => .ip src.1 src.2) dg) C.assoc.1 C.assoc.2,
     .udpRecv .udpRecv]

theorem getD_take_drop (l : Bytes) (o m i : Nat) (h : i < m) : ((l.drop o).take m).getD i 0 = l.getD (o + i) 0 := by
  simp [List.getD, h, List.getElem?_drop]

theorem onReadUdp_eq {C : Conn} {cnt : List Int} {dg : Bytes} (hh : UdpHolds C dg) (src : Nat × Nat) :
    onReadUdp {} C cnt .ok dg.length src = .ok (C.seen src, cnt, udpActs (C.seen src) src dg) := by
  unfold onReadUdp
  rw [if_neg (by simp)]
  extract_lets C1 rearm
  have hh1 : UdpHolds C1 dg := by
    unfold C1; split
    · exact ⟨hh.cap, hh.len, hh.byte, hh.read⟩
    · exact hh
  show _ = Except.ok (C1, cnt, udpActs C1 src dg)
  clear_value C1
  unfold udpActs
  have hlen := hh1.len
  by_cases hsrc : src = C1.assoc
  · rw [if_pos hsrc, if_pos hsrc, udpUnwrap_eq]
    have g3 := hh1.get' 3 3 rfl (by omega)
    have g4 := hh1.get' 4 4 rfl (by omega)
    simp only [g3, g4, if_true, true_and, ge_iff_le]
    -- `A` is the model's ATYP (−1 below 4 bytes); `eA1`/`eA3` say what it is in terms of `dg`. Then the three
    -- outcomes of `udpUnwrap_eq`: `c1`, `c3`, or neither (the model drops, by its length tests `k3`/`k1` or by type)
    generalize hA : (if 4 ≤ dg.length then sx (C1.udpBuf.byte 3) else -1) = A
    have eA3 : A = 3 ↔ (4 ≤ dg.length ∧ dg.getD 3 0 = 3) := by
      rw [← hA]; split
      · rw [hh1.byte 3 (by omega), sx_eq_3]; simp [*]
      · simp [*]
    have eA1 : A = 1 ↔ (4 ≤ dg.length ∧ dg.getD 3 0 = 1) := by
      rw [← hA]; split
      · rw [hh1.byte 3 (by omega), sx_eq_1]; simp [*]
      · simp [*]
    clear hA
    by_cases c1 : dg.getD 3 0 = 1 ∧ 10 ≤ dg.length
    · have a1 : A = 1 := eA1.2 ⟨by omega, c1.1⟩
      have r1 := hh1.read 4 6 4 6 rfl rfl (by omega)
      have r2 := hh1.read 10 ((dg.length : Int) - 10) 10 (dg.length - 10) rfl (by omega) (by omega)
      rw [List.take_of_length_le (by simp)] at r2
      subst a1
      rw [if_neg (by simp), if_neg (by omega), if_neg (by simp), if_pos rfl, if_pos c1, r1, r2]
      simp only [getD_take_drop _ _ _ _ (show 0 < 6 by omega), getD_take_drop _ _ _ _ (show 1 < 6 by omega),
        getD_take_drop _ _ _ _ (show 2 < 6 by omega), getD_take_drop _ _ _ _ (show 3 < 6 by omega),
        getD_take_drop _ _ _ _ (show 4 < 6 by omega), getD_take_drop _ _ _ _ (show 5 < 6 by omega)]
      rfl
    · rw [if_neg c1]
      by_cases c3 : dg.getD 3 0 = 3 ∧ 7 + (dg.getD 4 0).toNat ≤ dg.length
      · have a3 : A = 3 := eA3.2 ⟨by omega, c3.1⟩
        have hb4 := hh1.byte 4 (by omega)
        generalize hl : (dg.getD 4 0).toNat = l at c3 ⊢
        have hux : ux (C1.udpBuf.byte 4) = (l : Int) := by rw [hb4, ux, hl]
        have r1 := hh1.read 5 l 5 l rfl rfl (by omega)
        have g1 := hh1.get (5 + l) (l + 5) (by omega) (by omega)
        have g2 := hh1.get (6 + l) (l + 6) (by omega) (by omega)
        have r2 := hh1.read (7 + l) ((dg.length : Int) - 7 - l) (l + 7) (dg.length - 7 - l) (by omega) (by omega) (by omega)
        rw [List.take_of_length_le (by simp; omega)] at r2
        subst a3
        rw [hux, if_neg (by omega), if_neg (by simp), if_pos rfl, if_pos c3, r1, g1, g2, r2]
        dsimp only
        split <;> rename_i hf <;> rw [hf] <;> rfl
      · rw [if_neg c3]
        have k3 : A = 3 → (dg.length < 5 ∨ (dg.length : Int) < 7 + ux (C1.udpBuf.byte 4)) := fun h => by
          have := eA3.1 h
          by_cases h5 : dg.length < 5
          · exact .inl h5
          · rw [hh1.byte 4 (by omega), ux]
            have : ¬ 7 + (dg.getD 4 0).toNat ≤ dg.length := fun a => c3 ⟨this.2, a⟩
            exact .inr (by omega)
        have k1 : A = 1 → dg.length < 10 := fun h => by
          have := eA1.1 h
          have : ¬ 10 ≤ dg.length := fun a => c1 ⟨this.2, a⟩
          omega
        by_cases h3 : A = 3
        · rw [if_pos ⟨h3, k3 h3⟩]
        · by_cases h1 : A = 1
          · rw [if_neg (fun h => h3 h.1), if_pos ⟨h1, k1 h1⟩]
          · rw [if_neg (fun h => h3 h.1), if_neg (fun h => h1 h.1), if_neg h3, if_neg h1]
  · have r := hh1.read 0 dg.length 0 dg.length rfl rfl (by omega)
    simp only [List.drop_zero, List.take_length] at r
    rw [if_neg hsrc, if_neg hsrc, r]
    simp only [wrapHeader_eq]
    rfl


theorem Conn.seen_self (C : Conn) : C.seen C.assoc = C := by
  unfold Conn.seen; split <;> rfl

theorem Conn.seen_eq (C : Conn) (src : Nat × Nat) : C.seen src = { C with assoc := (C.seen src).assoc } := by
  unfold Conn.seen; split <;> rfl

theorem udp_resolved_sends (c : Conn) (cnt : List Int) (payload host : Bytes) (a pt : Nat) (rest : List (Nat × Nat))
    (hp : payload ≠ []) :
    ∃ c', complete {} c cnt (.udpResolve payload host) (.ips .ok ((a, pt) :: rest)) = .ok (c', cnt, [.udpSend payload a pt]) := by
  have he : payload.isEmpty = false := by cases payload <;> simp_all
  refine ⟨{ c with nameMap := mapInsert c.nameMap a host }, ?_⟩
  simp [complete, udpResolved, he]

end SimVerif.Socks
