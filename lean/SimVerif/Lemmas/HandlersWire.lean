/-
  The channel clause of `HTS.ok` ("the packet handed to `.incoming` carries no
  channel or a valid one") DERIVED from a purely environmental assumption: the network only
  hands in — delivers, or reports as dropped — packets whose channel id was carried by a packet
  the sockets put on the wire before.

  Ghost state: `wire`, the channel ids carried by all packets forwarded so far (`wireOf` of the
  effect lists). Invariant `WireInv`: accept queues valid (`ConnsOk`), packets queued for
  retransmission carry valid ids (`ResendOk` — `packet_dropped` queues whatever packet the
  environment reports, and the ACK path sends it again: this is why drop notifications need
  the same assumption as deliveries), and every id on the wire is valid. That every label keeps
  it is the `WStep` part of `HL.label_step`; `okRun_of_okRunSent` is the result.
-/
import SimVerif.Lemmas.HandlersTcpSys

namespace SimVerif

structure WireInv (n : NetSt) (w : List Nat) : Prop where
  conns  : ConnsOk n
  resend : ResendOk n
  wire   : ∀ c ∈ w, c < n.chans.length

namespace HL

theorem ok_of_okSent {s : HdS} {w : List Nat} {l : h4_HLbl} (hI : WireInv s.n w) (hc : HTS.okCode s l)
    (henv : HTS.okEnv w l) : HTS.ok s l := by
  cases l with
  | incoming _ _ p => exact fun c hc => hI.wire c (henv c hc)
  | _ => exact hc

theorem wire_label (tp : TParams) (s : HdS) (w : List Nat) (l : h4_HLbl) (hI : WireInv s.n w)
    (hc : HTS.okCode s l) (henv : HTS.okEnv w l) : WireInv (l.eff tp s.n).1 (w ++ wireOf (l.eff tp s.n).2) := by
  obtain ⟨_, ⟨hk, hws⟩, _⟩ := (label_step tp s l).2 (ok_of_okSent hI hc henv)
  replace hws := hws w hI.wire henv
  refine ⟨(hk hI.conns).2, hws.resend hI.resend, fun c hc => ?_⟩
  rw [List.mem_append] at hc
  rcases hc with hc | hc
  · exact Nat.lt_of_lt_of_le (hI.wire c hc) hws.len
  · exact hws.wire hI.resend c hc

theorem okRun_of_okRunSent (tp : TParams) (ls : List h4_HLbl) (s : HdS) (w : List Nat) (hI : WireInv s.n w)
    (h : HTS.okRunSent tp s w ls) : HTS.okRun tp s ls := by
  induction ls generalizing s w with
  | nil => trivial
  | cons l rest ih =>
    obtain ⟨hc, henv, hrest⟩ := h
    exact ⟨ok_of_okSent hI hc henv, ih _ _ (wire_label tp s w l hI hc henv) hrest⟩

end HL

def pktSentb (wire : List Nat) (p : Pkt) : Bool :=
  match p.chan with | some c => wire.contains c | none => true

theorem pktSentb_sound {wire : List Nat} {p : Pkt} (h : pktSentb wire p = true) : pktSent wire p := by
  intro c hc
  unfold pktSentb at h
  rw [hc] at h
  simpa using h

def HTS.okEnvb (wire : List Nat) : h4_HLbl → Bool
  | .incoming _ _ p => pktSentb wire p
  | .dropped _ p => pktSentb wire p
  | .runWrite _ _ mid _ => mid.all (fun m => match m with | .drop p => pktSentb wire p | _ => true)
  | _ => true

theorem HTS.okEnvb_sound {wire : List Nat} {l : h4_HLbl} (h : HTS.okEnvb wire l = true) : HTS.okEnv wire l := by
  cases l <;> simp only [HTS.okEnvb, HTS.okEnv] at h ⊢ <;> (try trivial) <;> (try exact pktSentb_sound h)
  case runWrite name h? mid r =>
    intro p hp
    rw [List.all_eq_true] at h
    exact pktSentb_sound (h _ hp)

def HTS.okCodeb (s : HdS) : h4_HLbl → Bool
  | .incoming _ _ _ => true
  | l => HTS.okb s l

theorem HTS.okCodeb_sound {s : HdS} {l : h4_HLbl} (h : HTS.okCodeb s l = true) : HTS.okCode s l := by
  cases l <;> simp only [HTS.okCodeb, HTS.okCode] at h ⊢ <;> first
    | trivial
    | exact HTS.okb_sound h

def HTS.okRunSentb (tp : TParams) : HdS → List Nat → List h4_HLbl → Bool
  | _, _, [] => true
  | s, w, l :: rest =>
    HTS.okCodeb s l && HTS.okEnvb w l && HTS.okRunSentb tp (HTS.step tp s l) (w ++ wireOf (l.eff tp s.n).2) rest

theorem HTS.okRunSentb_sound (tp : TParams) (ls : List h4_HLbl) (s : HdS) (w : List Nat)
    (h : HTS.okRunSentb tp s w ls = true) : HTS.okRunSent tp s w ls := by
  induction ls generalizing s w with
  | nil => trivial
  | cons l rest ih =>
    simp only [HTS.okRunSentb, Bool.and_eq_true] at h
    exact ⟨HTS.okCodeb_sound h.1.1, HTS.okEnvb_sound h.1.2, ih _ _ h.2⟩

def ResendOkb (n : NetSt) : Bool :=
  n.tcps.all (fun e => e.2.resend.all (fun p => match p.chan with | some c => decide (c < n.chans.length) | none => true))

theorem ResendOkb_sound {n : NetSt} (h : ResendOkb n = true) : ResendOk n := by
  refine ⟨fun name t ht p hp c hc => ?_⟩
  unfold ResendOkb at h
  rw [List.all_eq_true] at h
  have := h (name, t) (mem_of_lookup ht)
  rw [List.all_eq_true] at this
  have := this p hp
  rw [hc] at this
  simpa using this

end SimVerif
