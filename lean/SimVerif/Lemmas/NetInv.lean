/-
  SimVerif.Lemmas.NetInv — the registry invariant of one protocol (`PInv`: one endpoint table
  against the open/bound state of that protocol's sockets) and the forwarder invariant
  (`FInv`: the forwarder table against the forwarder ids the sockets of both protocols hold),
  with one preservation lemma per elementary change (close, open, move; for `PInv` also bind and
  attach, which change no (is open, forwarder) pair: `setS_fw_same` in NetView). Two facts carry
  most of them: an object without endpoint (without forwarder) may turn into any other such
  object (`setIdle`; creating and removing an object are instances), and the invariants do not
  depend on what the objects are called (`rename`) — move construction is a renaming followed by
  a fresh closed object.
  Everything here is about plain tables and functions; Lemmas/NetView.lean puts the two invariants
  together over one protocol's view, Lemmas/NetUdp.lean and NetTcp.lean connect the mechanism
  functions to these changes.
-/
import SimVerif.Lemmas.NetBasic

namespace SimVerif

/-- `tbl` : endpoint ↦ name; `sv name` : (is open, bound endpoint) of the live sockets;
    `att` : names whose endpoint was handed to them by an accept (no entry of their own). -/
structure PInv (tbl : List (Ep × String)) (sv : String → Option (Bool × Ep)) (att : List String) : Prop where
  nodup    : (tbl.map Prod.fst).Nodup
  sound    : ∀ ep nm, (ep, nm) ∈ tbl → sv nm = some (true, ep) ∧ ep.isDefault = false
  complete : ∀ nm ep, sv nm = some (true, ep) → ep.isDefault = false → nm ∉ att → (ep, nm) ∈ tbl
  att_none : ∀ nm, nm ∈ att → ∀ ep, (ep, nm) ∉ tbl
  att_bound : ∀ nm, nm ∈ att → ∃ ep, sv nm = some (true, ep) ∧ ep.isDefault = false
  closed   : ∀ nm ep, sv nm = some (false, ep) → ep = {}
  addr     : ∀ nm o ep, sv nm = some (o, ep) → ep.isDefault = false → ep.addr ≠ "0.0.0.0"
  ports    : ∀ ep nm, (ep, nm) ∈ tbl → 1024 ≤ ep.port

theorem setS_cases {α : Type} {f : String → α} {k x : String} {v w : α} (h : setS f k v x = w) :
    (x = k ∧ v = w) ∨ (x ≠ k ∧ f x = w) := by
  by_cases hx : x = k
  · subst hx; rw [setS_same] at h; exact .inl ⟨rfl, h⟩
  · rw [setS_other _ _ _ _ hx] at h; exact .inr ⟨hx, h⟩

theorem setS_self {α : Type} (f : String → α) (k : String) : setS f k (f k) = f := by
  funext x; simp [setS]; intro h; simp [h]

theorem setS_eq_self {α : Type} {f : String → α} {k : String} {v : α} (h : f k = v) : setS f k v = f :=
  h ▸ setS_self f k

theorem setS_map {α β : Type} (f : String → Option α) (k : String) (w : Option α) (g : α → β) :
    (fun x => (setS f k w x).map g) = setS (fun x => (f x).map g) k (w.map g) := by
  funext x; simp only [setS]; split <;> rfl

theorem PInv.init : PInv [] (fun _ => none) [] := by
  constructor <;> simp

theorem PInv.no_entry {tbl sv att} (h : PInv tbl sv att) {nm : String}
    (hs : ∀ ep, sv nm = some (true, ep) → ep.isDefault = true) : (∀ ep, (ep, nm) ∉ tbl) ∧ nm ∉ att := by
  constructor
  · intro ep hm
    obtain ⟨h1, h2⟩ := h.sound ep nm hm
    rw [hs ep h1] at h2; cases h2
  · intro hm
    obtain ⟨ep, h1, h2⟩ := h.att_bound nm hm
    rw [hs ep h1] at h2; cases h2

theorem PInv.entry_is_own {tbl sv att} (h : PInv tbl sv att) {nm x : String} {o : Bool} {b : Ep}
    (hs : sv nm = some (o, b)) (hd : b.isDefault = false) (hna : nm ∉ att) (hx : (b, x) ∈ tbl) : x = nm := by
  cases o with
  | false => rw [h.closed nm b hs, Ep.default_isDefault] at hd; cases hd
  | true => exact keys_unique _ h.nodup b x nm hx (h.complete nm b hs hd hna)

/-- An object without a concrete endpoint (closed, or open and unbound, or absent) turns into
    another such one: neither the table nor the accepted-set speaks about it. -/
theorem PInv.setIdle {tbl sv att} (h : PInv tbl sv att) (nm : String) (v : Option (Bool × Ep))
    (hs : ∀ ep, sv nm = some (true, ep) → ep.isDefault = true) (hv : ∀ o ep, v = some (o, ep) → ep = {}) :
    PInv tbl (setS sv nm v) att := by
  obtain ⟨hno, hnatt⟩ := h.no_entry hs
  refine ⟨h.nodup, fun ep x hx => ?_, fun x ep hx hd ha => ?_, h.att_none, fun x hx => ?_,
    fun x ep hx => ?_, fun x o ep hx hd => ?_, h.ports⟩
  · have hxn : x ≠ nm := fun c => hno ep (c ▸ hx)
    rw [setS_other _ _ _ _ hxn]; exact h.sound ep x hx
  · rcases setS_cases hx with ⟨_, e⟩ | ⟨_, e⟩
    · rw [hv _ _ e, Ep.default_isDefault] at hd; cases hd
    · exact h.complete x ep e hd ha
  · have hxn : x ≠ nm := fun c => hnatt (c ▸ hx)
    rw [setS_other _ _ _ _ hxn]; exact h.att_bound x hx
  · rcases setS_cases hx with ⟨_, e⟩ | ⟨_, e⟩
    · exact hv _ _ e
    · exact h.closed x ep e
  · rcases setS_cases hx with ⟨_, e⟩ | ⟨_, e⟩
    · rw [hv _ _ e, Ep.default_isDefault] at hd; cases hd
    · exact h.addr x o ep e hd

theorem PInv.opened {tbl sv att} (h : PInv tbl sv att) (nm : String) (b : Ep)
    (hs : sv nm = some (false, b)) :
    PInv tbl (setS sv nm (some (true, {}))) att :=
  h.setIdle nm _ (fun ep he => by rw [hs] at he; cases he) (fun o ep he => by cases he; rfl)

theorem PInv.close {tbl sv att} (h : PInv tbl sv att) (nm : String) (o : Bool) (b : Ep)
    (hs : sv nm = some (o, b)) :
    PInv (if b.isDefault then tbl else simUnbind tbl nm b) (setS sv nm (some (false, {})))
      (att.filter (· != nm)) := by
  have hsub : ∀ e, e ∈ (if b.isDefault then tbl else simUnbind tbl nm b) →
      e ∈ tbl ∧ (b.isDefault = false → ¬(e.1 = b ∧ e.2 = nm)) := by
    intro e he
    split at he
    · exact ⟨he, by simp_all⟩
    · rw [mem_simUnbind] at he; exact ⟨he.1, fun _ => he.2⟩
  have hatt : ∀ x, x ∈ att.filter (· != nm) ↔ x ∈ att ∧ x ≠ nm := by simp
  refine ⟨?_, fun ep x hx => ?_, fun x ep hx hd ha => ?_, fun x hx ep hm => ?_, fun x hx => ?_,
    fun x ep hx => ?_, fun x o' ep hx hd => ?_, fun ep x hx => h.ports ep x (hsub _ hx).1⟩
  · split
    · exact h.nodup
    · exact keys_nodup_simUnbind _ _ _ h.nodup
  · obtain ⟨h1, h2⟩ := hsub _ hx
    obtain ⟨hs1, hs2⟩ := h.sound ep x h1
    refine ⟨?_, hs2⟩
    rw [setS_other _ _ _ _ ?_]; exact hs1
    intro c; subst c
    rw [hs] at hs1; cases hs1
    exact h2 hs2 ⟨rfl, rfl⟩
  · rcases setS_cases hx with ⟨_, e⟩ | ⟨hxn, e⟩
    · cases e
    · have := h.complete x ep e hd (fun c => ha ((hatt x).mpr ⟨c, hxn⟩))
      split
      · exact this
      · rw [mem_simUnbind]; exact ⟨this, fun c => hxn c.2⟩
  · exact h.att_none x ((hatt x).mp hx).1 ep (hsub _ hm).1
  · obtain ⟨ep, h1, h2⟩ := h.att_bound x ((hatt x).mp hx).1
    exact ⟨ep, by rw [setS_other _ _ _ _ ((hatt x).mp hx).2]; exact h1, h2⟩
  · rcases setS_cases hx with ⟨_, e⟩ | ⟨_, e⟩
    · cases e; rfl
    · exact h.closed x ep e
  · rcases setS_cases hx with ⟨_, e⟩ | ⟨_, e⟩
    · cases e; rw [Ep.default_isDefault] at hd; cases hd
    · exact h.addr x o' ep e hd

/-- `v` is the holder's view; the table after the close is written as `RV.close` of
    Lemmas/NetView.lean writes it -/
theorem PInv.close_frees {tbl sv att} (h : PInv tbl sv att) {nm : String} {ep : Ep} (hheld : (ep, nm) ∈ tbl)
    (v : Option (Bool × Ep × Option Nat)) (hv : sv nm = v.map (fun v => (v.1, v.2.1))) :
    (match v with
      | some v => if v.2.1.isDefault then tbl else simUnbind tbl nm v.2.1
      | none => tbl).lookup ep = none := by
  obtain ⟨h1, h2⟩ := h.sound ep nm hheld
  rw [hv] at h1
  obtain ⟨⟨o, b, f⟩, rfl, e⟩ := Option.map_eq_some_iff.mp h1
  cases e
  dsimp only
  rw [h2, if_neg Bool.false_ne_true]
  exact lookup_simUnbind_self _ _ _ h.nodup hheld

theorem PInv.bind {tbl sv att} (h : PInv tbl sv att) (nm : String) (b ep : Ep)
    (hs : sv nm = some (true, b)) (hb : b.isDefault = true) (hfree : tbl.lookup ep = none)
    (hnd : ep.isDefault = false) (haddr : ep.addr ≠ "0.0.0.0") (hport : 1024 ≤ ep.port) :
    PInv (tbl ++ [(ep, nm)]) (setS sv nm (some (true, ep))) att := by
  have hfree' := (lookup_none_iff tbl ep).mp hfree
  obtain ⟨hno, hnatt⟩ := h.no_entry (nm := nm) (fun e he => by rw [hs] at he; cases he; exact hb)
  have hmem : ∀ e x, (e, x) ∈ tbl ++ [(ep, nm)] ↔ (e, x) ∈ tbl ∨ (e = ep ∧ x = nm) := by simp
  refine ⟨?_, fun e x hx => ?_, fun x e hx hd ha => ?_, fun x hx e hm => ?_, fun x hx => ?_,
    fun x e hx => ?_, fun x o e hx hd => ?_, fun e x hx => ?_⟩
  · rw [List.map_append, List.nodup_append]
    refine ⟨h.nodup, by simp, ?_⟩
    intro a ha b' hb'
    simp at hb'; subst hb'
    intro hab; subst hab
    obtain ⟨⟨a1, a2⟩, hm, rfl⟩ := List.mem_map.mp ha
    exact hfree' a2 hm
  · rcases (hmem e x).mp hx with hx | ⟨rfl, rfl⟩
    · have hxn : x ≠ nm := fun c => hno e (c ▸ hx)
      rw [setS_other _ _ _ _ hxn]; exact h.sound e x hx
    · exact ⟨setS_same _ _ _, hnd⟩
  · rw [hmem]
    rcases setS_cases hx with ⟨rfl, e'⟩ | ⟨_, e'⟩
    · cases e'; exact .inr ⟨rfl, rfl⟩
    · exact .inl (h.complete x e e' hd ha)
  · rcases (hmem e x).mp hm with hm | ⟨_, rfl⟩
    · exact h.att_none x hx e hm
    · exact hnatt hx
  · have hxn : x ≠ nm := fun c => hnatt (c ▸ hx)
    rw [setS_other _ _ _ _ hxn]; exact h.att_bound x hx
  · rcases setS_cases hx with ⟨_, e'⟩ | ⟨_, e'⟩
    · cases e'
    · exact h.closed x e e'
  · rcases setS_cases hx with ⟨_, e'⟩ | ⟨_, e'⟩
    · cases e'; exact haddr
    · exact h.addr x o e e' hd
  · rcases (hmem e x).mp hx with hx | ⟨rfl, _⟩
    · exact h.ports e x hx
    · exact hport

/-- an accepted socket receives the acceptor's endpoint without an entry -/
theorem PInv.attach {tbl sv att att'} (h : PInv tbl sv att) (nm : String) (b ep : Ep)
    (hs : sv nm = some (true, b)) (hb : b.isDefault = true)
    (hnd : ep.isDefault = false) (haddr : ep.addr ≠ "0.0.0.0")
    (hatt : ∀ x, x ∈ att' ↔ x = nm ∨ x ∈ att) :
    PInv tbl (setS sv nm (some (true, ep))) att' := by
  obtain ⟨hno, _⟩ := h.no_entry (nm := nm) (fun e he => by rw [hs] at he; cases he; exact hb)
  refine ⟨h.nodup, fun e x hx => ?_, fun x e hx hd ha => ?_, fun x hx e hm => ?_, fun x hx => ?_,
    fun x e hx => ?_, fun x o e hx hd => ?_, h.ports⟩
  · have hxn : x ≠ nm := fun c => hno e (c ▸ hx)
    rw [setS_other _ _ _ _ hxn]; exact h.sound e x hx
  · rcases setS_cases hx with ⟨rfl, _⟩ | ⟨_, e'⟩
    · exact absurd ((hatt x).mpr (.inl rfl)) ha
    · exact h.complete x e e' hd (fun c => ha ((hatt x).mpr (.inr c)))
  · rcases (hatt x).mp hx with rfl | hx
    · exact hno e hm
    · exact h.att_none x hx e hm
  · by_cases hxn : x = nm
    · subst hxn; exact ⟨ep, setS_same _ _ _, hnd⟩
    · rw [setS_other _ _ _ _ hxn]
      exact h.att_bound x (((hatt x).mp hx).resolve_left hxn)
  · rcases setS_cases hx with ⟨_, e'⟩ | ⟨_, e'⟩
    · cases e'
    · exact h.closed x e e'
  · rcases setS_cases hx with ⟨_, e'⟩ | ⟨_, e'⟩
    · cases e'; exact haddr
    · exact h.addr x o e e' hd

theorem PInv.rename {tbl sv att} (h : PInv tbl sv att) (r : String → String) (hr : ∀ x, r (r x) = x) :
    PInv (tbl.map (fun e => (e.1, r e.2))) (fun x => sv (r x)) (att.map r) := by
  have hm : ∀ e x, (e, x) ∈ tbl.map (fun e => (e.1, r e.2)) ↔ (e, r x) ∈ tbl := by
    intro e x
    rw [List.mem_map]
    constructor
    · rintro ⟨⟨a, y⟩, hy, he⟩; cases he; rw [hr]; exact hy
    · intro hx; exact ⟨(e, r x), hx, by rw [hr]⟩
  have ha : ∀ x, x ∈ att.map r ↔ r x ∈ att := by
    intro x
    rw [List.mem_map]
    constructor
    · rintro ⟨y, hy, rfl⟩; rw [hr]; exact hy
    · intro hx; exact ⟨r x, hx, hr x⟩
  refine ⟨?_, fun e x hx => h.sound e (r x) ((hm e x).mp hx),
    fun x e hx hd hn => (hm e x).mpr (h.complete (r x) e hx hd (fun c => hn ((ha x).mpr c))),
    fun x hx e he => h.att_none (r x) ((ha x).mp hx) e ((hm e x).mp he),
    fun x hx => h.att_bound (r x) ((ha x).mp hx),
    fun x e hx => h.closed (r x) e hx, fun x o e hx => h.addr (r x) o e hx,
    fun e x hx => h.ports e (r x) ((hm e x).mp hx)⟩
  rw [List.map_map]; exact h.nodup

/-- move construction on the table, as `NetSt.tcpMove` writes it -/
def rebind (tbl : List (Ep × String)) (b : Ep) (src dst : String) : List (Ep × String) :=
  tbl.map (fun e => if e.1 == b && e.2 == src then (e.1, dst) else e)

def swapName (a b x : String) : String := if x = a then b else if x = b then a else x

theorem swapName_swapName (a b x : String) : swapName a b (swapName a b x) = x := by
  unfold swapName
  by_cases h1 : x = a <;> by_cases h2 : x = b <;> simp [h1, h2]

theorem setS_move {α : Type} (f : String → α) {src dst : String} (v : α) (hne : src ≠ dst) :
    setS (setS f dst (f src)) src v = setS (fun x => f (swapName src dst x)) src v := by
  funext x
  by_cases h1 : x = src
  · simp [setS, h1]
  · by_cases h2 : x = dst
    · simp [setS, swapName, h2, hne.symm]
    · simp [setS, swapName, h1, h2]

/-- Move construction is a renaming of `src` into the unused name `dst`, followed by the
    creation of a closed object under the old name. -/
theorem PInv.move {tbl sv att} (h : PInv tbl sv att) (src dst : String) (o : Bool) (b : Ep)
    (hs : sv src = some (o, b)) (hd : sv dst = none) :
    PInv (if b.isDefault then tbl else rebind tbl b src dst)
      (setS (setS sv dst (some (o, b))) src (some (false, {})))
      (att.map (fun x => if x = src then dst else x)) := by
  have hne : src ≠ dst := fun c => by rw [c, hd] at hs; cases hs
  obtain ⟨hdno, hdatt⟩ := h.no_entry (nm := dst) (fun e he => by rw [hd] at he; cases he)
  have hsrc : ∀ e, (e, src) ∈ tbl → e = b ∧ b.isDefault = false := fun e hm => by
    obtain ⟨h1, h2⟩ := h.sound e src hm
    rw [hs] at h1; cases h1; exact ⟨rfl, h2⟩
  have e1 : (if b.isDefault then tbl else rebind tbl b src dst)
      = tbl.map (fun e => (e.1, swapName src dst e.2)) := by
    have hid : ∀ a x, (a, x) ∈ tbl → x ≠ src → (a, swapName src dst x) = (a, x) := fun a x he hx => by
      have : x ≠ dst := fun c => hdno a (c ▸ he)
      simp [swapName, hx, this]
    split
    · rename_i hb
      refine ((List.map_congr_left fun ⟨a, x⟩ he => hid a x he fun c => ?_).trans (List.map_id tbl)).symm
      rw [(hsrc a (c ▸ he)).2] at hb; cases hb
    · refine List.map_congr_left fun ⟨a, x⟩ he => ?_
      by_cases hx : x = src
      · subst hx; obtain ⟨rfl, _⟩ := hsrc a he; simp [swapName]
      · simp [hx, hid a x he hx]
  have e2 : att.map (fun x => if x = src then dst else x) = att.map (swapName src dst) := by
    refine List.map_congr_left fun x hx => ?_
    have : x ≠ dst := fun c => hdatt (c ▸ hx)
    simp [swapName, this]
  rw [e1, e2, ← hs, setS_move sv _ hne]
  exact (h.rename _ (swapName_swapName src dst)).setIdle src _
    (fun ep he => by simp [swapName, hd] at he) (fun _ _ he => by cases he; rfl)

/-- `ft` : forwarder id ↦ the socket it reaches (`none`: detached or not allocated);
    `flen` : number of forwarders allocated so far; `su` / `st` : (is open, forwarder id held)
    of the live UDP / TCP objects. -/
structure FInv (ft : Nat → Option String) (flen : Nat)
    (su st : String → Option (Bool × Option Nat)) : Prop where
  lt    : ∀ g x, ft g = some x → g < flen
  fu    : ∀ x o f, su x = some (o, some f) → ft f = some x
  ftc   : ∀ x o f, st x = some (o, some f) → ft f = some x
  back  : ∀ f x, ft f = some x → (∃ o, su x = some (o, some f)) ∨ (∃ o, st x = some (o, some f))
  openU : ∀ x o f, su x = some (o, f) → o = f.isSome
  openT : ∀ x o f, st x = some (o, f) → o = f.isSome
  disj  : ∀ x, su x ≠ none → st x = none

theorem FInv.init : FInv (fun _ => none) 0 (fun _ => none) (fun _ => none) := by
  constructor <;> simp

theorem FInv.swap {ft flen su st} (h : FInv ft flen su st) : FInv ft flen st su := by
  obtain ⟨h1, h2, h3, h4, h5, h6, h7⟩ := h
  constructor
  · exact h1
  · exact h3
  · exact h2
  · intro f x hx; exact (h4 f x hx).symm
  · exact h6
  · exact h5
  · intro x hx
    cases hu : su x with
    | none => rfl
    | some v => exact absurd (h7 x (by simp [hu])) hx

def setFo {α : Type} (ft : Nat → α) (f : Option Nat) (v : α) : Nat → α :=
  match f with
  | some g => setF ft g v
  | none => ft

theorem setFo_apply {α : Type} (ft : Nat → α) (f : Option Nat) (v : α) (g : Nat) :
    setFo ft f v g = if f = some g then v else ft g := by
  cases f with
  | none => simp [setFo]
  | some f0 => by_cases hg : g = f0 <;> simp [setFo, setF, hg, eq_comm]

theorem setF_cases {α : Type} {f : Nat → α} {i j : Nat} {v w : α} (h : setF f i v j = w) :
    (j = i ∧ v = w) ∨ (j ≠ i ∧ f j = w) := by
  by_cases hj : j = i
  · subst hj; rw [setF_same] at h; exact .inl ⟨rfl, h⟩
  · rw [setF_other _ _ _ _ hj] at h; exact .inr ⟨hj, h⟩

theorem FInv.held_iff {ft flen su st} (h : FInv ft flen su st) {x : String} {o : Bool} {f : Option Nat}
    (hs : su x = some (o, f)) (g : Nat) : ft g = some x ↔ f = some g := by
  constructor
  · intro hg
    rcases h.back g x hg with ⟨o', e⟩ | ⟨o', e⟩
    · rw [hs] at e; cases e; rfl
    · rw [h.disj x (by rw [hs]; simp)] at e; cases e
  · rintro rfl; exact h.fu x o g hs

theorem FInv.setIdle {ft flen su st} (h : FInv ft flen su st) (x : String) (v : Option (Bool × Option Nat))
    (hs : ∀ o f, su x = some (o, f) → f = none) (hv : ∀ o f, v = some (o, f) → o = false ∧ f = none)
    (hst : v ≠ none → st x = none) : FInv ft flen (setS su x v) st := by
  refine ⟨h.lt, fun y o f hy => ?_, h.ftc, fun f y hy => ?_, fun y o f hy => ?_, h.openT, fun y hy => ?_⟩
  · rcases setS_cases hy with ⟨_, e⟩ | ⟨_, e⟩
    · cases (hv _ _ e).2
    · exact h.fu y o f e
  · rcases h.back f y hy with ⟨o, ho⟩ | r
    · have hyx : y ≠ x := fun c => by subst c; cases hs _ _ ho
      exact .inl ⟨o, by rw [setS_other _ _ _ _ hyx]; exact ho⟩
    · exact .inr r
  · rcases setS_cases hy with ⟨_, e⟩ | ⟨_, e⟩
    · obtain ⟨rfl, rfl⟩ := hv _ _ e; rfl
    · exact h.openU y o f e
  · rcases setS_cases (w := setS su x v y) rfl with ⟨rfl, e⟩ | ⟨_, e⟩
    · exact hst (e ▸ hy)
    · exact h.disj y (e ▸ hy)

theorem FInv.close {ft flen su st} (h : FInv ft flen su st) (x : String) (o : Bool) (f : Option Nat)
    (hs : su x = some (o, f)) :
    FInv (setFo ft f none) flen (setS su x (some (false, none))) st := by
  have hget : ∀ g y, setFo ft f none g = some y ↔ ft g = some y ∧ y ≠ x := by
    intro g y
    rw [setFo_apply]
    by_cases hg : f = some g
    · rw [if_pos hg]
      have hx := (h.held_iff hs g).mpr hg
      exact ⟨nofun, fun ⟨hy, hne⟩ => absurd (Option.some.inj (hy.symm.trans hx)) hne⟩
    · rw [if_neg hg]
      exact ⟨fun hy => ⟨hy, fun c => hg ((h.held_iff hs g).mp (c ▸ hy))⟩, fun hy => hy.1⟩
  refine ⟨fun g y hy => h.lt g y ((hget g y).mp hy).1, fun y o' g hy => ?_, fun y o' g hy => ?_,
    fun g y hy => ?_, fun y o' g hy => ?_, h.openT, fun y hy => ?_⟩
  · rcases setS_cases hy with ⟨_, e⟩ | ⟨hyx, e⟩
    · cases e
    · exact (hget g y).mpr ⟨h.fu y o' g e, hyx⟩
  · refine (hget g y).mpr ⟨h.ftc y o' g hy, fun c => ?_⟩
    rw [c, h.disj x (by rw [hs]; simp)] at hy; cases hy
  · obtain ⟨hy, hyx⟩ := (hget g y).mp hy
    rcases h.back g y hy with ⟨o', e⟩ | r
    · exact .inl ⟨o', by rw [setS_other _ _ _ _ hyx]; exact e⟩
    · exact .inr r
  · rcases setS_cases hy with ⟨_, e⟩ | ⟨_, e⟩
    · cases e; rfl
    · exact h.openU y o' g e
  · by_cases c : y = x
    · rw [c]; exact h.disj x (by rw [hs]; simp)
    · rw [setS_other _ _ _ _ c] at hy; exact h.disj y hy

theorem FInv.opened {ft flen su st} (h : FInv ft flen su st) (x : String)
    (hs : su x = some (false, none)) :
    FInv (setF ft flen (some x)) (flen + 1) (setS su x (some (true, some flen))) st := by
  have hold : ∀ g y, ft g = some y → setF ft flen (some x) g = some y := fun g y hy => by
    have hg : g ≠ flen := Nat.ne_of_lt (h.lt g y hy)
    rw [setF_other _ _ _ _ hg]; exact hy
  refine ⟨fun g y hy => ?_, fun y o g hy => ?_, fun y o g hy => hold g y (h.ftc y o g hy),
    fun g y hy => ?_, fun y o g hy => ?_, h.openT, fun y hy => ?_⟩
  · rcases setF_cases hy with ⟨rfl, _⟩ | ⟨_, e⟩
    · exact Nat.lt_succ_self _
    · exact Nat.lt_succ_of_lt (h.lt g y e)
  · rcases setS_cases hy with ⟨rfl, e⟩ | ⟨_, e⟩
    · cases e; exact setF_same _ _ _
    · exact hold g y (h.fu y o g e)
  · rcases setF_cases hy with ⟨rfl, e⟩ | ⟨_, e⟩
    · cases e; exact .inl ⟨true, setS_same _ _ _⟩
    · rcases h.back g y e with ⟨o, e'⟩ | r
      · have hyx : y ≠ x := fun c => by rw [c, hs] at e'; cases e'
        exact .inl ⟨o, by rw [setS_other _ _ _ _ hyx]; exact e'⟩
      · exact .inr r
  · rcases setS_cases hy with ⟨_, e⟩ | ⟨_, e⟩
    · cases e; rfl
    · exact h.openU y o g e
  · by_cases c : y = x
    · rw [c]; exact h.disj x (by rw [hs]; simp)
    · rw [setS_other _ _ _ _ c] at hy; exact h.disj y hy

theorem FInv.rename {ft flen su st} (h : FInv ft flen su st) (r : String → String) (hr : ∀ x, r (r x) = x) :
    FInv (fun g => (ft g).map r) flen (fun x => su (r x)) (fun x => st (r x)) := by
  have hm : ∀ g y, (ft g).map r = some y ↔ ft g = some (r y) := by
    intro g y
    cases ft g with
    | none => simp
    | some z => exact ⟨fun e => by cases e; rw [hr], fun e => by cases e; simp [hr]⟩
  exact ⟨fun g y hy => h.lt g _ ((hm g y).mp hy), fun y o f hy => (hm f y).mpr (h.fu _ o f hy),
    fun y o f hy => (hm f y).mpr (h.ftc _ o f hy), fun f y hy => h.back f _ ((hm f y).mp hy),
    fun y => h.openU _, fun y => h.openT _, fun y => h.disj _⟩

theorem FInv.move {ft flen su st} (h : FInv ft flen su st) (src dst : String) (o : Bool) (f : Option Nat)
    (hs : su src = some (o, f)) (hd : su dst = none) (hdt : st dst = none) :
    FInv (setFo ft f (some dst)) flen
      (setS (setS su dst (some (o, f))) src (some (false, none))) st := by
  have hne : src ≠ dst := fun c => by rw [c, hd] at hs; cases hs
  have hst : st src = none := h.disj src (by rw [hs]; simp)
  have e1 : setFo ft f (some dst) = fun g => (ft g).map (swapName src dst) := by
    funext g
    rw [setFo_apply]
    by_cases hg : f = some g
    · simp [hg, (h.held_iff hs g).mpr hg, swapName]
    · rw [if_neg hg]
      cases hy : ft g with
      | none => rfl
      | some y =>
        have h1 : y ≠ dst := fun c => by
          rcases h.back g y hy with ⟨o', e⟩ | ⟨o', e⟩ <;> rw [c] at e
          · rw [hd] at e; cases e
          · rw [hdt] at e; cases e
        have h2 : y ≠ src := fun c => hg ((h.held_iff hs g).mp (c ▸ hy))
        simp [swapName, h1, h2]
  have e3 : (fun x => st (swapName src dst x)) = st := by
    funext x
    by_cases h1 : x = src
    · simp [swapName, h1, hst, hdt]
    · by_cases h2 : x = dst
      · simp [swapName, h2, hne.symm, hst, hdt]
      · simp [swapName, h1, h2]
  have hr := h.rename _ (swapName_swapName src dst)
  rw [e3] at hr
  rw [e1, ← hs, setS_move su _ hne]
  exact hr.setIdle src _ (fun o' f' e => by simp [swapName, hd] at e) (fun _ _ e => by cases e; exact ⟨rfl, rfl⟩)
    (fun _ => hst)

theorem FInv.congr {ft ft' flen su su' st st'} (h : FInv ft flen su st)
    (h1 : ft' = ft) (h2 : su' = su) (h3 : st' = st) : FInv ft' flen su' st' := by
  subst h1 h2 h3; exact h

end SimVerif
