/-
  SimVerif.Lemmas.NetView — the registry as ONE protocol sees it. `RV` bundles what `PInv` and
  `FInv` read of a protocol (its endpoint table, the views of its objects, its accepted-set) with
  what both protocols share (forwarder table, ephemeral counter); `RV.Ok` is the invariant on it,
  with the other protocol's (is open, forwarder) function `st` as a parameter no operation touches.
  The operations (`close`, `opened`, `bind`, `attach`, `move`, point updates of idle objects) are
  functions `RV → RV` written as the code writes them; `ROp` is their closure under composition,
  and `ROp.ok` the one preservation theorem. Lemmas/NetUdp.lean and NetTcp.lean show each mechanism
  function to act as such an operation on `NetSt.rvU` resp. `NetSt.rvT` and to leave the other
  protocol alone (`RStepU`, `RStepT`).
-/
import SimVerif.Lemmas.NetInv

namespace SimVerif

@[ext] structure RV where
  tbl  : List (Ep × String)
  v    : String → Option View
  att  : List String
  ft   : Nat → Option String
  flen : Nat
  port : Nat

/-- `rebind_udp_socket`: whatever entry the endpoint has is re-pointed -/
def rebindAll (tbl : List (Ep × String)) (b : Ep) (dst : String) : List (Ep × String) :=
  tbl.map (fun e => if e.1 == b then (e.1, dst) else e)

theorem rebindAll_eq_rebind (tbl : List (Ep × String)) (b : Ep) (src dst : String)
    (h : ∀ x, (b, x) ∈ tbl → x = src) : rebindAll tbl b dst = rebind tbl b src dst := by
  unfold rebindAll rebind
  apply List.map_congr_left
  intro e he
  obtain ⟨e1, e2⟩ := e
  by_cases hb : e1 = b
  · subst hb
    have := h e2 he
    subst this
    simp
  · simp [hb]

namespace RV

structure Ok (r : RV) (st : String → Option (Bool × Option Nat)) : Prop where
  p    : PInv r.tbl (fun x => (r.v x).map View.bnd) r.att
  f    : FInv r.ft r.flen (fun x => (r.v x).map View.fw) st
  port : 2000 ≤ r.port ∧ r.port ≤ 65534

def set (r : RV) (x : String) (w : Option View) : RV := { r with v := setS r.v x w }

def close (r : RV) (x : String) : RV where
  tbl := match r.v x with
    | some w => if w.2.1.isDefault then r.tbl else simUnbind r.tbl x w.2.1
    | none => r.tbl
  v := setS r.v x ((r.v x).map fun _ => View.idle)
  att := r.att.filter (· != x)
  ft := setFo r.ft ((r.v x).bind (·.2.2)) none
  flen := r.flen
  port := r.port

/-- the part of `open` after the `close`: a fresh forwarder -/
def opened (r : RV) (x : String) : RV where
  tbl := r.tbl
  v := setS r.v x ((r.v x).map fun w => (true, w.2.1, some r.flen))
  att := r.att
  ft := fun g => if (r.v x).isSome ∧ g = r.flen then some x else r.ft g
  flen := r.flen + (if (r.v x).isSome then 1 else 0)
  port := r.port

/-- the registry half of `bind`, the address already resolved to `ep1` -/
def bind (r : RV) (x : String) (ep1 : Ep) : RV :=
  { r with tbl := (simBind r.tbl r.port x ep1).1, port := (simBind r.tbl r.port x ep1).2.1,
           v := match (simBind r.tbl r.port x ep1).2.2 with
             | .ok ep2 => setS r.v x ((r.v x).map fun w => (w.1, ep2, w.2.2))
             | .error _ => r.v }

/-- an accepted socket takes the acceptor's endpoint, without an entry -/
def attach (r : RV) (x : String) (ep : Ep) : RV :=
  { r with v := setS r.v x ((r.v x).map fun w => (w.1, ep, w.2.2)), att := x :: r.att }

/-- `w`: the view `src` had -/
def move (r : RV) (src dst : String) (w : View) : RV where
  tbl := if w.2.1.isDefault then r.tbl else rebind r.tbl w.2.1 src dst
  v := setS (setS r.v dst (some w)) src (some View.idle)
  att := r.att.map fun x => if x = src then dst else x
  ft := fun g => if w.2.2 = some g ∧ g < r.flen then some dst else r.ft g
  flen := r.flen
  port := r.port

/-- `close` erases at most entries of the object it closes -/
theorem mem_close_tbl {r : RV} {x other : String} {ep : Ep} (h : (ep, other) ∈ r.tbl) (hne : other ≠ x) :
    (ep, other) ∈ (r.close x).tbl := by
  show (ep, other) ∈ match r.v x with
    | some w => if w.2.1.isDefault then r.tbl else simUnbind r.tbl x w.2.1
    | none => r.tbl
  cases r.v x with
  | none => exact h
  | some w =>
    dsimp only
    split
    · exact h
    · exact (mem_simUnbind ..).mpr ⟨h, fun hc => hne hc.2⟩

theorem close_none {r : RV} {x : String} (hv : r.v x = none) :
    r.close x = { r with att := r.att.filter (· != x) } := by
  simp only [close, hv, Option.map_none, Option.bind_none, setS_eq_self hv]; rfl

theorem close_some {r : RV} {x : String} {o : Bool} {b : Ep} {f : Option Nat} (hv : r.v x = some (o, b, f)) :
    r.close x = ⟨if b.isDefault then r.tbl else simUnbind r.tbl x b, setS r.v x (some View.idle),
      r.att.filter (· != x), setFo r.ft f none, r.flen, r.port⟩ := by
  simp only [close, hv]; rfl

theorem opened_none {r : RV} {x : String} (hv : r.v x = none) : r.opened x = r := by
  simp only [opened, hv, Option.map_none, setS_eq_self hv, Option.isSome_none, Bool.false_eq_true, false_and,
    if_false]; rfl

theorem opened_some {r : RV} {x : String} {w : View} (hv : r.v x = some w) :
    r.opened x = { r with v := setS r.v x (some (true, w.2.1, some r.flen)), ft := setF r.ft r.flen (some x),
                          flen := r.flen + 1 } := by
  simp only [opened, hv, Option.isSome_some, true_and, if_true]; rfl

theorem bind_error {r : RV} {x : String} {ep1 : Ep} {tbl : List (Ep × String)} {np : Nat} {e : Ec}
    (h : simBind r.tbl r.port x ep1 = (tbl, np, .error e)) : r.bind x ep1 = { r with tbl := tbl, port := np } := by
  unfold bind; rw [h]

theorem bind_ok {r : RV} {x : String} {ep1 ep2 : Ep} {tbl : List (Ep × String)} {np : Nat}
    (h : simBind r.tbl r.port x ep1 = (tbl, np, .ok ep2)) :
    r.bind x ep1 = { r with tbl := tbl, port := np, v := setS r.v x ((r.v x).map fun w => (w.1, ep2, w.2.2)) } := by
  unfold bind; rw [h]

theorem close_idle (r : RV) (x : String) : (r.close x).v x = none ∨ (r.close x).v x = some View.idle := by
  show setS r.v x _ x = none ∨ setS r.v x _ x = _
  rw [setS_same]; cases r.v x <;> simp

theorem reopened_v {r : RV} {x : String} {w : View} (hv : r.v x = some w) :
    ((r.close x).opened x).v x = some (true, {}, some r.flen) := by
  show setS _ x (((r.close x).v x).map _) x = _
  rw [setS_same, show (r.close x).v x = setS r.v x _ x from rfl, setS_same, hv]; rfl

theorem setS_fw_same {v : String → Option View} {x : String} {o : Bool} {b b' : Ep} {f : Option Nat}
    (hv : v x = some (o, b, f)) :
    setS (fun y => (v y).map View.fw) x ((some (o, b', f) : Option View).map View.fw) = fun y => (v y).map View.fw :=
  setS_eq_self (by rw [hv]; rfl)

/-- the invariant after a change of the view at `x` only: what `PInv` and `FInv` have to say -/
theorem Ok.upd {r r' : RV} {st} {x : String} {w : Option View} (hv : r'.v = setS r.v x w)
    (p : PInv r'.tbl (setS (fun y => (r.v y).map View.bnd) x (w.map View.bnd)) r'.att)
    (f : FInv r'.ft r'.flen (setS (fun y => (r.v y).map View.fw) x (w.map View.fw)) st)
    (port : 2000 ≤ r'.port ∧ r'.port ≤ 65534) : r'.Ok st :=
  ⟨by rw [hv, setS_map]; exact p, by rw [hv, setS_map]; exact f, port⟩

theorem Ok.idle {r : RV} {st} (h : r.Ok st) {x : String} {w : Option View}
    (hs : r.v x = none ∨ r.v x = some View.idle) (hw : w = none ∨ w = some View.idle ∧ st x = none) :
    (r.set x w).Ok st := by
  refine .upd rfl (h.p.setIdle x _ (fun ep he => ?_) (fun o ep he => ?_))
    (h.f.setIdle x _ (fun o f he => ?_) (fun o f he => ?_) (fun hn => ?_)) h.port
  · rcases hs with e | e <;> rw [e] at he <;> cases he
  · rcases hw with e | ⟨e, _⟩ <;> rw [e] at he <;> cases he; rfl
  · rcases hs with e | e <;> rw [e] at he <;> cases he; rfl
  · rcases hw with e | ⟨e, _⟩ <;> rw [e] at he <;> cases he; exact ⟨rfl, rfl⟩
  · rcases hw with e | ⟨_, e⟩
    · rw [e] at hn; exact absurd rfl hn
    · exact e

/-- `addr == "0.0.0.0"` is the test `async_connect` makes before its implicit bind -/
theorem Ok.unbound {r : RV} {st} (h : r.Ok st) {x : String} {o : Bool} {b : Ep} {f : Option Nat}
    (hv : r.v x = some (o, b, f)) (ha : b.addr = "0.0.0.0") : b.isDefault = true := by
  cases hd : b.isDefault with
  | true => rfl
  | false => exact absurd ha (h.p.addr x o b (by rw [hv]; rfl) hd)

theorem Ok.not_att {r : RV} {st} (h : r.Ok st) {x : String} (hv : ∀ ep f, r.v x ≠ some (true, ep, f)) :
    r.att.filter (· != x) = r.att := by
  refine List.filter_eq_self.mpr fun y hy => ?_
  simp only [bne_iff_ne, ne_eq]
  rintro rfl
  obtain ⟨ep, h1, _⟩ := h.p.att_bound y hy
  obtain ⟨⟨o, b, f⟩, e, e2⟩ := Option.map_eq_some_iff.mp h1
  cases e2
  exact hv _ _ e

theorem Ok.released {r r' : RV} {st} {x : String} (h : r'.Ok st)
    (hrel : r' = r.close x ∨ r' = (r.close x).set x none ∨ r' = (r.close x).opened x) (ep : Ep) :
    (ep, x) ∉ r'.tbl := by
  refine (h.p.no_entry fun ep he => ?_).1 ep
  obtain ⟨⟨o, b, f⟩, hv, e⟩ := Option.map_eq_some_iff.mp he
  cases e
  have hc := close_idle r x
  rcases hrel with rfl | rfl | rfl
  · rcases hc with c | c <;> rw [c] at hv <;> cases hv
  · rw [show ((r.close x).set x none).v x = setS _ x none x from rfl, setS_same] at hv; cases hv
  · rw [show ((r.close x).opened x).v x = setS _ x _ x from rfl, setS_same] at hv
    rcases hc with c | c <;> rw [c] at hv <;> cases hv; rfl

theorem reopen_ft (r : RV) (x : String) {o : Bool} {b : Ep} {f : Option Nat} (hv : r.v x = some (o, b, f)) (g : Nat) :
    ((r.close x).opened x).ft g = if g = r.flen then some x else if f = some g then none else r.ft g := by
  show (if ((r.close x).v x).isSome ∧ g = r.flen then some x else setFo r.ft ((r.v x).bind (·.2.2)) none g) = _
  rw [show (r.close x).v x = _ from setS_same .., hv, setFo_apply]
  simp

theorem closed_ft {r r' : RV} {x : String} {w : View} {f : Nat}
    (hrel : r' = r.close x ∨ r' = (r.close x).set x none ∨ r' = (r.close x).opened x)
    (hv : r.v x = some w) (hf : w.2.2 = some f) (hl : f < r.flen) : r'.ft f = none ∧ f < r'.flen := by
  have hc : (r.close x).ft f = none := by
    show setFo r.ft ((r.v x).bind (·.2.2)) none f = none
    rw [setFo_apply, hv]; exact if_pos hf
  rcases hrel with rfl | rfl | rfl
  · exact ⟨hc, hl⟩
  · exact ⟨hc, hl⟩
  · exact ⟨(if_neg fun e => Nat.ne_of_lt hl e.2).trans hc, Nat.lt_of_lt_of_le hl (Nat.le_add_right _ _)⟩

theorem Ok.close {r : RV} {st} (h : r.Ok st) (x : String) : (r.close x).Ok st := by
  cases hv : r.v x with
  | none =>
    rw [close_none hv, h.not_att (x := x) (by simp [hv])]; exact h
  | some w =>
    obtain ⟨o, b, f⟩ := w
    rw [close_some hv]
    exact .upd rfl (h.p.close x o b (by rw [hv]; rfl)) (h.f.close x o f (by rw [hv]; rfl)) h.port

theorem Ok.opened {r : RV} {st} (h : r.Ok st) {x : String} (hs : r.v x = none ∨ r.v x = some View.idle) :
    (r.opened x).Ok st := by
  rcases hs with hv | hv
  · rw [opened_none hv]; exact h
  · rw [opened_some hv]
    exact .upd rfl (h.p.opened x {} (by rw [hv]; rfl)) (h.f.opened x (by rw [hv]; rfl)) h.port

theorem Ok.bind {r : RV} {st} (h : r.Ok st) {c : NetCfg} (hc : c.WF) {x node : String} {b ep1 : Ep}
    {f : Option Nat} (hv : r.v x = some (true, b, f)) (hbd : b.isDefault = true)
    (hip : ep1.addr ∈ c.ipsOf node) : (r.bind x ep1).Ok st := by
  have hcnt := (simBind_bumped r.tbl r.port x ep1).range h.port
  rcases hsb : simBind r.tbl r.port x ep1 with ⟨tbl', np, res⟩
  rw [hsb] at hcnt
  cases res with
  | error e => rw [bind_error hsb]; cases simBind_error _ _ _ _ _ _ _ hsb; exact ⟨h.p, h.f, hcnt⟩
  | ok ep2 =>
    rw [bind_ok hsb, hv]
    obtain ⟨rfl, hfree, haddr, hp1, hp0⟩ := simBind_ok _ _ _ _ _ _ _ hsb
    have hne : ep2.addr ≠ "0.0.0.0" := by
      rw [haddr]; intro e; exact (hc node).1 (e ▸ hip)
    have hport : 1024 ≤ ep2.port := by
      by_cases h0 : ep1.port = 0
      · have := (hp0 h0).1; have := h.port.1; omega
      · obtain ⟨he, hge, _⟩ := hp1 h0; rw [he]; exact hge
    exact .upd rfl (h.p.bind x b ep2 (by rw [hv]; rfl) hbd hfree (by simp [Ep.isDefault, hne]) hne hport)
      (by rw [Option.map_some, setS_fw_same hv]; exact h.f) hcnt

theorem Ok.attach {r : RV} {st} (h : r.Ok st) {x : String} {b ep : Ep} {f : Option Nat}
    (hv : r.v x = some (true, b, f)) (hb : b.isDefault = true) (hnd : ep.isDefault = false)
    (haddr : ep.addr ≠ "0.0.0.0") : (r.attach x ep).Ok st := by
  refine .upd rfl ?_ ?_ h.port <;> rw [hv]
  · exact h.p.attach x b ep (by rw [hv]; rfl) hb hnd haddr (fun y => List.mem_cons)
  · rw [Option.map_some, setS_fw_same hv]; exact h.f

theorem Ok.move {r : RV} {st} (h : r.Ok st) {src dst : String} {w : View}
    (hv : r.v src = some w) (hd : r.v dst = none) (hst : st dst = none) : (r.move src dst w).Ok st := by
  obtain ⟨o, b, f⟩ := w
  have hsf : (r.v src).map View.fw = some (o, f) := by rw [hv]; rfl
  refine ⟨?_, ?_, h.port⟩
  · show PInv _ (fun y => (setS (setS r.v dst _) src _ y).map View.bnd) _
    rw [setS_map, setS_map]
    exact h.p.move src dst o b (by rw [hv]; rfl) (by rw [hd]; rfl)
  · show FInv _ _ (fun y => (setS (setS r.v dst _) src _ y).map View.fw) st
    have eft : (r.move src dst (o, b, f)).ft = setFo r.ft f (some dst) := by
      funext g
      show (if f = some g ∧ g < r.flen then some dst else r.ft g) = _
      rw [setFo_apply]
      by_cases hg : f = some g
      · rw [if_pos hg, if_pos ⟨hg, h.f.lt g src (h.f.fu src o g (hg ▸ hsf))⟩]
      · rw [if_neg hg, if_neg (fun c => hg c.1)]
    rw [eft, setS_map, setS_map]
    exact h.f.move src dst o f hsf (by rw [hd]; rfl) hst

end RV

/-- What a sequence of calls on one protocol's objects does to the registry view; the guards are
    what the code tests. -/
inductive ROp (c : NetCfg) (st : String → Option (Bool × Option Nat)) : RV → RV → Prop
  | refl {r} : ROp c st r r
  | trans {r r' r''} : ROp c st r r' → ROp c st r' r'' → ROp c st r r''
  | idle {r x w} : (r.v x = none ∨ r.v x = some View.idle) → (w = none ∨ w = some View.idle ∧ st x = none) →
      ROp c st r (r.set x w)
  | close {r} x : ROp c st r (r.close x)
  | opened {r x} : (r.v x = none ∨ r.v x = some View.idle) → ROp c st r (r.opened x)
  | bind {r x node bd ep1 f} : r.v x = some (true, bd, f) → bd.isDefault = true → ep1.addr ∈ c.ipsOf node →
      ROp c st r (r.bind x ep1)
  | attach {r x bd ep f} : r.v x = some (true, bd, f) → bd.isDefault = true → ep.isDefault = false →
      ep.addr ≠ "0.0.0.0" → ROp c st r (r.attach x ep)
  | move {r src dst w} : r.v src = some w → r.v dst = none → st dst = none → ROp c st r (r.move src dst w)

theorem ROp.cast {c : NetCfg} {st r r1 r2} (h : ROp c st r r1) (e : r2 = r1) : ROp c st r r2 := e ▸ h

theorem ROp.ok {c : NetCfg} {st r r'} (hc : c.WF) (h : ROp c st r r') (hr : r.Ok st) : r'.Ok st := by
  induction h with
  | refl => exact hr
  | trans _ _ ih1 ih2 => exact ih2 (ih1 hr)
  | idle hs hw => exact hr.idle hs hw
  | close x => exact hr.close x
  | opened hs => exact hr.opened hs
  | bind hv hb hip => exact hr.bind hc hv hb hip
  | attach hv hb hnd ha => exact hr.attach hv hb hnd ha
  | move hv hd hst => exact hr.move hv hd hst

/-- move construction re-points only the forwarder its source holds, so a forwarder that points
    nowhere is never re-attached -/
theorem ROp.detached {c : NetCfg} {st r r'} (hc : c.WF) (h : ROp c st r r') (hr : r.Ok st) {g : Nat}
    (hn : r.ft g = none) (hl : g < r.flen) : r'.ft g = none ∧ g < r'.flen := by
  induction h with
  | trans h1 _ ih1 ih2 => exact ih2 (h1.ok hc hr) (ih1 hr hn hl).1 (ih1 hr hn hl).2
  | @close r x =>
    refine ⟨?_, hl⟩
    show setFo r.ft _ none g = none
    rw [setFo_apply]; split
    · rfl
    · exact hn
  | @opened r x _ =>
    refine ⟨?_, Nat.lt_of_lt_of_le hl (Nat.le_add_right _ _)⟩
    show (if (r.v x).isSome ∧ g = r.flen then some x else r.ft g) = none
    rw [if_neg fun e => Nat.ne_of_lt hl e.2]; exact hn
  | @move r src _ w hv =>
    refine ⟨?_, hl⟩
    show (if w.2.2 = some g ∧ g < r.flen then some _ else r.ft g) = none
    rw [if_neg fun e => ?_]; exact hn
    have := hr.f.fu src w.1 g (by rw [hv, ← e.1]; rfl)
    rw [hn] at this; cases this
  | _ => exact ⟨hn, hl⟩

def NetSt.rvU (n : NetSt) : RV := ⟨n.reg.udp, n.uv, [], n.fwdTarget, n.fwds.length, n.reg.nextPort⟩
def NetSt.rvT (n : NetSt) (att : List String) : RV :=
  ⟨n.reg.tcp, n.tv, att, n.fwdTarget, n.fwds.length, n.reg.nextPort⟩

/-- `h` as in `fwdTarget_setFwdOpt` -/
theorem fwds_detach {n n' : NetSt} {fo : Option Nat}
    (h : n'.fwds = match fo with | some f => (n.setFwd f none).fwds | none => n.fwds) :
    n'.fwdTarget = setFo n.fwdTarget fo none ∧ n'.fwds.length = n.fwds.length :=
  ⟨funext fun g => (fwdTarget_detach h g).trans (setFo_apply _ _ _ g).symm, (fwdTarget_setFwdOpt h).1⟩

theorem fwdTarget_newFwd' (n : NetSt) (name : String) :
    (n.newFwd name).1.fwdTarget = setF n.fwdTarget n.fwds.length (some name) :=
  funext (fwdTarget_newFwd n name)

structure UdpUntouched (n n' : NetSt) : Prop where
  udps : n'.udps = n.udps
  regU : n'.reg.udp = n.reg.udp
  cfg  : n'.cfg = n.cfg

structure TcpUntouched (n n' : NetSt) : Prop where
  tcps : n'.tcps = n.tcps
  regT : n'.reg.tcp = n.reg.tcp
  cfg  : n'.cfg = n.cfg

theorem UdpUntouched.refl (n : NetSt) : UdpUntouched n n := ⟨rfl, rfl, rfl⟩
theorem UdpUntouched.trans {a b c : NetSt} (h1 : UdpUntouched a b) (h2 : UdpUntouched b c) : UdpUntouched a c :=
  ⟨h2.udps.trans h1.udps, h2.regU.trans h1.regU, h2.cfg.trans h1.cfg⟩
theorem UdpUntouched.udp? {n n' : NetSt} (h : UdpUntouched n n') (x : String) : n'.udp? x = n.udp? x := by
  unfold NetSt.udp?; rw [h.udps]
theorem UdpUntouched.uf {n n' : NetSt} (h : UdpUntouched n n') : n'.uf = n.uf := by
  funext x; unfold NetSt.uf; rw [h.udp?]
theorem UdpUntouched.ub {n n' : NetSt} (h : UdpUntouched n n') : n'.ub = n.ub := by
  funext x; unfold NetSt.ub; rw [h.udp?]

theorem TcpUntouched.refl (n : NetSt) : TcpUntouched n n := ⟨rfl, rfl, rfl⟩
theorem TcpUntouched.trans {a b c : NetSt} (h1 : TcpUntouched a b) (h2 : TcpUntouched b c) : TcpUntouched a c :=
  ⟨h2.tcps.trans h1.tcps, h2.regT.trans h1.regT, h2.cfg.trans h1.cfg⟩
theorem TcpUntouched.tcp? {n n' : NetSt} (h : TcpUntouched n n') (x : String) : n'.tcp? x = n.tcp? x := by
  unfold NetSt.tcp?; rw [h.tcps]
theorem TcpUntouched.tf {n n' : NetSt} (h : TcpUntouched n n') : n'.tf = n.tf := by
  funext x; unfold NetSt.tf; rw [h.tcp?]
theorem TcpUntouched.tb {n n' : NetSt} (h : TcpUntouched n n') : n'.tb = n.tb := by
  funext x; unfold NetSt.tb; rw [h.tcp?]

/-- A call on TCP objects: the UDP half is untouched; the counter stays unless a `bind` may be part
    of it (`b`); on a state that satisfies the invariant the TCP view changes by `ROp` (the
    accepted-set goes from `att` to `att'`). -/
structure RStepT (b : Bool) (n : NetSt) (att : List String) (n' : NetSt) (att' : List String) : Prop where
  same : UdpUntouched n n'
  port : b = false → n'.reg.nextPort = n.reg.nextPort
  op   : n.cfg.WF → (n.rvT att).Ok n.uf → ROp n.cfg n.uf (n.rvT att) (n'.rvT att')

structure RStepU (b : Bool) (n n' : NetSt) : Prop where
  same : TcpUntouched n n'
  port : b = false → n'.reg.nextPort = n.reg.nextPort
  op   : n.cfg.WF → n.rvU.Ok n.tf → ROp n.cfg n.tf n.rvU n'.rvU

theorem RStepT.refl {b : Bool} (n : NetSt) (att : List String) : RStepT b n att n att :=
  ⟨.refl n, fun _ => rfl, fun _ _ => .refl⟩

theorem RStepT.trans {b : Bool} {n m k : NetSt} {a a' a'' : List String} (h1 : RStepT b n a m a')
    (h2 : RStepT b m a' k a'') : RStepT b n a k a'' := by
  refine ⟨h1.same.trans h2.same, fun hb => (h2.port hb).trans (h1.port hb), fun hc hr => (h1.op hc hr).trans ?_⟩
  have := h2.op (h1.same.cfg ▸ hc) (h1.same.uf ▸ (h1.op hc hr).ok hc hr)
  rwa [h1.same.cfg, h1.same.uf] at this

theorem RStepU.refl {b : Bool} (n : NetSt) : RStepU b n n := ⟨.refl n, fun _ => rfl, fun _ _ => .refl⟩

theorem RStepU.trans {b : Bool} {n m k : NetSt} (h1 : RStepU b n m) (h2 : RStepU b m k) : RStepU b n k := by
  refine ⟨h1.same.trans h2.same, fun hb => (h2.port hb).trans (h1.port hb), fun hc hr => (h1.op hc hr).trans ?_⟩
  have := h2.op (h1.same.cfg ▸ hc) (h1.same.tf ▸ (h1.op hc hr).ok hc hr)
  rwa [h1.same.cfg, h1.same.tf] at this

theorem RStepT.att_eq {b : Bool} {n n' : NetSt} {att a1 a2 : List String} (h : RStepT b n att n' a1)
    (he : (n.rvT att).Ok n.uf → a2 = a1) : RStepT b n att n' a2 :=
  ⟨h.same, h.port, fun hc hr => he hr ▸ h.op hc hr⟩

theorem RStepT.of_rv {b : Bool} {n n' : NetSt} {att att' : List String} {r' : RV}
    (e : n'.rvT att' = r' ∧ UdpUntouched n n') (hp : b = false → r'.port = (n.rvT att).port)
    (op : n.cfg.WF → (n.rvT att).Ok n.uf → ROp n.cfg n.uf (n.rvT att) r') : RStepT b n att n' att' :=
  ⟨e.2, fun hb => (congrArg RV.port e.1).trans (hp hb), fun hc hr => e.1 ▸ op hc hr⟩

theorem RStepU.of_rv {b : Bool} {n n' : NetSt} {r' : RV} (e : n'.rvU = r' ∧ TcpUntouched n n')
    (hp : b = false → r'.port = n.rvU.port) (op : n.cfg.WF → n.rvU.Ok n.tf → ROp n.cfg n.tf n.rvU r') :
    RStepU b n n' :=
  ⟨e.2, fun hb => (congrArg RV.port e.1).trans (hp hb), fun hc hr => e.1 ▸ op hc hr⟩

end SimVerif
