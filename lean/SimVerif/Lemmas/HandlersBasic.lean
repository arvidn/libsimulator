/-
  Vocabulary and helper lemmas for C04 / C12: which effects carry a user completion (`.post`, or
  `.invoke`: the handler is called on the spot, from an internal callback); `perm_omega`; small
  facts about the kernel's and the resolver's initiating calls; the projection lemmas of the `NetSt`
  setters. Helper lemmas live in the namespace `SimVerif.HL` (handlers / lifetimes).

  Four predicates on effect lists, by what they exclude. `silent`: every completion, posted or
  invoked. `postsOnly`: everything but posts and `cancelTimer` (what aborting handlers produces: the
  UDP aborts cancel the send timer). `Posts` (Lemmas/TcpEq.lean): everything but posts. `Quiet`
  (Lemmas/CapShape.lean): packets and capture records. `Posts` gives `postsOnly` (Lemmas/HandlersTcp),
  which gives `noInvoke`, no id bound into a timer (`postsOnly.parkedOf`, here), no channel id on the
  wire (`postsOnly.wireOf`, Lemmas/HandlersConns) and `Quiet` (Lemmas/Act, where `Quiet.wireOf` is too).
-/
import SimVerif.HandlerSys
import SimVerif.Kernel
import SimVerif.Resolver

namespace SimVerif

def NEff.isInvoke : NEff → Bool
  | .invoke _ => true
  | _ => false

def h4_postsOf : List NEff → List Compl
  | [] => []
  | .post c :: rest => c :: h4_postsOf rest
  | _ :: rest => h4_postsOf rest

def invokesOf : List NEff → List Compl
  | [] => []
  | .invoke c :: rest => c :: invokesOf rest
  | _ :: rest => invokesOf rest

def effIds : List NEff → List Nat
  | [] => []
  | .post c :: rest => c.h :: effIds rest
  | .invoke c :: rest => c.h :: effIds rest
  | _ :: rest => effIds rest

def noInvoke (l : List NEff) : Prop := l.all (fun e => !e.isInvoke) = true

def NEff.isSilent : NEff → Bool
  | .post _ => false
  | .invoke _ => false
  | _ => true

def silent (l : List NEff) : Prop := l.all NEff.isSilent = true

def NEff.isPostOrCancel : NEff → Bool
  | .post _ => true
  | .cancelTimer _ _ => true
  | _ => false

/-- an effect list of posted completions and `cancelTimer` effects only (more than the name says;
    posts alone: `Posts`, Lemmas/TcpEq.lean) -/
def postsOnly (l : List NEff) : Prop := ∀ e ∈ l, e.isPostOrCancel = true

def REff.isInvoke : REff → Bool
  | .invoke _ _ _ => true
  | _ => false

def noInvokeR (l : List REff) : Prop := l.all (fun e => !e.isInvoke) = true

/-- `l₁ ~ l₂` for concatenations of the same pieces: compare element counts -/
macro "perm_count" : tactic =>
  `(tactic| (refine List.perm_iff_count.mpr ?_; intro z;
             (simp only [List.count_append, List.count_cons, List.count_nil, List.cons_append,
               List.nil_append, List.append_nil] <;> omega)))

syntax "perm_omega_aux" ident (ppSpace colGt term:max)* : tactic
macro_rules
  | `(tactic| perm_omega_aux $_z:ident) =>
    `(tactic| (simp only [List.count_append, List.count_cons, List.count_nil, List.cons_append,
                 List.nil_append, List.append_nil] <;> omega))
  | `(tactic| perm_omega_aux $z:ident $h $hs*) =>
    `(tactic| (have := List.perm_iff_count.mp $h $z; revert this; perm_omega_aux $z $hs*))

/-- `l₁ ~ l₂` from the permutation facts `hs` (and nothing else of the context) about the same
    pieces: compare element counts -/
syntax "perm_omega" (ppSpace colGt term:max)* : tactic
macro_rules
  | `(tactic| perm_omega) => `(tactic| perm_count)
  | `(tactic| perm_omega $h $hs*) =>
    `(tactic| (refine List.perm_iff_count.mpr ?_; intro z; perm_omega_aux z $h $hs*))

namespace HL

@[simp] theorem noInvoke_nil : noInvoke [] := by simp [noInvoke]
@[simp] theorem noInvoke_append (a b : List NEff) : noInvoke (a ++ b) ↔ noInvoke a ∧ noInvoke b := by
  simp [noInvoke, List.all_append]
@[simp] theorem noInvoke_cons (e : NEff) (l : List NEff) :
    noInvoke (e :: l) ↔ e.isInvoke = false ∧ noInvoke l := by
  simp [noInvoke]

@[simp] theorem silent_nil : silent [] := by simp [silent]
@[simp] theorem silent_append (a b : List NEff) : silent (a ++ b) ↔ silent a ∧ silent b := by
  simp [silent, List.all_append]
@[simp] theorem silent_cons (e : NEff) (l : List NEff) :
    silent (e :: l) ↔ e.isSilent = true ∧ silent l := by
  simp [silent]

theorem silent_noInvoke {l : List NEff} (h : silent l) : noInvoke l := by
  induction l with
  | nil => simp
  | cons e rest ih =>
    simp only [silent_cons, noInvoke_cons] at h ⊢
    refine ⟨?_, ih h.2⟩
    cases e <;> simp_all [NEff.isSilent, NEff.isInvoke]

@[simp] theorem postsOf_nil : h4_postsOf [] = [] := rfl
@[simp] theorem invokesOf_nil : invokesOf [] = [] := rfl
@[simp] theorem effIds_nil : effIds [] = [] := rfl

theorem postsOf_append (a b : List NEff) : h4_postsOf (a ++ b) = h4_postsOf a ++ h4_postsOf b := by
  induction a with
  | nil => rfl
  | cons e rest ih => cases e <;> simp [h4_postsOf, ih]

theorem invokesOf_append (a b : List NEff) : invokesOf (a ++ b) = invokesOf a ++ invokesOf b := by
  induction a with
  | nil => rfl
  | cons e rest ih => cases e <;> simp [invokesOf, ih]

theorem effIds_append (a b : List NEff) : effIds (a ++ b) = effIds a ++ effIds b := by
  induction a with
  | nil => rfl
  | cons e rest ih => cases e <;> simp [effIds, ih]

theorem postsOf_silent {l : List NEff} (h : silent l) : h4_postsOf l = [] := by
  induction l with
  | nil => rfl
  | cons e rest ih =>
    simp only [silent_cons] at h
    cases e <;> simp_all [NEff.isSilent, h4_postsOf]

theorem invokesOf_noInvoke {l : List NEff} (h : noInvoke l) : invokesOf l = [] := by
  induction l with
  | nil => rfl
  | cons e rest ih =>
    simp only [noInvoke_cons] at h
    cases e <;> simp_all [NEff.isInvoke, invokesOf]

theorem effIds_noInvoke {l : List NEff} (h : noInvoke l) : effIds l = (h4_postsOf l).map (·.h) := by
  induction l with
  | nil => rfl
  | cons e rest ih =>
    simp only [noInvoke_cons] at h
    cases e <;> simp_all [NEff.isInvoke, effIds, h4_postsOf]

theorem effIds_silent {l : List NEff} (h : silent l) : effIds l = [] := by
  rw [effIds_noInvoke (silent_noInvoke h), postsOf_silent h]; rfl

@[simp] theorem postsOnly_nil : postsOnly [] := fun _ h => nomatch h
@[simp] theorem postsOnly_append (a b : List NEff) : postsOnly (a ++ b) ↔ postsOnly a ∧ postsOnly b := by
  simp only [postsOnly, List.mem_append]
  exact ⟨fun h => ⟨fun e he => h e (.inl he), fun e he => h e (.inr he)⟩, fun h e he => he.elim (h.1 e) (h.2 e)⟩
@[simp] theorem postsOnly_cons (e : NEff) (l : List NEff) :
    postsOnly (e :: l) ↔ e.isPostOrCancel = true ∧ postsOnly l := by
  simp [postsOnly]

theorem _root_.SimVerif.postsOnly.noInvoke {l : List NEff} (h : postsOnly l) : noInvoke l := by
  induction l with
  | nil => simp
  | cons e rest ih =>
    rw [postsOnly_cons] at h
    rw [noInvoke_cons]
    exact ⟨by cases e <;> (first | rfl | cases h.1), ih h.2⟩

theorem _root_.SimVerif.postsOnly.parkedOf {l : List NEff} (h : postsOnly l) : parkedOf l = [] := by
  induction l with
  | nil => rfl
  | cons e rest ih =>
    rw [postsOnly_cons] at h
    cases e <;> first | exact ih h.2 | cases h.1

theorem _root_.SimVerif.parkedOf_append (a b : List NEff) : parkedOf (a ++ b) = parkedOf a ++ parkedOf b := by
  induction a with
  | nil => rfl
  | cons e rest ih =>
    cases e with
    | armAfter o sl d cb => cases cb <;> simp [parkedOf, ih]
    | armTimer o sl d cb => cases cb <;> simp [parkedOf, ih]
    | _ => simp [parkedOf, ih]

theorem setHandler_ran (k : K) (i h : Nat) : (setHandler k i h).ran = k.ran := rfl
theorem setHandler_ready (k : K) (i h : Nat) : (setHandler k i h).ready = k.ready := rfl
theorem arm_ran (k : K) (i : Nat) (e : Int) : (arm k i e).ran = k.ran := rfl
theorem arm_ready (k : K) (i : Nat) (e : Int) : (arm k i e).ready = k.ready := rfl

theorem niR_resolveLiteral (now : Int) (addr : String) (port h : Nat) (r : R) :
    noInvokeR (r.resolveLiteral now addr port h).2 := by
  unfold R.resolveLiteral R.armFront; simp [noInvokeR, REff.isInvoke]

theorem niR_resolveName (p : RParams) (now : Int) (err : Ec) (ips : List String) (lat : Int) (port h : Nat) (r : R) :
    noInvokeR (r.resolveName p now err ips lat port h).2 := by
  unfold R.resolveName R.armFront
  dsimp only
  split <;> simp [noInvokeR, REff.isInvoke]

theorem niR_cancel (r : R) : noInvokeR r.cancel.2 := by
  unfold R.cancel; simp [noInvokeR, REff.isInvoke]

@[simp] theorem setUdp_tcp (n : NetSt) (a b : String) (u : UdpSock) : (n.setUdp a u).tcp? b = n.tcp? b := rfl
@[simp] theorem setUdp_tcps (n : NetSt) (a : String) (u : UdpSock) : (n.setUdp a u).tcps = n.tcps := rfl
@[simp] theorem setUdp_reg (n : NetSt) (a : String) (u : UdpSock) : (n.setUdp a u).reg = n.reg := rfl
@[simp] theorem setUdp_chans (n : NetSt) (a : String) (u : UdpSock) : (n.setUdp a u).chans = n.chans := rfl
@[simp] theorem setUdp_cfg (n : NetSt) (a : String) (u : UdpSock) : (n.setUdp a u).cfg = n.cfg := rfl
@[simp] theorem setUdp_chan (n : NetSt) (a : String) (u : UdpSock) (c : Nat) :
    (n.setUdp a u).chan? c = n.chan? c := rfl

@[simp] theorem setTcp_udp (n : NetSt) (a b : String) (t : TcpSock) : (n.setTcp a t).udp? b = n.udp? b := rfl
@[simp] theorem setTcp_udps (n : NetSt) (a : String) (t : TcpSock) : (n.setTcp a t).udps = n.udps := rfl
@[simp] theorem setTcp_fwds (n : NetSt) (a : String) (t : TcpSock) : (n.setTcp a t).fwds = n.fwds := rfl
@[simp] theorem setTcp_reg (n : NetSt) (a : String) (t : TcpSock) : (n.setTcp a t).reg = n.reg := rfl
@[simp] theorem setTcp_cfg (n : NetSt) (a : String) (t : TcpSock) : (n.setTcp a t).cfg = n.cfg := rfl
@[simp] theorem setTcp_chan (n : NetSt) (a : String) (t : TcpSock) (c : Nat) :
    (n.setTcp a t).chan? c = n.chan? c := rfl

@[simp] theorem setFwd_udp (n : NetSt) (f : Nat) (t : Option String) (b : String) :
    (n.setFwd f t).udp? b = n.udp? b := rfl
@[simp] theorem setFwd_tcp (n : NetSt) (f : Nat) (t : Option String) (b : String) :
    (n.setFwd f t).tcp? b = n.tcp? b := rfl
@[simp] theorem setFwd_reg (n : NetSt) (f : Nat) (t : Option String) : (n.setFwd f t).reg = n.reg := rfl
@[simp] theorem setFwd_chans (n : NetSt) (f : Nat) (t : Option String) : (n.setFwd f t).chans = n.chans := rfl
@[simp] theorem setFwd_cfg (n : NetSt) (f : Nat) (t : Option String) : (n.setFwd f t).cfg = n.cfg := rfl
@[simp] theorem setFwd_chan (n : NetSt) (f : Nat) (t : Option String) (c : Nat) :
    (n.setFwd f t).chan? c = n.chan? c := rfl
@[simp] theorem newFwd_udp (n : NetSt) (a b : String) : (n.newFwd a).1.udp? b = n.udp? b := rfl
@[simp] theorem newFwd_tcp (n : NetSt) (a b : String) : (n.newFwd a).1.tcp? b = n.tcp? b := rfl
@[simp] theorem newFwd_reg (n : NetSt) (a : String) : (n.newFwd a).1.reg = n.reg := rfl
@[simp] theorem newFwd_chans (n : NetSt) (a : String) : (n.newFwd a).1.chans = n.chans := rfl
@[simp] theorem newFwd_cfg (n : NetSt) (a : String) : (n.newFwd a).1.cfg = n.cfg := rfl
@[simp] theorem newFwd_id (n : NetSt) (a : String) : (n.newFwd a).2 = n.fwds.length := rfl
@[simp] theorem setChan_udp (n : NetSt) (c : Nat) (ch : Chan) (b : String) : (n.setChan c ch).udp? b = n.udp? b := rfl
@[simp] theorem setChan_tcp (n : NetSt) (c : Nat) (ch : Chan) (b : String) : (n.setChan c ch).tcp? b = n.tcp? b := rfl
@[simp] theorem setChan_reg (n : NetSt) (c : Nat) (ch : Chan) : (n.setChan c ch).reg = n.reg := rfl
@[simp] theorem setChan_fwds (n : NetSt) (c : Nat) (ch : Chan) : (n.setChan c ch).fwds = n.fwds := rfl
@[simp] theorem setChan_cfg (n : NetSt) (c : Nat) (ch : Chan) : (n.setChan c ch).cfg = n.cfg := rfl
@[simp] theorem setChan_fwdTarget (n : NetSt) (c : Nat) (ch : Chan) (f : Nat) :
    (n.setChan c ch).fwdTarget f = n.fwdTarget f := rfl

theorem logOf_ids (effs : List NEff) : (logOf effs).map (·.2.h) = effIds effs := by
  induction effs with
  | nil => rfl
  | cons e rest ih => cases e <;> simp [logOf, effIds, ih]

end HL

end SimVerif
