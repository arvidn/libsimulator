/-
  SimVerif.Lemmas.SocksTable — outcome tables of the SOCKS model: `on_request1` against the
  decision table of SocksSpec, the handlers of the greeting, a chunk of a composed read, a step
  of the open system. Each is walked through once here.
-/
import SimVerif.SocksSpec
import SimVerif.Lemmas.SocksBuf

namespace SimVerif.Socks

theorem sx_eq_small (b k : UInt8) (hk : k.toNat < 128) : sx b = (k.toNat : Int) ↔ b = k := by
  constructor
  · intro h
    apply UInt8.toNat_inj.mp
    unfold sx at h
    have := UInt8.toNat_lt b
    split at h <;> omega
  · rintro rfl; simp [sx, hk]

theorem sx_eq_1 (b : UInt8) : sx b = 1 ↔ b = 1 := sx_eq_small b 1 (by decide)
theorem sx_eq_2 (b : UInt8) : sx b = 2 ↔ b = 2 := sx_eq_small b 2 (by decide)
theorem sx_eq_3 (b : UInt8) : sx b = 3 ↔ b = 3 := sx_eq_small b 3 (by decide)
theorem sx_eq_4 (b : UInt8) : sx b = 4 ↔ b = 4 := sx_eq_small b 4 (by decide)

theorem outPrefix_getD (c : Conn) (n i : Nat) (h : i < n) : (c.outPrefix n).getD i 0 = c.outBuf.byte i := by
  simp [Conn.outPrefix, h]

theorem expectedLen_le (v : Int) : expectedLen v ≤ 10 := by unfold expectedLen; split <;> omega
theorem expectedLen_ge (v : Int) : 9 ≤ expectedLen v := by unfold expectedLen; split <;> omega

theorem out_readN0 {c : Conn} (hs : c.Sized) {n : Nat} (hn : n ≤ 65536) : c.outBuf.readN 0 n = .ok (c.outPrefix n) := by
  rw [Buf.readN_ok _ _ _ (by omega) (by omega) (by rw [hs.out]; omega)]
  simp [Conn.outPrefix]

theorem outPrefix_of_readN0 {c : Conn} {n : Nat} {H : Bytes} (h : c.outBuf.readN 0 n = .ok H) : H = c.outPrefix n := by
  unfold Buf.readN at h
  split at h <;> cases h
  simp [Conn.outPrefix]

/-- the counters after `on_request1` saw command byte `k` -/
def cntAfter (cnt : List Int) (k : Int) : List Int :=
  if 1 ≤ k ∧ k ≤ 3 then cnt.set (k - 1).toNat (cnt.getD (k - 1).toNat 0 + 1) else cnt

theorem cntAfter_length (cnt : List Int) (k : Int) : (cntAfter cnt k).length = cnt.length := by
  unfold cntAfter; split <;> simp

/-- with the guard `cmdGuard` (F21) counting cannot fault -/
theorem guard_bump (cnt : List Int) (hc : cnt.length = 3) (k : Int) :
    (if 1 ≤ k ∧ k ≤ 3 then bump cnt (k - 1) else .ok cnt) = .ok (cntAfter cnt k) := by
  unfold cntAfter bump
  by_cases h : 1 ≤ k ∧ k ≤ 3
  · have : 0 ≤ k - 1 ∧ k - 1 < (cnt.length : Int) := by omega
    simp [h, this]
  · simp [h]

/-- what the proxy does with a received request header `H`, in the specification's terms:
    the action of the decision table if `H` is well formed, else close -/
def reqAct (p : Params) (c : Conn) (cnt : List Int) (H : Bytes) : Out :=
  if validReq c.ver H then
    match decision c.ver H with
    | .connect a pt => openForwardConnection c cnt a pt
    | .bind a pt => bindConnection c cnt a pt
    | .udp a pt => udpAssociate c cnt a pt
    | .name len =>
      if p.domShort ∧ (len : Int) - 3 ≤ 0 then onRequestDomainName p c cnt .ok 0
      else exactRead c cnt 10 ((len : Int) - 3) .dom
  else closeConnection c cnt

theorem Buf.readN_length {b : Buf} {off n : Int} {H : Bytes} (h : b.readN off n = .ok H) : H.length = n.toNat := by
  unfold Buf.readN at h
  split at h <;> cases h
  simp

/-- `on_request1` counts the command byte and then does what the decision table says -/
theorem onRequest1_eq (p : Params) (c : Conn) (cnt : List Int) (ec : Ec) (n : Nat) :
    onRequest1 p c cnt ec n =
      if ec ≠ .ok ∨ n ≠ expectedLen c.ver then closeConnection c cnt else
      match c.outBuf.readN 0 (expectedLen c.ver) with
      | .error e => .error e
      | .ok H =>
        match (if p.cmdGuard then (if 1 ≤ sx (H.getD 1 0) ∧ sx (H.getD 1 0) ≤ 3 then bump cnt (sx (H.getD 1 0) - 1) else .ok cnt)
               else bump cnt (sx (H.getD 1 0) - 1)) with
        | .error e => .error e
        | .ok cnt' => reqAct p { c with command := sx (H.getD 1 0) } cnt' H := by
  unfold onRequest1 expectedLen
  generalize hm : (if c.ver = 4 then 9 else 10 : Nat) = m
  by_cases h0 : ec ≠ .ok ∨ n ≠ m
  · rw [if_pos h0, if_pos h0]
  · rw [if_neg h0, if_neg h0]
    cases hr : c.outBuf.readN 0 m with
    | error e => rfl
    | ok H =>
      have hl : H.length = m := by rw [Buf.readN_length hr]; rfl
      simp only []
      generalize (if p.cmdGuard then _ else _ : Except Fault (List Int)) = r
      cases r with
      | error e => rfl
      | ok cnt' =>
        simp only []
        generalize hc' : ({ c with command := sx (H.getD 1 0) } : Conn) = c'
        have hv : c'.ver = c.ver := by rw [← hc']
        clear hc'
        rw [← hv] at hm ⊢
        generalize hb0 : H.getD 0 0 = b0
        generalize hb1 : H.getD 1 0 = b1
        generalize hb2 : H.getD 2 0 = b2
        generalize hb3 : H.getD 3 0 = b3
        generalize hb4 : H.getD 4 0 = b4
        generalize hb5 : H.getD 5 0 = b5
        generalize hb6 : H.getD 6 0 = b6
        generalize hb7 : H.getD 7 0 = b7
        generalize hb8 : H.getD 8 0 = b8
        generalize hb9 : H.getD 9 0 = b9
        unfold reqAct validReq decision
        simp only [hb0, hb1, hb2, hb3, hb4, hb5, hb6, hb7, hb8, hb9, hl, sx_eq_1, sx_eq_2, sx_eq_3, ne_eq, ux]
        clear hb0 hb1 hb2 hb3 hb4 hb5 hb6 hb7 hb8 hb9 hr hl hv h0
        -- the guards are the negations of `validReq`'s conjuncts, in its order; then the decision
        by_cases h4 : c'.ver = 4
        · simp only [h4, if_true, sx_eq_4] at hm ⊢
          subst hm
          -- SOCKS4: `g0` VN = 4, `g8` empty user id, `c1`/`c2` CD ∈ {1, 2}; a failed guard closes on both sides
          by_cases g0 : b0 = 4
          case neg => simp [g0]
          by_cases g8 : b8 = 0
          case neg => simp [g0, g8]
          by_cases c1 : b1 = 1
          case pos => simp [*]
          by_cases c2 : b1 = 2 <;> simp [*]
        · simp only [h4, if_false] at hm ⊢
          subst hm
          -- SOCKS5: `g0` VER, `g2` RSV = 0, `a1`/`a3` ATYP ∈ {1, 3}, `c1`–`c3` CMD ∈ {1, 2, 3}, no BIND (`c2`) by name
          by_cases g0 : sx b0 = c'.ver
          case neg => simp [g0]
          by_cases g2 : b2 = 0
          case neg => simp [g0, g2]
          by_cases a1 : b3 = 1
          · by_cases c1 : b1 = 1
            case pos => simp [*]
            by_cases c2 : b1 = 2
            case pos => simp [*]
            by_cases c3 : b1 = 3 <;> simp [*]
          · by_cases a3 : b3 = 3
            case neg => simp [*]
            by_cases c2 : b1 = 2
            case pos => simp [*]
            -- `ux` inside the `Decidable` instance of the model's test is only unfolded by `rfl`
            by_cases c1 : b1 = 1
            case pos => simp [*]; rfl
            by_cases c3 : b1 = 3
            case pos => simp [*]; rfl
            case neg => simp [*]

theorem decision_name {v : Int} {H : Bytes} {len : Nat} (h : decision v H = .name len) : len = (H.getD 4 0).toNat := by
  unfold decision at h
  dsimp only at h
  repeat' split at h
  all_goals cases h
  rfl

theorem reqAct_invalid {p : Params} {c : Conn} {cnt : List Int} {H : Bytes} (h : ¬ validReq c.ver H) :
    reqAct p c cnt H = closeConnection c cnt := if_neg h

theorem reqAct_valid {p : Params} {c : Conn} {cnt : List Int} {H : Bytes} (h : validReq c.ver H) :
    reqAct p c cnt H =
      match decision c.ver H with
      | .connect a pt => openForwardConnection c cnt a pt
      | .bind a pt => bindConnection c cnt a pt
      | .udp a pt => udpAssociate c cnt a pt
      | .name len =>
        if p.domShort ∧ (len : Int) - 3 ≤ 0 then onRequestDomainName p c cnt .ok 0
        else exactRead c cnt 10 ((len : Int) - 3) .dom := if_pos h

theorem reqAct_ind {P : Out → Prop} {p : Params} {c : Conn} {cnt : List Int} (H : Bytes)
    (hclose : P (closeConnection c cnt))
    (hconn : ∀ a pt, P (openForwardConnection c cnt a pt))
    (hbind : ∀ a pt, P (bindConnection c cnt a pt))
    (hudp : ∀ a pt, P (udpAssociate c cnt a pt))
    (hdom : P (onRequestDomainName p c cnt .ok 0))
    (hread : ∀ len : Nat, len < 256 → ¬ (p.domShort ∧ (len : Int) - 3 ≤ 0) →
      P (exactRead c cnt 10 ((len : Int) - 3) .dom)) :
    P (reqAct p c cnt H) := by
  unfold reqAct
  split
  · split
    · exact hconn _ _
    · exact hbind _ _
    · exact hudp _ _
    · rename_i len hd
      split
      · exact hdom
      · exact hread len (decision_name hd ▸ UInt8.toNat_lt _) ‹_›
  · exact hclose

theorem onRequest1_sized {c : Conn} {cnt : List Int} (hs : c.Sized) (hc : cnt.length = 3) (ec : Ec) (n : Nat) :
    onRequest1 {} c cnt ec n =
      if ec = .ok ∧ n = expectedLen c.ver then
        reqAct {} { c with command := sx (c.outBuf.byte 1) } (cntAfter cnt (sx (c.outBuf.byte 1))) (c.outPrefix (expectedLen c.ver))
      else closeConnection c cnt := by
  rw [onRequest1_eq]
  by_cases h : ec = .ok ∧ n = expectedLen c.ver
  · rw [if_neg (fun a => a.elim (· h.1) (· h.2)), if_pos h, out_readN0 hs (by have := expectedLen_le c.ver; omega)]
    dsimp only
    rw [outPrefix_getD c _ 1 (by have := expectedLen_ge c.ver; omega), if_pos rfl, guard_bump cnt hc]
  · rw [if_neg h, if_pos (Classical.not_and_iff_not_or_not.1 h)]

section out
variable {p : Params} {c c' : Conn} {cnt cnt' : List Int} {acts : List Act} {ec : Ec} {n : Nat}

theorem exactRead_out {off : Nat} {n : Int} {k : Kind} (h : exactRead c cnt off n k = .ok (c', cnt', acts)) :
    c' = c ∧ cnt' = cnt ∧ acts = [.read .client (min n.toNat 65536) (.exact off n.toNat 0 k)] := by
  unfold exactRead at h; split at h <;> cases h; exact ⟨rfl, rfl, rfl⟩

theorem start_out (h : start c cnt = .ok (c', cnt', acts)) :
    c' = c ∧ cnt' = cnt ∧ ((c.ver = 4 ∧ acts = [.read .client 9 (.exact 0 9 0 .req1)])
                          ∨ (c.ver ≠ 4 ∧ acts = [.read .client 2 (.exact 0 2 0 .hs1)])) := by
  unfold start at h
  split at h
  · obtain ⟨h1, h2, h3⟩ := exactRead_out h
    exact ⟨h1, h2, .inl ⟨by assumption, h3⟩⟩
  · obtain ⟨h1, h2, h3⟩ := exactRead_out h
    exact ⟨h1, h2, .inr ⟨by assumption, h3⟩⟩

theorem onHandshake1_out (h : onHandshake1 p c cnt ec n = .ok (c', cnt', acts)) :
    c'.ver = c.ver ∧ cnt' = cnt ∧ (acts = closeActs ∨ ∃ cap need, acts = [.read .client cap (.exact 0 need 0 .hs2)]) := by
  unfold onHandshake1 at h
  split at h
  · cases h; exact ⟨rfl, rfl, .inl rfl⟩
  · split at h
    · cases h
    · split at h
      · cases h; exact ⟨rfl, rfl, .inl rfl⟩
      · split at h
        · cases h
        · obtain ⟨rfl, rfl, h3⟩ := exactRead_out h
          exact ⟨rfl, rfl, .inr ⟨_, _, h3⟩⟩

theorem onHandshake2_out (h : onHandshake2 c cnt ec n = .ok (c', cnt', acts)) :
    c'.ver = c.ver ∧ cnt' = cnt ∧ (acts = closeActs ∨ ∃ bytes len, acts = [.write .client bytes (.write .client len .hs3)]) := by
  unfold onHandshake2 at h
  split at h
  · cases h; exact ⟨rfl, rfl, .inl rfl⟩
  · split at h
    · cases h
    · split at h
      · cases h; exact ⟨rfl, rfl, .inl rfl⟩
      · split at h
        · cases h
        · unfold writeFrom at h
          split at h <;> cases h
          exact ⟨rfl, rfl, .inr ⟨_, _, rfl⟩⟩

theorem onHandshake3_out (h : onHandshake3 c cnt ec n = .ok (c', cnt', acts)) :
    c' = c ∧ cnt' = cnt ∧ (acts = closeActs ∨ acts = [.read .client 10 (.exact 0 10 0 .req1)]) := by
  unfold onHandshake3 closeConnection at h
  split at h
  · cases h; exact ⟨rfl, rfl, .inl rfl⟩
  · obtain ⟨h1, h2, h3⟩ := exactRead_out h
    exact ⟨h1, h2, .inr h3⟩

theorem onRequestDomainName_out (h : onRequestDomainName p c cnt ec n = .ok (c', cnt', acts)) :
    c' = c ∧ cnt' = cnt ∧ (acts = closeActs ∨ ∃ host pt, acts = [.resolve host pt .resolve]) := by
  unfold onRequestDomainName at h
  split at h
  · cases h; exact ⟨rfl, rfl, .inl rfl⟩
  · split at h
    · cases h
    · dsimp only at h
      split at h
      · split at h <;> cases h
        exact ⟨rfl, rfl, .inr ⟨_, _, rfl⟩⟩
      · cases h

end out

/-- the reply: `format_response` writes the message to `m_in_buffer`, from where it is sent (the
    tail of `on_connected` and of `bind_connection`); its value on a sized connection is `reply_eq`
    (SocksNeg) -/
def reply (c : Conn) (cnt : List Int) (addr port r : Nat) (k : Kind) : Out :=
  match formatResponse c addr port r with
  | .error e => .error e
  | .ok (c, len) => writeFrom c cnt .client len k

theorem exactStep_ok (c : Conn) (off need got : Nat) (ec : Ec) (data : Bytes) (h : off + got + data.length ≤ c.outBuf.cap) :
    exactStep c off need got ec data
      = .ok ({ c with outBuf := c.outBuf.store (off + got) data }, got + data.length,
             decide (ec ≠ .ok ∨ data.length = 0 ∨ got + data.length ≥ need)) := by
  unfold exactStep
  rw [Buf.write_ok _ _ _ (by omega) (by omega), Int.toNat_natCast]

theorem onExactChunk_cases {p : Params} {c c' : Conn} {cnt cnt' : List Int} {off need got : Nat} {k : Kind} {ec : Ec}
    {data : Bytes} {acts : List Act} (h : onExactChunk p c cnt off need got k ec data = .ok (c', cnt', acts)) :
    (¬ (ec ≠ .ok ∨ data.length = 0 ∨ got + data.length ≥ need) ∧ c' = { c with outBuf := c.outBuf.store (off + got) data } ∧ cnt' = cnt
        ∧ acts = [.read .client (min (need - (got + data.length)) 65536) (.exact off need (got + data.length) k)])
    ∨ ((ec ≠ .ok ∨ data.length = 0 ∨ got + data.length ≥ need)
        ∧ exactDone p { c with outBuf := c.outBuf.store (off + got) data } cnt k ec (got + data.length) = .ok (c', cnt', acts)) := by
  unfold onExactChunk exactStep at h
  cases hw : c.outBuf.write ((off + got : Nat) : Int) data with
  | error e => rw [hw] at h; cases h
  | ok ob =>
    rw [hw] at h
    have := (Buf.write_eq_ok hw).2
    rw [Int.toNat_natCast] at this
    subst this
    dsimp only at h
    by_cases hd : ec ≠ .ok ∨ data.length = 0 ∨ got + data.length ≥ need
    · right
      simp only [hd, decide_true, if_true] at h
      exact ⟨hd, h⟩
    · left
      simp only [hd, decide_false] at h
      cases h
      exact ⟨hd, rfl, rfl, rfl⟩

theorem PEnt.ok_valid {e : PEnt} {r : Res} (h : e.ok r = true) : valid e.op r = true := by
  simp only [PEnt.ok, Bool.and_eq_true] at h; exact h.1

/-- the connection after the completion of its `i`-th pending operation -/
def CS.next (cs : CS) (i : Nat) (e : PEnt) (r : Res) (c : Conn) (acts : List Act) : CS :=
  { c := c, pend := addOps (cs.pend.eraseIdx i) acts, hist := cs.hist ++ [(e.op, r)], acts := cs.acts ++ acts }

theorem SS.step_cases {p : Params} {s s' : SS} {l : SLbl} (h : s.step p l = .ok s') :
    s' = s
    ∨ (∃ c cnt acts, l = .accept ∧ start { ver := s.ver, flags := s.flags } s.cnt = .ok (c, cnt, acts)
        ∧ s' = { s with cnt := cnt, conns := s.conns ++ [{ c := c, pend := addOps [] acts, acts := acts }] })
    ∨ (∃ ci i r cs e c cnt acts, l = .complete ci i r ∧ s.conns[ci]? = some cs ∧ cs.pend[i]? = some e ∧ e.ok r = true
        ∧ complete p cs.c s.cnt e.op r = .ok (c, cnt, acts)
        ∧ s' = { s with cnt := cnt, conns := s.conns.set ci (cs.next i e r c acts) }) := by
  unfold SS.step at h
  cases l with
  | accept =>
    dsimp only at h
    split at h <;> cases h
    exact .inr (.inl ⟨_, _, _, rfl, ‹_›, rfl⟩)
  | complete ci i r =>
    dsimp only at h
    split at h
    · cases h; exact .inl rfl
    · split at h
      · cases h; exact .inl rfl
      · split at h
        · cases h; exact .inl rfl
        · rename_i e _ hok
          have hok : e.ok r = true := by cases h' : e.ok r <;> simp [h'] at hok ⊢
          split at h <;> cases h
          exact .inr (.inr ⟨_, _, _, _, _, _, _, _, rfl, ‹_›, ‹_›, hok, ‹_›, rfl⟩)

theorem SS.step_ok {p : Params} {s : SS} (l : SLbl)
    (hstart : ∃ x, start { ver := s.ver, flags := s.flags } s.cnt = .ok x)
    (hnext : ∀ (ci i : Nat) r (cs : CS) (e : PEnt), s.conns[ci]? = some cs → cs.pend[i]? = some e → e.ok r = true →
      ∃ x, complete p cs.c s.cnt e.op r = .ok x) : ∃ s', s.step p l = .ok s' := by
  unfold SS.step
  cases l with
  | accept => obtain ⟨⟨c, cnt, acts⟩, h⟩ := hstart; dsimp only; exact ⟨_, by rw [h]⟩
  | complete ci i r =>
    dsimp only
    split
    · exact ⟨s, rfl⟩
    · split
      · exact ⟨s, rfl⟩
      · rename_i e _
        split
        · exact ⟨s, rfl⟩
        · rename_i hok
          obtain ⟨⟨c, cnt, acts⟩, h⟩ := hnext ci i r _ e ‹_› ‹_› (by cases h' : e.ok r <;> simp [h'] at hok ⊢)
          exact ⟨_, by rw [h]⟩

theorem addOps_all {Q : POp → Prop} (acts : List Act) : ∀ (pend : List PEnt), (∀ e ∈ pend, Q e.op) →
    (∀ a ∈ acts, ∀ op, a.op? = some op → Q op) → ∀ e ∈ addOps pend acts, Q e.op := by
  induction acts with
  | nil => intro pend hp _; exact hp
  | cons a rest ih =>
    intro pend hp ha
    have ha2 := fun x hx => ha x (List.mem_cons_of_mem _ hx)
    unfold addOps
    split
    · exact ih pend hp ha2
    · rename_i op hop
      refine ih _ (fun e he => ?_) ha2
      rcases List.mem_append.mp he with h | h
      · split at h
        · obtain ⟨e0, he0, rfl⟩ := List.mem_map.mp h
          split <;> exact hp e0 he0
        · exact hp e h
      · rw [List.mem_singleton.1 h]
        exact ha a (List.mem_cons_self ..) op hop

theorem SS.conns_step {J : CS → Prop} {p : Params} {s s' : SS} {l : SLbl} (h : s.step p l = .ok s')
    (hJ : ∀ cs ∈ s.conns, J cs)
    (hstart : ∀ c cnt acts, start { ver := s.ver, flags := s.flags } s.cnt = .ok (c, cnt, acts) →
      J { c := c, pend := addOps [] acts, acts := acts })
    (hnext : ∀ cs i e r c cnt acts, cs ∈ s.conns → cs.pend[i]? = some e → e.ok r = true →
      complete p cs.c s.cnt e.op r = .ok (c, cnt, acts) → J (cs.next i e r c acts)) :
    ∀ cs ∈ s'.conns, J cs := by
  rcases SS.step_cases h with rfl | ⟨c, cnt, acts, -, hst, rfl⟩ | ⟨ci, i, r, cs, e, c, cnt, acts, -, hcs, he, hok, hco, rfl⟩
  · exact hJ
  · intro cs hcs
    rcases List.mem_append.1 hcs with hcs | hcs
    · exact hJ cs hcs
    · rw [List.mem_singleton.1 hcs]; exact hstart _ _ _ hst
  · intro cs' hcs'
    rcases List.mem_or_eq_of_mem_set hcs' with hcs' | rfl
    · exact hJ cs' hcs'
    · exact hnext cs i e r c cnt acts (List.mem_of_getElem? hcs) he hok hco

end SimVerif.Socks
