/-
  Lemmas about the specification-level reading `scan` of a client byte stream
  (SimVerif/HttpProxySys.lean): fuel independence, the shape of the incomplete rest, and
  segmentation independence (`scan_append`), each by induction on the fuel over the three outcomes
  of one step (`scan_cases`).
-/
import SimVerif.HttpProxySys
import SimVerif.Lemmas.HttpParse

namespace SimVerif.HttpProxy

open SimVerif.Http

theorem scan_nil : scan 1 [] = ([], some []) := rfl

theorem scan_succ_more (f : Nat) (b : Bytes) (h : findRequestLen b b.length = .ok (-1)) :
    scan (f + 1) b = ([], some b) := by
  rw [scan, h]
  rfl

theorem scan_succ_req (f : Nat) (b : Bytes) (n : Nat) (req : Request) (rw : Rewritten)
    (h1 : findRequestLen b b.length = .ok (n : Int)) (h2 : parseRequest b n = .ok req)
    (h3 : rewrite req = .ok rw) :
    scan (f + 1) b = (rw :: (scan f (b.drop n)).1, (scan f (b.drop n)).2) := by
  rw [scan, h1]
  dsimp only
  rw [if_neg (by omega), Int.toNat_natCast, h2]
  dsimp only
  rw [h3]

theorem scan_succ_bad (f : Nat) (b : Bytes) (n : Nat)
    (h1 : findRequestLen b b.length = .ok (n : Int))
    (h2 : ∀ req, parseRequest b n = .ok req → rewrite req = .error ()) :
    scan (f + 1) b = ([], none) := by
  rw [scan, h1]
  dsimp only
  rw [if_neg (by omega), Int.toNat_natCast]
  split
  · rw [h2 _ ‹_›]
  · rfl

/-- the outcomes of one step: incomplete, closing (whatever the fuel), or a request cut off -/
theorem scan_cases (b : Bytes) :
    findRequestLen b b.length = .ok (-1) ∨ (∀ f, scan (f + 1) b = ([], none)) ∨
    ∃ n req rw, findRequestLen b b.length = .ok ((n : Nat) : Int) ∧ 4 ≤ n ∧ n ≤ b.length ∧
      parseRequest b n = .ok req ∧ rewrite req = .ok rw := by
  rcases findRequestLen_whole b with h | ⟨n, h, h4, hn⟩
  · exact .inl h
  · refine .inr ?_
    cases hp : parseRequest b n with
    | ok req =>
      cases hr : rewrite req with
      | ok rw => exact .inr ⟨n, req, rw, h, h4, hn, hp, hr⟩
      | error e => exact .inl fun f => scan_succ_bad f b n h fun q hq => by cases hp.symm.trans hq; exact hr
    | parseFailed => exact .inl fun f => scan_succ_bad f b n h (by rw [hp]; nofun)
    | oob => exact .inl fun f => scan_succ_bad f b n h (by rw [hp]; nofun)

theorem drop_fuel {b : Bytes} {n f : Nat} (h4 : 4 ≤ n) (hn : n ≤ b.length) (hf : b.length + 1 ≤ f + 1) :
    (b.drop n).length + 1 ≤ f := by
  rw [List.length_drop]
  omega

theorem scan_fuel_eq : ∀ (f g : Nat) (b : Bytes), b.length + 1 ≤ f → b.length + 1 ≤ g →
    scan f b = scan g b := by
  intro f
  induction f with
  | zero => intro g b h; omega
  | succ f ih =>
    intro g b hf hg
    obtain ⟨g, rfl⟩ : ∃ g', g = g' + 1 := ⟨g - 1, by omega⟩
    rcases scan_cases b with h | hbad | ⟨n, req, rw, h1, h4, hn, h2, h3⟩
    · rw [scan_succ_more f b h, scan_succ_more g b h]
    · rw [hbad f, hbad g]
    · rw [scan_succ_req f b n req rw h1 h2 h3, scan_succ_req g b n req rw h1 h2 h3,
        ih g (b.drop n) (drop_fuel h4 hn hf) (drop_fuel h4 hn hg)]

/-- one request cut off, with the fuel the proxy's loop has -/
theorem scan_step_req (b : Bytes) (n : Nat) (req : Request) (rw : Rewritten)
    (h1 : findRequestLen b b.length = .ok (n : Int)) (h2 : parseRequest b n = .ok req) (h3 : rewrite req = .ok rw) :
    scan (b.length + 1) b = (rw :: (scan ((b.drop n).length + 1) (b.drop n)).1, (scan ((b.drop n).length + 1) (b.drop n)).2) := by
  rw [scan_succ_req _ b n req rw h1 h2 h3,
    scan_fuel_eq b.length _ (b.drop n) (drop_fuel (findRequestLen_bounds b n h1).1 (findRequestLen_bounds b n h1).2 (Nat.le_refl _)) (Nat.le_refl _)]

theorem scan_tail (f : Nat) (b t : Bytes) (l : List Rewritten) (hf : b.length + 1 ≤ f) (h : scan f b = (l, some t)) :
    findRequestLen t t.length = .ok (-1) ∧ ∃ pre, b = pre ++ t := by
  induction f generalizing b l with
  | zero => omega
  | succ f ih =>
    rcases scan_cases b with h0 | hbad | ⟨n, req, rw, h1, h4, hn, h2, h3⟩
    · rw [scan_succ_more f b h0] at h
      cases h
      exact ⟨h0, [], rfl⟩
    · rw [hbad f] at h
      cases h
    · rw [scan_succ_req f b n req rw h1 h2 h3] at h
      obtain ⟨hA, pre, hpre⟩ := ih (b.drop n) _ (drop_fuel h4 hn hf) (Prod.ext rfl (Prod.mk.inj h).2)
      exact ⟨hA, b.take n ++ pre, by rw [List.append_assoc, ← hpre, List.take_append_drop]⟩

theorem scan_append_fuel (c : Bytes) : ∀ (f : Nat) (b t : Bytes) (l : List Rewritten) (g g' : Nat), b.length + 1 ≤ f →
    (b ++ c).length + 1 ≤ g → (t ++ c).length + 1 ≤ g' → scan f b = (l, some t) →
    scan g (b ++ c) = (l ++ (scan g' (t ++ c)).1, (scan g' (t ++ c)).2) := by
  intro f
  induction f with
  | zero => intro b _ _ _ _ h; omega
  | succ f ih =>
    intro b t l g g' hf hg hg' h
    rcases scan_cases b with h0 | hbad | ⟨n, req, rw, h1, h4, hn, h2, h3⟩
    · rw [scan_succ_more f b h0] at h
      cases h
      rw [scan_fuel_eq g g' _ hg hg']
      rfl
    · rw [hbad f] at h
      cases h
    · rw [scan_succ_req f b n req rw h1 h2 h3] at h
      obtain ⟨g, rfl⟩ : ∃ g0, g = g0 + 1 := ⟨g - 1, by omega⟩
      have hg0 : (b.drop n ++ c).length + 1 ≤ g := by
        rw [← List.drop_append_of_le_length hn]
        exact drop_fuel h4 (Nat.le_trans hn (by simp)) hg
      rw [scan_succ_req g (b ++ c) n req rw (findRequestLen_append b c n h1)
          (by rw [parseRequest_append b c n hn]; exact h2) h3,
        List.drop_append_of_le_length hn,
        ih (b.drop n) t _ g g' (drop_fuel h4 hn hf) hg0 hg' (Prod.ext rfl (Prod.mk.inj h).2),
        ← (Prod.mk.inj h).1]
      rfl

/-- segmentation independence of the reading: scanning `b ++ c` = scanning `b`, then scanning (rest of b) ++ c -/
theorem scan_append (b c t : Bytes) (l : List Rewritten) (h : scan (b.length + 1) b = (l, some t)) :
    scan ((b ++ c).length + 1) (b ++ c) = (l ++ (scan ((t ++ c).length + 1) (t ++ c)).1, (scan ((t ++ c).length + 1) (t ++ c)).2) :=
  scan_append_fuel c _ b t l _ _ (Nat.le_refl _) (Nat.le_refl _) (Nat.le_refl _) h

end SimVerif.HttpProxy
