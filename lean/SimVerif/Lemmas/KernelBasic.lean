/-
  The kernel/timer model: the parameter sets `repaired` / `asIs`, facts about `upper_bound`
  insertion and id-keyed lists, closed forms of `fire` and `cancel`, the induction principles
  over one transition, field by field projections of `fire`, `cancel` and the timer loop;
  `run()` as a loop; no transition reads the stop flag (`step_withStop`).
-/
import SimVerif.Kernel
import SimVerif.Lemmas.Lists
namespace SimVerif

/-- the current tree (after the `fix:` commits) -/
def repaired : KParams := { advanceGuard := true, waitRequeue := true }
/-- the pinned tree bb9bed4 -/
def asIs : KParams := { advanceGuard := false, waitRequeue := false }

/-- Everything ever enqueued, in enqueue order: what already ran followed by what is ready. -/
def K.enqueued (k : K) : List Task := k.ran.map Prod.fst ++ k.ready

def SortedTq (l : List (Int × Nat)) : Prop := l.Pairwise (fun a b => a.1 ≤ b.1)

theorem insertUB_perm (e : Int) (i : Nat) (l : List (Int × Nat)) :
    (insertUB e i l).Perm ((e, i) :: l) := by
  induction l with
  | nil => rfl
  | cons a rest ih =>
    unfold insertUB; split
    · rfl
    · exact (ih.cons _).trans (List.Perm.swap ..)

theorem mem_insertUB (e : Int) (i : Nat) (l : List (Int × Nat)) (x : Int × Nat) :
    x ∈ insertUB e i l ↔ x = (e, i) ∨ x ∈ l := by
  rw [(insertUB_perm e i l).mem_iff, List.mem_cons]

/-- `upper_bound` insertion keeps any ordering relation that refines the order of the keys. -/
theorem pairwise_insertUB {R : Int × Nat → Int × Nat → Prop} {e : Int} {i : Nat}
    {l : List (Int × Nat)} (hl : l.Pairwise R) (hmono : ∀ x y, R x y → x.1 ≤ y.1)
    (hle : ∀ x ∈ l, x.1 ≤ e → R x (e, i)) (hgt : ∀ x ∈ l, e < x.1 → R (e, i) x) :
    (insertUB e i l).Pairwise R := by
  induction l with
  | nil => simp [insertUB]
  | cons a rest ih =>
    obtain ⟨h1, h2⟩ := List.pairwise_cons.mp hl
    unfold insertUB; split
    · rename_i hlt
      refine List.pairwise_cons.mpr ⟨fun b hb => hgt b hb ?_, hl⟩
      rcases List.mem_cons.mp hb with rfl | hb
      · exact hlt
      · have := hmono _ _ (h1 b hb); omega
    · rename_i hge
      refine List.pairwise_cons.mpr ⟨fun b hb => ?_, ih h2 (fun x hx => hle x (.tail _ hx))
        (fun x hx => hgt x (.tail _ hx))⟩
      rcases (mem_insertUB ..).mp hb with rfl | hb
      · exact hle _ (.head _) (by omega)
      · exact h1 b hb

theorem mem_erase_of_nodup_snd {l : List (Int × Nat)} {e e' : Int} {i j : Nat}
    (hn : (l.map Prod.snd).Nodup) (hi : (e, i) ∈ l) :
    (e', j) ∈ l.erase (e, i) ↔ (e', j) ∈ l ∧ j ≠ i := by
  rw [(nodup_of_nodup_map _ hn).mem_erase_iff, and_comm]
  refine and_congr_right fun hm => ⟨fun hne hji => hne ?_, fun hne heq => hne (congrArg Prod.snd heq)⟩
  exact eq_of_nodup_map Prod.snd l hn _ _ hm hi hji


/-- what `fire` posts for a timer in state `t` -/
def completion (t : TimerSt) (ec : Ec) : Option Task :=
  t.handler.map fun h => { h := h, ec := ec, tm := true, exp := t.expiry, st := t.startedAt }

theorem mem_completion {t : Task} {ts : TimerSt} {ec : Ec} (h : t ∈ (completion ts ec).toList) :
    ∃ a, ts.handler = some a
      ∧ t = { h := a, ec := ec, tm := true, exp := ts.expiry, st := ts.startedAt } := by
  unfold completion at h
  cases hh : ts.handler with
  | none => simp [hh] at h
  | some a => exact ⟨a, rfl, by simpa [hh] using h⟩

theorem fire_eq (k : K) (i : Nat) (ec : Ec) : fire k i ec = { k with
    timers := setF k.timers i { k.timers i with expired := true, handler := none }
    ready := k.ready ++ (completion (k.timers i) ec).toList } := by
  unfold fire completion; dsimp only
  split <;> rename_i hh <;> simp [hh]

theorem cancel_fst (k : K) (i : Nat) : (cancel k i).1 = if (k.timers i).expired then k else { k with
    timers := setF k.timers i { k.timers i with expired := true, handler := none }
    tq := k.tq.erase ((k.timers i).expiry, i)
    ready := k.ready ++ (completion (k.timers i) .aborted).toList } := by
  unfold cancel; dsimp only; split
  · rfl
  · split <;> rename_i hh <;> simp [fire_eq, setF_setF, completion, hh]


theorem cancel_eq_fire (k : K) (i : Nat) (h : (k.timers i).expired = false) :
    (cancel k i).1 = fire { k with
      timers := setF k.timers i { k.timers i with expired := true }
      tq := k.tq.erase ((k.timers i).expiry, i) } i .aborted := by
  rw [cancel_fst, fire_eq]; simp [h, setF_setF, completion]

theorem fireDue_ind {P : K → Prop} (l : List (Int × Nat)) (k : K) (htq : k.tq = l) (h0 : P k)
    (hpop : ∀ k e i rest, k.tq = (e, i) :: rest → e ≤ k.now → P k →
      P (fire { k with tq := rest } i .ok)) : P (fireDue l k).1 := by
  induction l generalizing k with
  | nil => exact h0
  | cons a rest ih =>
    obtain ⟨e, i⟩ := a
    unfold fireDue; split
    · rename_i hdue
      exact ih _ (by rw [fire_eq]) (hpop k e i rest htq hdue h0)
    · exact h0

/-- One transition: `cancel`, `arm` (of an expired timer), storing a handler in a timer that is
    queued (as it was, or re-queued by `async_wait` just before), the wait that completes at once,
    posting a task, taking the first ready task out (`exec`, the one update of `ran`), the stop flag, the clock jump (nothing ready, queue non-empty) and the pops of the
    timer loop. -/
theorem step_ind (p : KParams) {P : K → Prop} (k : K) (l : Lbl) (h0 : P k)
    (hcancel : ∀ k i, P k → P (cancel k i).1)
    (harm : ∀ k i e, (k.timers i).expired = true → P k → P (arm k i e))
    (hset : ∀ k' i h, l = .wait i h → (k'.timers i).expired = false →
      k' = k ∨ k' = arm k i (k.timers i).expiry → P k' → P (setHandler k' i h))
    (hnow : ∀ i h, l = .wait i h → (k.timers i).expired = true →
      (p.waitRequeue = true → (k.timers i).expiry ≤ k.now) → P (fire (setHandler k i h) i .ok))
    (hpost : ∀ k h, P k → P (postTask k h))
    (hexec : ∀ t rest, l = .exec → k.ready = t :: rest → P { k with ready := rest, ran := k.ran ++ [(t, k.now)] })
    (hstop : ∀ k b, P k → P { k with stopped := b })
    (htick : ∀ e i rest, l = .advance → k.ready = [] → k.tq = (e, i) :: rest →
      P { k with now := if p.advanceGuard then (if k.now < e then e else k.now) else e })
    (hpop : ∀ k e i rest, k.tq = (e, i) :: rest → e ≤ k.now → P k →
      P (fire { k with tq := rest } i .ok)) : P (step p k l) := by
  have hexp : ∀ i, ((cancel k i).1.timers i).expired = true := fun i => by
    rw [cancel_fst]; split
    · assumption
    · simp
  cases l with
  | expiresAt i e => exact harm _ i e (hexp i) (hcancel k i h0)
  | expiresAfter i d => exact harm _ i _ (hexp i) (hcancel k i h0)
  | wait i h =>
    show P (asyncWait p k i h)
    unfold asyncWait
    by_cases hx : (k.timers i).expired = true
    · rw [if_pos hx]
      split
      · exact hset _ i h rfl (by simp [arm]) (.inr rfl) (harm k i _ hx h0)
      · rename_i hc
        exact hnow i h rfl hx fun hr => by simpa [hr] using hc
    · rw [if_neg hx]
      exact hset k i h rfl (by simpa using hx) (.inl rfl) h0
  | cancel i => exact hcancel k i h0
  | post h => exact hpost k h h0
  | stop => exact hstop k true h0
  | restart => exact hstop k false h0
  | exec =>
    show P (exec k).1
    unfold exec; split
    · exact h0
    · exact hexec _ _ rfl ‹_›
  | advance =>
    simp only [step]; split
    · rename_i hr
      unfold advance; split
      · exact h0
      · rename_i e i rest htq
        exact fireDue_ind _ _ rfl (htq ▸ htick e i rest rfl hr htq) hpop
    · exact h0

theorem step_appends (p : KParams) (k : K) (l : Lbl) (hl : l ≠ .exec) :
    (step p k l).ran = k.ran ∧ ∃ t, (step p k l).ready = k.ready ++ t := by
  have app : ∀ (k' k'' : K) (t : List Task), k''.ran = k'.ran → k''.ready = k'.ready ++ t →
      (k'.ran = k.ran ∧ ∃ u, k'.ready = k.ready ++ u) → k''.ran = k.ran ∧ ∃ u, k''.ready = k.ready ++ u :=
    fun k' k'' t hr hrd ⟨h1, u, h2⟩ => ⟨hr.trans h1, u ++ t, by rw [hrd, h2, List.append_assoc]⟩
  have h0 : k.ran = k.ran ∧ ∃ u, k.ready = k.ready ++ u := ⟨rfl, [], (List.append_nil _).symm⟩
  refine step_ind p (P := fun k' => k'.ran = k.ran ∧ ∃ u, k'.ready = k.ready ++ u) k l h0
    (hcancel := fun k' i h => ?_)
    (harm := fun k' _ _ _ h => app k' _ [] rfl (List.append_nil _).symm h)
    (hset := fun _ _ _ _ _ _ h => h)
    (hnow := fun i h _ _ _ => by rw [fire_eq]; exact app k _ _ rfl rfl h0)
    (hpost := fun k' _ h => app k' _ _ rfl rfl h)
    (hexec := fun _ _ he => absurd he hl)
    (hstop := fun _ _ h => h)
    (htick := fun _ _ _ _ _ _ => h0)
    (hpop := fun k' e i rest _ _ h => by rw [fire_eq]; exact app k' _ _ rfl rfl h)
  rw [cancel_fst]; split
  · exact h
  · exact app k' _ _ rfl rfl h

theorem fire_now (k : K) (i : Nat) (ec : Ec) : (fire k i ec).now = k.now := by rw [fire_eq]
theorem fire_tq (k : K) (i : Nat) (ec : Ec) : (fire k i ec).tq = k.tq := by rw [fire_eq]
theorem fire_ran (k : K) (i : Nat) (ec : Ec) : (fire k i ec).ran = k.ran := by rw [fire_eq]
theorem fire_timers_other (k : K) (i j : Nat) (ec : Ec) (h : j ≠ i) :
    (fire k i ec).timers j = k.timers j := by rw [fire_eq]; exact setF_other _ _ _ _ h
theorem fire_timers_same (k : K) (i : Nat) (ec : Ec) :
    (fire k i ec).timers i = { k.timers i with expired := true, handler := none } := by
  rw [fire_eq]; exact setF_same ..

theorem cancel_now (k : K) (i : Nat) : (cancel k i).1.now = k.now := by
  rw [cancel_fst]; split <;> rfl
theorem cancel_ran (k : K) (i : Nat) : (cancel k i).1.ran = k.ran := by
  rw [cancel_fst]; split <;> rfl
theorem cancel_stopped (k : K) (i : Nat) : (cancel k i).1.stopped = k.stopped := by
  rw [cancel_fst]; split <;> rfl
theorem cancel_tq (k : K) (i : Nat) :
    (cancel k i).1.tq = if (k.timers i).expired then k.tq
                        else k.tq.erase ((k.timers i).expiry, i) := by
  rw [cancel_fst]; split <;> rfl
theorem cancel_timers_other (k : K) (i j : Nat) (h : j ≠ i) :
    (cancel k i).1.timers j = k.timers j := by
  rw [cancel_fst]; split
  · rfl
  · exact setF_other _ _ _ _ h
theorem cancel_ret (k : K) (i : Nat) :
    (cancel k i).2 = if (k.timers i).expired then 0 else
      match (k.timers i).handler with | none => 0 | some _ => 1 := by
  unfold cancel; dsimp only; split <;> (try split) <;> simp_all

theorem expiresAt_ret (k : K) (i : Nat) (e : Int) : (expiresAt k i e).2 = (cancel k i).2 := rfl

theorem fireDue_now (l : List (Int × Nat)) (k : K) : (fireDue l k).1.now = k.now := by
  induction l generalizing k with
  | nil => rfl
  | cons a rest ih =>
    unfold fireDue; split
    · exact (ih _).trans (fire_now ..)
    · rfl

theorem fireDue_none_due (l : List (Int × Nat)) (k : K) (hs : SortedTq l) (htq : k.tq = l) :
    ∀ e i, (e, i) ∈ (fireDue l k).1.tq → k.now < e := by
  induction l generalizing k with
  | nil => intro e i h; simp [fireDue, htq] at h
  | cons a rest ih =>
    obtain ⟨e0, i0⟩ := a
    unfold fireDue
    split
    · intro e i h
      have := ih (fire { k with tq := rest } i0 .ok) (List.pairwise_cons.mp hs).2 (fire_tq _ _ _) e i h
      rwa [fire_now] at this
    · intro e i h
      rcases List.mem_cons.mp (htq ▸ h) with h | h
      · cases h; omega
      · have := (List.pairwise_cons.mp hs).1 (e, i) h; simp at this; omega

/-- timer ids in the queue are distinct, so firing one entry does not disturb the completions of
    the others: they can be read off the state before the loop -/
theorem fireDue_ready (l : List (Int × Nat)) (k : K) (hnd : (l.map Prod.snd).Nodup) :
    (fireDue l k).1.ready
      = k.ready ++ (l.take (fireDue l k).2).filterMap (fun x => completion (k.timers x.2) .ok) := by
  induction l generalizing k with
  | nil => simp [fireDue]
  | cons a rest ih =>
    obtain ⟨e, i⟩ := a
    simp only [List.map_cons, List.nodup_cons, List.mem_map] at hnd
    unfold fireDue; split
    · simp only
      rw [ih _ hnd.2, List.take_succ_cons, List.filterMap_cons,
        filterMap_congr_mem (g := fun x => completion (k.timers x.2) .ok) fun x hx => by
          rw [fire_timers_other _ _ _ _ fun hxi => hnd.1 ⟨x, List.mem_of_mem_take hx, hxi⟩],
        fire_eq]
      cases completion (k.timers i) .ok <;> simp
    · simp

theorem pollFuel_ready (p : KParams) (react : React) (fuel : Nat) (k : K) (n : Nat) (k' : K) (n' : Nat)
    (h : pollFuel p react fuel k n = some (k', n')) : k'.ready = [] ∧ n ≤ n' := by
  induction fuel generalizing k n with
  | zero => simp [pollFuel] at h
  | succ f ih =>
    unfold pollFuel at h
    split at h
    · rename_i hr; cases h; exact ⟨hr, Nat.le_refl _⟩
    · exact ⟨(ih _ _ h).1, Nat.le_of_succ_le (ih _ _ h).2⟩


/-- A clock step that fires nothing found the queue empty: otherwise the clock is moved to the
    head's expiry (or is already past it) and the timer loop pops the head. -/
theorem advance_zero_imp (p : KParams) (k : K) (h : (advance p k).2 = 0) :
    k.tq = [] ∧ (advance p k).1 = k := by
  cases htq : k.tq with
  | nil => simp [advance, htq]
  | cons a rest =>
    obtain ⟨e, i⟩ := a
    have hdue : e ≤ if k.now < e then e else k.now := by split <;> omega
    cases hp : p.advanceGuard <;> simp [advance, htq, hp, fireDue, hdue] at h

theorem runFuel_returns (p : KParams) (react : React) (fuel : Nat) (k : K) (ret : Nat) (k' : K) (r : Nat)
    (h : runFuel p react fuel k ret = some (k', r)) :
    k'.stopped = true ∨ k'.quiescent := by
  induction fuel generalizing k ret with
  | zero => simp [runFuel] at h
  | succ f ih =>
    unfold runFuel at h
    split at h
    · simp at h
    · rename_i k1 last hround
      split at h
      · exact ih _ _ h
      · rename_i hc
        obtain ⟨rfl, -⟩ : k1 = k' ∧ _ := by simpa using h
        simp only [Bool.and_eq_true, decide_eq_true_eq, Bool.not_eq_true', not_and,
          Bool.not_eq_false] at hc
        by_cases hl : last > 0
        · exact Or.inl (hc hl)
        · right
          unfold roundFuel at hround
          split at hround
          · simp at hround
          · rename_i kp n hpoll
            obtain ⟨rfl, hn⟩ : (advance p kp).1 = k1 ∧ n + (advance p kp).2 = last := by
              simpa using hround
            obtain ⟨htq, heq⟩ := advance_zero_imp p kp (by omega)
            rw [heq]
            exact ⟨(pollFuel_ready _ _ _ _ _ _ _ hpoll).1, htq⟩

theorem asyncWait_due (p : KParams) (k : K) (i h : Nat)
    (hexp : (k.timers i).expired = true) (hdue : (k.timers i).expiry ≤ k.now) :
    (asyncWait p k i h).ready =
      k.ready ++ [{ h := h, ec := .ok, tm := true, exp := (k.timers i).expiry, st := k.now }]
    ∧ (asyncWait p k i h).now = k.now
    ∧ ((asyncWait p k i h).timers i).handler = none := by
  have hnlt : ¬ (k.now < (k.timers i).expiry) := by omega
  unfold asyncWait
  simp only [hexp, if_true, Bool.and_eq_true, decide_eq_true_eq, hnlt, and_false, if_false]
  refine ⟨?_, ?_, ?_⟩
  · rw [fire_eq]; simp [setHandler, completion]
  · rw [fire_now]; simp [setHandler]
  · rw [fire_timers_same]

def K.withStop (k : K) (b : Bool) : K := { k with stopped := b }

@[simp] theorem withStop_withStop (k : K) (a b : Bool) : (k.withStop a).withStop b = k.withStop b := rfl

theorem fire_withStop (k : K) (b : Bool) (i : Nat) (ec : Ec) :
    fire (k.withStop b) i ec = (fire k i ec).withStop b := by
  rw [fire_eq, fire_eq]; rfl

theorem cancel_withStop (k : K) (b : Bool) (i : Nat) :
    (cancel (k.withStop b) i).1 = (cancel k i).1.withStop b := by
  rw [cancel_fst, cancel_fst]; unfold K.withStop; dsimp only
  split <;> rfl

theorem fireDue_withStop (l : List (Int × Nat)) (k : K) (b : Bool) :
    (fireDue l (k.withStop b)).1 = (fireDue l k).1.withStop b := by
  induction l generalizing k with
  | nil => rfl
  | cons a rest ih =>
    obtain ⟨e, i⟩ := a
    unfold fireDue
    by_cases h : e ≤ k.now
    · rw [if_pos h, if_pos (show e ≤ (k.withStop b).now from h)]
      exact (congrArg (fun k => (fireDue rest k).1) (fire_withStop { k with tq := rest } b i .ok)).trans
        (ih _)
    · rw [if_neg h, if_neg (show ¬ e ≤ (k.withStop b).now from h)]

theorem step_withStop (p : KParams) (k : K) (b : Bool) (l : Lbl)
    (hl : (l matches .stop | .restart) = false) :
    step p (k.withStop b) l = (step p k l).withStop b := by
  cases l with
  | stop => simp at hl
  | restart => simp at hl
  | expiresAt i e => simp only [step, expiresAt, cancel_withStop]; rfl
  | expiresAfter i d => simp only [step, expiresAfter, expiresAt, cancel_withStop]; rfl
  | wait i h =>
    simp only [step, asyncWait]
    rw [show (k.withStop b).timers = k.timers from rfl, show (k.withStop b).now = k.now from rfl]
    split
    · split
      · rfl
      · exact fire_withStop (setHandler k i h) b i .ok
    · rfl
  | cancel i => exact cancel_withStop k b i
  | post h => rfl
  | exec => simp only [step, exec]; unfold K.withStop; dsimp only; split <;> rfl
  | advance =>
    simp only [step]
    rw [show (k.withStop b).ready = k.ready from rfl]
    split
    · unfold advance
      rw [show (k.withStop b).tq = k.tq from rfl]
      split
      · rfl
      · exact fireDue_withStop k.tq { k with now := _ } b
    · rfl

theorem run_withStop_filter (p : KParams) (ls : List Lbl) (k : K) (b : Bool) :
    (runLbls p (k.withStop b) ls).withStop false
      = (runLbls p k (ls.filter (fun l => !(l matches .stop | .restart)))).withStop false := by
  induction ls generalizing k b with
  | nil => rfl
  | cons l rest ih =>
    by_cases hl : (l matches .stop | .restart) = true
    · rw [List.filter_cons_of_neg (by simpa using hl)]
      obtain ⟨b', hb⟩ : ∃ b', step p (k.withStop b) l = k.withStop b' := by
        cases l <;> simp at hl
        · exact ⟨true, rfl⟩
        · exact ⟨false, rfl⟩
      exact (congrArg (fun k => (runLbls p k rest).withStop false) hb).trans (ih k b')
    · rw [List.filter_cons_of_pos (by simpa using hl)]
      exact (congrArg (fun k => (runLbls p k rest).withStop false)
        (step_withStop p k b l (by simpa using hl))).trans (ih _ b)

end SimVerif
