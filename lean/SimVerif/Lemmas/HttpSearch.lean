/-
  Searching a byte list: `search needle b` is the offset of the first occurrence of `needle` in
  `b`, `cut needle b` the pieces before and behind it. No memory, no bounds: on an in-bounds window
  `find` and `memchr` are `search` (`find_eq_search`, Lemmas/HttpBasic.lean), and the functional
  parser `parseSpec` (Lemmas/HttpRefine.lean) is written with `cut`.
-/
import SimVerif.HttpSpec

namespace SimVerif.Http

def search (needle b : Bytes) : Option Nat :=
  if needle <+: b then some 0
  else match b with
    | [] => none
    | _ :: t => (search needle t).map (· + 1)

def cut (needle b : Bytes) : Option (Bytes × Bytes) :=
  (search needle b).map fun p => (b.take p, b.drop (p + needle.length))

theorem search_prefix {needle b : Bytes} (h : needle <+: b) : search needle b = some 0 := by
  rw [search.eq_def, if_pos h]

theorem search_cons {needle : Bytes} {a : UInt8} {t : Bytes} (h : ¬ needle <+: a :: t) :
    search needle (a :: t) = (search needle t).map (· + 1) := by
  rw [search.eq_def, if_neg h]

theorem search_some {needle : Bytes} : ∀ {b : Bytes} {p : Nat}, search needle b = some p →
    needle <+: b.drop p ∧ ∀ k, k < p → ¬ needle <+: b.drop k := by
  intro b
  induction b with
  | nil =>
    intro p h
    rw [search.eq_def] at h
    split at h
    · cases h; exact ⟨‹_›, nofun⟩
    · cases h
  | cons a t ih =>
    intro p h
    by_cases hp : needle <+: a :: t
    · rw [search_prefix hp] at h
      cases h
      exact ⟨hp, nofun⟩
    · rw [search_cons hp] at h
      obtain ⟨q, hq, rfl⟩ := Option.map_eq_some_iff.1 h
      refine ⟨(ih hq).1, fun k hk => ?_⟩
      cases k with
      | zero => exact hp
      | succ k => exact (ih hq).2 k (by omega)

theorem search_none {needle : Bytes} : ∀ {b : Bytes}, search needle b = none → ∀ k, ¬ needle <+: b.drop k := by
  intro b
  induction b with
  | nil =>
    intro h k
    rw [search.eq_def] at h
    split at h
    · cases h
    · rwa [List.drop_nil]
  | cons a t ih =>
    intro h k
    by_cases hp : needle <+: a :: t
    · rw [search_prefix hp] at h; cases h
    · rw [search_cons hp, Option.map_eq_none_iff] at h
      cases k with
      | zero => exact hp
      | succ k => exact ih h k

theorem search_eq_some {needle b : Bytes} {p : Nat} (h1 : needle <+: b.drop p)
    (h2 : ∀ k, k < p → ¬ needle <+: b.drop k) : search needle b = some p := by
  cases h : search needle b with
  | none => exact absurd h1 (search_none h p)
  | some q =>
    obtain ⟨hq1, hq2⟩ := search_some h
    rcases Nat.lt_trichotomy q p with hlt | rfl | hgt
    · exact absurd hq1 (h2 q hlt)
    · rfl
    · exact absurd h1 (hq2 p hgt)

theorem search_bound {needle b : Bytes} {p : Nat} (h : search needle b = some p) :
    p + needle.length ≤ b.length := by
  have := (search_some h).1.length_le
  rw [List.length_drop] at this
  by_cases hn : needle.length = 0
  · have hp : ¬ b.length < p := fun hlt => by
      have h0 := (search_some h).2 b.length hlt
      rw [List.drop_length, List.length_eq_zero_iff.1 hn] at h0
      exact h0 (List.prefix_refl _)
    omega
  · omega

theorem search_append_left {needle a : Bytes} {p : Nat} (b : Bytes) (h : search needle a = some p) :
    search needle (a ++ b) = some p := by
  obtain ⟨h1, h2⟩ := search_some h
  have hp := search_bound h
  have hd : ∀ k, k ≤ p → (a ++ b).drop k = a.drop k ++ b := fun k hk =>
    List.drop_append_of_le_length (by omega)
  refine search_eq_some (by rw [hd p (Nat.le_refl _)]; exact h1.trans (List.prefix_append _ _)) fun k hk hpre => ?_
  rw [hd k (Nat.le_of_lt hk), List.prefix_iff_eq_take, List.take_append_of_le_length
    (by rw [List.length_drop]; omega), ← List.prefix_iff_eq_take] at hpre
  exact h2 k hk hpre

theorem search_byte_none {c : UInt8} : ∀ {b : Bytes}, c ∉ b → search [c] b = none
  | [], _ => rfl
  | a :: t, h => by
    rw [search_cons (fun hp => h (by rw [(List.cons_prefix_cons.1 hp).1]; exact List.mem_cons_self ..)),
      search_byte_none (fun ht => h (List.mem_cons_of_mem _ ht))]
    rfl

theorem search_byte_append {c : UInt8} (t : Bytes) : ∀ {a : Bytes}, search [c] a = none →
    search [c] (a ++ t) = (search [c] t).map (· + a.length)
  | [], _ => by simp
  | x :: a, h => by
    have hx : ¬ [c] <+: x :: a := fun hp => by rw [search_prefix hp] at h; cases h
    rw [search_cons hx, Option.map_eq_none_iff] at h
    rw [List.cons_append, search_cons (fun hp => hx (by
      rw [List.cons_prefix_cons] at hp ⊢; exact ⟨hp.1, List.nil_prefix⟩)), search_byte_append t h, Option.map_map]
    rfl

theorem hasCRLF_tail (a : UInt8) (t : Bytes) (h : hasCRLF (a :: t) = false) : hasCRLF t = false := by
  cases t with
  | nil => rfl
  | cons b t' =>
    unfold hasCRLF at h
    simp at h
    exact h.2

theorem hasCRLF_cons_ne (a : UInt8) (t : Bytes) (ha : a ≠ 13) : hasCRLF (a :: t) = hasCRLF t := by
  cases t with
  | nil => rfl
  | cons b t' =>
    conv => lhs; unfold hasCRLF
    simp [ha]

theorem hasCRLF_append (a b : Bytes) (ha : hasCRLF a = false) (hb : hasCRLF b = false)
    (hh : b.head? ≠ some 10) : hasCRLF (a ++ b) = false := by
  induction a with
  | nil => simpa using hb
  | cons x t ih =>
    have iht := ih (hasCRLF_tail x t ha)
    cases t with
    | nil =>
      cases b with
      | nil => rfl
      | cons y b' =>
        simp only [List.cons_append, List.nil_append]
        unfold hasCRLF
        simp at hh
        simp [hh]
        simpa using hb
    | cons y t' =>
      simp only [List.cons_append] at iht ⊢
      unfold hasCRLF at ha ⊢
      simp at ha ⊢
      exact ⟨ha.1, iht⟩

/-- the match cannot straddle: CR LF begins with CR, which a CR-LF-free `mid` may end in, but then
    CR CR is no match -/
theorem search_crlf : ∀ (mid post : Bytes), hasCRLF mid = false →
    search CRLF (mid ++ (CRLF ++ post)) = some mid.length
  | [], _, _ => search_prefix (List.prefix_append _ _)
  | a :: t, post, h => by
    have hp : ¬ CRLF <+: a :: (t ++ (CRLF ++ post)) := by
      cases t with
      | nil => simp [CRLF]
      | cons b t' =>
        unfold hasCRLF at h
        simp at h
        simp only [CRLF, List.cons_append, List.cons_prefix_cons]
        exact fun hh => h.1 hh.1.symm hh.2.1.symm
    rw [List.cons_append, search_cons hp, search_crlf t post (hasCRLF_tail a t h)]
    rfl

theorem cut_eq_some {needle b x y : Bytes} :
    cut needle b = some (x, y) ↔ search needle b = some x.length ∧ b = x ++ (needle ++ y) := by
  constructor
  · intro h
    obtain ⟨p, hp, he⟩ := Option.map_eq_some_iff.1 h
    obtain ⟨rfl, rfl⟩ := Prod.mk.inj he
    have hd := List.prefix_iff_eq_append.1 (search_some hp).1
    rw [List.drop_drop] at hd
    have := search_bound hp
    rw [List.length_take, Nat.min_eq_left (by omega), hd, List.take_append_drop]
    exact ⟨hp, rfl⟩
  · rintro ⟨h1, h2⟩
    rw [cut, h1, h2]
    simp

theorem cut_eq_none {needle b : Bytes} : cut needle b = none ↔ search needle b = none :=
  Option.map_eq_none_iff

end SimVerif.Http
