/-
  SimVerif.Lemmas.HttpServerReq — the reference `specStream` on a stream that is a
  concatenation of well-formed requests (SimVerif/HttpSpec.lean: `RawRequest`, `render`,
  `WellFormed`, `canon`); what the handlers answer; no undefined behaviour: the handlers never
  overflow and the parser never reads outside the receive buffer, so neither the reference nor
  (through `run_eq_spec`, Lemmas/HttpServerRun.lean) the mechanism ever reaches `End.ub`.
-/
import SimVerif.HttpServerSys

namespace SimVerif.HttpServer

open SimVerif.Http

/-- `str` of a literal, without decoding: a literal unfolds to `String.ofList` of its characters
    for free, whereas evaluating `String.toList` runs the UTF-8 decoder (well-founded recursion
    over a `ByteArray`) on every byte. Rewrite with this before evaluating a term that contains
    long literals. -/
theorem str_ofList (cs : List Char) : str (String.ofList cs) = cs.map (fun c => c.toNat.toUInt8) := by
  rw [str, String.toList_ofList]

/-- the blank line that ends the rendered request is its FIRST blank line (no CR LF CR LF
    inside the method or the target — `WellFormed` allows CR and LF there) -/
def Framed (r : RawRequest) : Prop := firstBlank (render r) = some (render r).length

instance (r : RawRequest) : Decidable (Framed r) := by unfold Framed; infer_instance

def joinLines : List Bytes → Bytes
  | [] => []
  | l :: ls => l ++ CRLF ++ joinLines ls

/-- the window may straddle into the following CR LF -/
theorem noMatch_crlf (mid : Bytes) (hm : hasCRLF mid = false) (post : Bytes) (k : Nat) (hk : k < mid.length) :
    win (mid ++ (CRLF ++ post)) k 2 ≠ CRLF :=
  fun hw => (search_some (search_crlf mid post hm)).2 k hk (prefix_iff_win.2 hw)

theorem joinLines_noBlank : ∀ (ls : List Bytes), (∀ l ∈ ls, l ≠ [] ∧ hasCRLF l = false) →
    ∀ k, k + 2 < (joinLines ls).length → win (joinLines ls ++ CRLF) k 4 ≠ CRLFCRLF := by
  intro ls
  induction ls with
  | nil => intro _ k hk; simp [joinLines] at hk
  | cons l ls ih =>
    intro hl k hk hw
    obtain ⟨hne, hcr⟩ := hl l (List.mem_cons_self ..)
    have hjl : (joinLines (l :: ls)).length = l.length + (2 + (joinLines ls).length) := by
      simp [joinLines, CRLF]; omega
    have hS : ∀ l ls, joinLines (l :: ls) ++ CRLF = l ++ (CRLF ++ (joinLines ls ++ CRLF)) := by
      intro l ls; simp [joinLines]
    rw [hS] at hw
    -- the two halves of the window
    have w1 := win_drop_take (l ++ (CRLF ++ (joinLines ls ++ CRLF))) k 4 0 2 (by omega)
    have w2 := win_drop_take (l ++ (CRLF ++ (joinLines ls ++ CRLF))) k 4 2 2 (by omega)
    rw [hw] at w1 w2
    by_cases h1 : k < l.length
    · exact noMatch_crlf l hcr _ k h1 w1.symm
    · obtain ⟨j, rfl⟩ : ∃ j, k = l.length + j := ⟨k - l.length, by omega⟩
      rw [Nat.add_zero, win_append_right] at w1
      rw [Nat.add_assoc, win_append_right] at w2
      match j with
      | 0 =>
        cases ls with
        | nil => simp [joinLines, CRLF] at hk
        | cons l' ls' =>
          obtain ⟨hne', hcr'⟩ := hl l' (by simp)
          rw [show (0 + 2 : Nat) = CRLF.length + 0 from rfl, win_append_right, hS] at w2
          exact noMatch_crlf l' hcr' _ 0 (List.length_pos_iff.mpr hne') w2.symm
      | 1 => simp [win, CRLF, CRLFCRLF] at w1
      | j + 2 =>
        rw [win_append_right, show j + 2 = CRLF.length + j by rw [Nat.add_comm]; rfl,
          win_append_right] at hw
        exact ih (fun x hx => hl x (List.mem_cons_of_mem _ hx)) j (by omega) hw

theorem joinLines_end : ∀ (ls : List Bytes), ls ≠ [] → ∃ mid, joinLines ls = mid ++ CRLF := by
  intro ls
  induction ls with
  | nil => intro h; exact absurd rfl h
  | cons l ls ih =>
    intro _
    cases ls with
    | nil => exact ⟨l, by simp [joinLines]⟩
    | cons l' ls' =>
      obtain ⟨mid, hm⟩ := ih (by simp)
      exact ⟨l ++ CRLF ++ mid, by rw [joinLines, hm]; simp⟩

theorem renderHeaders_join (hs : List (Bytes × Bytes)) :
    renderHeaders hs = joinLines (hs.map (fun h => h.1 ++ [58] ++ h.2)) := by
  induction hs with
  | nil => rfl
  | cons h t ih =>
    obtain ⟨n, v⟩ := h
    simp [renderHeaders, joinLines, ih]

theorem framed_of_noCRLF (r : RawRequest) (hwf : WellFormed r)
    (hm : hasCRLF r.method = false) (ht : hasCRLF r.target = false) : Framed r := by
  obtain ⟨method, target, version, hs⟩ := r
  obtain ⟨_, _, hv, hh⟩ := hwf
  simp only at hm ht hv hh
  let lines : List Bytes := (method ++ [32] ++ target ++ [32] ++ version) :: hs.map (fun h => h.1 ++ [58] ++ h.2)
  have hrender : render ⟨method, target, version, hs⟩ = joinLines lines ++ CRLF := by
    simp [render, lines, joinLines, renderHeaders_join]
  have hsp : ∀ (a b : Bytes) (c : UInt8), c ≠ 13 → c ≠ 10 → hasCRLF a = false → hasCRLF b = false →
      hasCRLF (a ++ [c] ++ b) = false := by
    intro a b c h13 h10 ha hb
    rw [List.append_assoc]
    apply hasCRLF_append _ _ ha
    · rw [List.singleton_append, hasCRLF_cons_ne _ _ h13]; exact hb
    · simp [h10]
  have hlines : ∀ l ∈ lines, l ≠ [] ∧ hasCRLF l = false := by
    intro l hl
    simp only [lines, List.mem_cons, List.mem_map] at hl
    rcases hl with rfl | ⟨h, hmem, rfl⟩
    · refine ⟨by simp, ?_⟩
      exact hsp _ _ 32 (by decide) (by decide) (hsp _ _ 32 (by decide) (by decide) hm ht) hv
    · obtain ⟨_, h1, h2⟩ := hh h hmem
      exact ⟨by simp, hsp _ _ 58 (by decide) (by decide) h1 h2⟩
  obtain ⟨mid, hmid⟩ := joinLines_end lines (by simp [lines])
  have hnb := joinLines_noBlank lines hlines
  unfold Framed
  rw [hmid] at hnb
  have hl : ((mid ++ CRLF ++ CRLF).length : Int) = (mid.length : Int) + 4 := by simp [CRLF]
  rw [hrender, hmid, firstBlank_eq_some, hl]
  refine (findRequestLen_eq_some _ _ (by omega) mid.length).2
    ⟨Int.le_refl _, ?_, fun k hk => hnb k (by simp [CRLF]; omega)⟩
  rw [show mid ++ CRLF ++ CRLF = mid ++ (CRLFCRLF ++ []) by simp [CRLF, CRLFCRLF],
    show mid.length = mid.length + 0 from rfl, win_append_right]
  rfl

/-- what a sequence of requests calls for -/
def expectedOut (cfg : Srv) : List RawRequest → Out
  | [] => ⟨[], .waiting⟩
  | r :: rs =>
    match answer cfg (canon r) with
    | .stall => ⟨[], .stalled⟩
    | .fail => ⟨[], .closed (!cfg.closing)⟩
    | .ub => ⟨[], .ub⟩
    | .respond x close =>
      if !close && cfg.keepAlive then (expectedOut cfg rs).cons x
      else ⟨[x], .closed (!cfg.closing)⟩

theorem reqStep_render (cfg : Srv) (r : RawRequest) (hwf : WellFormed r) (hfr : Framed r) (rest : Bytes) :
    reqStep cfg (render r ++ rest) =
      match answer cfg (canon r) with
      | .stall => .stall rest
      | .fail => .fail
      | .ub => .ub
      | .respond x c => .respond x c rest := by
  have hfa := firstBlank_append (render r) rest _ hfr
  have hd : (render r ++ rest).drop (render r).length = rest := by simp
  unfold reqStep
  rw [hfa]
  simp only
  rw [parseRequest_append (render r) rest _ (Nat.le_refl _), parseRequest_render r hwf]
  simp only
  rw [hd]
  cases answer cfg (canon r) <;> rfl

theorem specStream_requests_partial (cfg : Srv) (rs : List RawRequest) (tail : Bytes)
    (h : ∀ r ∈ rs, WellFormed r ∧ Framed r) (ht : firstBlank tail = none) :
    specStream cfg ((rs.map render).flatten ++ tail) = expectedOut cfg rs := by
  induction rs with
  | nil =>
    simp only [List.map_nil, List.flatten_nil, List.nil_append, expectedOut]
    rw [specStream_eq, reqStep_more cfg tail ht]
  | cons r rs ih =>
    obtain ⟨hwf, hfr⟩ := h r (by simp)
    have ih' := ih (fun x hx => h x (by simp [hx]))
    simp only [List.map_cons, List.flatten_cons, List.append_assoc]
    rw [specStream_eq, reqStep_render cfg r hwf hfr, expectedOut]
    cases answer cfg (canon r) with
    | respond x c => simp only; rw [ih']
    | _ => rfl

theorem int32_id (i : Int) (h0 : 0 ≤ i) (h1 : i < 2147483648) : int32 i = i := by
  unfold int32
  rw [Int.emod_eq_of_lt (by omega) (by omega)]
  omega

theorem genContent_nat (start : Int) (n : Nat) (h : n ≤ 4194304) :
    genContent start (n : Int) = some ((List.range n).map (genByte start)) := by
  unfold genContent
  rw [if_neg (by omega), Int.toNat_natCast]

theorem genContent_int32 (start len : Int) (body : Bytes) (h : genContent start len = some body) :
    int32 len = (body.length : Int) := by
  unfold genContent at h
  split at h
  · cases h
  · cases h
    rw [int32_id len (by omega) (by omega), List.length_map, List.length_range]
    omega

theorem stoll_inI64 (s : Bytes) (v : Int) (h : stoll s = some v) : inI64 v = true := by
  unfold stoll at h
  simp only [Option.ite_none_left_eq_some, Option.ite_none_right_eq_some, Option.some.injEq] at h
  exact h.2.2 ▸ h.2.1

/-- what `register_content`'s lambda makes of the generated body (`none`: the generator threw) -/
def withBody (code : Nat) (msg extra : Bytes) : Option Bytes → Except HErr Bytes
  | none => .error .throw
  | some body => .ok (sendResponse code msg (body.length : Int) extra ++ body)

/-- `register_content`'s handler, exactly: the `content-length` it writes (`int(end - start)`) is the
    length of the body, and it never overflows (`end - start` is computed only for
    `0 ≤ start ≤ last < INT64_MAX`, both from `stoll`) -/
theorem contentHandler_eq (size : Int) (hdrs : HMap) :
    contentHandler size hdrs =
      match mapLookup (str "range") hdrs with
      | none => withBody 200 (str "OK") [] (genContent 0 size)
      | some v =>
        match stoll (beforeFirst 45 (afterFirst 61 v)), stoll (afterFirst 45 (afterFirst 61 v)) with
        | some a, some e =>
          if a < 0 ∨ e < a ∨ e = 9223372036854775807 then .error .throw
          else withBody 206 (str "Partial Content")
            (str "Content-Range: bytes " ++ decI a ++ [45] ++ decI e ++ [47] ++ decI (e + 1 - a) ++ CRLF)
            (genContent a (e + 1 - a))
        | _, _ => .error .throw := by
  have body (code msg extra start len) : (match genContent start len with
      | none => .error .throw
      | some body => .ok (sendResponse code msg (int32 len) extra ++ body) : Except HErr Bytes)
      = withBody code msg extra (genContent start len) := by
    cases hb : genContent start len with
    | none => rfl
    | some b => rw [withBody, genContent_int32 _ _ _ hb]
  unfold contentHandler
  cases mapLookup (str "range") hdrs with
  | none => exact body ..
  | some v =>
    dsimp only
    cases ha : stoll (beforeFirst 45 (afterFirst 61 v)) with
    | none => rfl
    | some a =>
      cases he : stoll (afterFirst 45 (afterFirst 61 v)) with
      | none => rfl
      | some e =>
        dsimp only
        by_cases hc : a < 0 ∨ e < a ∨ e = 9223372036854775807
        · rw [if_pos hc, if_pos hc]
        · have hno : inI64 (e + 1 - a) = true := by
            have h1 := stoll_inI64 _ _ ha
            have h2 := stoll_inI64 _ _ he
            simp only [inI64, decide_eq_true_eq] at h1 h2 ⊢
            omega
          rw [if_neg hc, if_neg hc, if_neg (by simp [hno]), Int.add_sub_cancel]
          exact body ..

theorem contentHandler_cases (size : Int) (hdrs : HMap) :
    contentHandler size hdrs = .error .throw ∨
    ∃ code msg extra body,
      contentHandler size hdrs = .ok (sendResponse code msg (body.length : Int) extra ++ body) := by
  have body (code msg extra) : ∀ o : Option Bytes, withBody code msg extra o = .error .throw ∨
      ∃ c m x body, withBody code msg extra o = .ok (sendResponse c m (body.length : Int) x ++ body)
    | none => .inl rfl
    | some b => .inr ⟨_, _, _, b, rfl⟩
  rw [contentHandler_eq]
  split
  · exact body ..
  · split
    · split
      · exact .inl rfl
      · exact body ..
    · exact .inl rfl

theorem findHandler_mem (path : Bytes) (l : List (Bytes × Handler)) (h : Handler)
    (hf : findHandler path l = some h) : ∃ p, (p, h) ∈ l := by
  induction l with
  | nil => simp [findHandler] at hf
  | cons e t ih =>
    obtain ⟨k, h'⟩ := e
    unfold findHandler at hf
    split at hf
    · simp at hf
      subst hf
      exact ⟨k, by simp⟩
    · obtain ⟨p, hp⟩ := ih hf
      exact ⟨p, by simp [hp]⟩

theorem answer_respond (cfg : Srv) (req : Request) (r : Bytes) (c : Bool)
    (h : answer cfg req = .respond r c) :
    c = wantsClose req.headers ∧
    (r = sendResponse 404 (str "Not Found") 0 [] ∨
      ∃ p hd, (p, hd) ∈ cfg.handlers ∧ hd.run req.headers = .ok r) := by
  unfold answer at h
  split at h
  · split at h
    · cases h
    · cases h; exact ⟨rfl, .inl rfl⟩
  · rename_i hd hfh
    obtain ⟨p, hp⟩ := findHandler_mem _ _ _ hfh
    split at h
    · cases h
    · cases h
    · rename_i x hx
      cases h
      exact ⟨rfl, .inr ⟨p, hd, hp, hx⟩⟩

theorem answer_no_ub (cfg : Srv) (req : Request) : answer cfg req ≠ .ub := by
  unfold answer
  split
  · split <;> simp
  · rename_i hd _
    split
    · simp
    · rename_i hx
      cases hd with
      | content size =>
        rcases contentHandler_cases size req.headers with h' | ⟨_, _, _, _, h'⟩ <;>
          rw [Handler.run, h'] at hx <;> cases hx
      | redirect t => cases hx
      | fixed b => cases hx
    · simp

theorem reqStep_no_ub (cfg : Srv) (b : Bytes) : reqStep cfg b ≠ .ub := by
  unfold reqStep
  split
  · simp
  · rename_i n hn
    have := parseRequest_ne_oob b n (firstBlank_bounds b n hn).2
    split
    · contradiction
    · simp
    · rename_i req _
      cases ha : answer cfg req with
      | ub => exact absurd ha (answer_no_ub cfg req)
      | _ => nofun

theorem specStream_no_ub (cfg : Srv) (b : Bytes) : (specStream cfg b).fin ≠ .ub := by
  induction hn : b.length using Nat.strongRecOn generalizing b with
  | _ n ih =>
    rw [specStream_eq]
    have := reqStep_no_ub cfg b
    cases hs : reqStep cfg b with
    | more => simp
    | fail => simp
    | stall r => simp
    | ub => exact absurd hs this
    | respond r c rest =>
      simp only
      have hl := reqStep_respond_lt cfg b r c rest hs
      split
      · simp only [Out.cons]
        exact ih rest.length (by omega) rest rfl
      · simp

theorem isDigit_facts (d : UInt8) (h : isDigit d = true) :
    d ≠ 45 ∧ d ≠ 43 ∧ isSpace d = false := by
  simp [isDigit, UInt8.le_iff_toNat_le] at h
  refine ⟨?_, ?_, ?_⟩
  · rintro rfl; simp at h
  · rintro rfl; simp at h
  · simp [isSpace, UInt8.le_iff_toNat_le, ← UInt8.toNat_inj]
    omega

theorem afterFirst_append (c : UInt8) (pre post : Bytes) (h : c ∉ pre) :
    afterFirst c (pre ++ c :: post) = post := by
  rw [afterFirst, if_pos (by simp), List.dropWhile_append_of_pos (fun a ha => bne_iff_ne.2 fun e : a = c => h (e ▸ ha)),
    List.dropWhile_cons_of_neg (by simp)]
  rfl

theorem beforeFirst_append (c : UInt8) (pre post : Bytes) (h : c ∉ pre) :
    beforeFirst c (pre ++ c :: post) = pre := by
  rw [beforeFirst, List.takeWhile_append_of_pos (fun a ha => bne_iff_ne.2 fun e : a = c => h (e ▸ ha)),
    List.takeWhile_cons_of_neg (by simp), List.append_nil]

theorem takeWhile_all (ds : Bytes) (h : ∀ d ∈ ds, isDigit d = true) : ds.takeWhile isDigit = ds := by
  simpa using List.takeWhile_append_of_pos (l₂ := []) h

theorem stoll_digits (ds : Bytes) (hne : ds ≠ []) (h : ∀ d ∈ ds, isDigit d = true)
    (hv : digitsVal ds ≤ 9223372036854775807) : stoll ds = some (digitsVal ds : Int) := by
  cases ds with
  | nil => exact absurd rfl hne
  | cons d t =>
    obtain ⟨h45, h43, hsp⟩ := isDigit_facts d (h d (by simp))
    unfold stoll
    rw [List.dropWhile_cons, hsp]
    simp only [Bool.false_eq_true, if_false]
    split
    · rename_i heq; simp at heq; exact absurd heq.1 h45
    · rename_i heq; simp at heq; exact absurd heq.1 h43
    · rw [takeWhile_all _ h]
      simp [inI64]
      omega

/-- `Range: bytes=<a>-<b>` with decimal digit strings: what the handler's two `stoll` calls see -/
theorem range_parse (da db : Bytes) (hda : da ≠ [] ∧ ∀ d ∈ da, isDigit d = true)
    (hdb : db ≠ [] ∧ ∀ d ∈ db, isDigit d = true) (ha : digitsVal da ≤ 9223372036854775807)
    (hb : digitsVal db ≤ 9223372036854775807) :
    stoll (beforeFirst 45 (afterFirst 61 (str "bytes=" ++ da ++ [45] ++ db))) = some (digitsVal da : Int) ∧
    stoll (afterFirst 45 (afterFirst 61 (str "bytes=" ++ da ++ [45] ++ db))) = some (digitsVal db : Int) := by
  have h45 : (45 : UInt8) ∉ da := fun hm => (isDigit_facts 45 (hda.2 45 hm)).1 rfl
  have h1 : afterFirst 61 (str "bytes=" ++ da ++ [45] ++ db) = da ++ 45 :: db := by
    rw [show str "bytes=" ++ da ++ [45] ++ db = [98, 121, 116, 101, 115] ++ 61 :: (da ++ 45 :: db) by
      rw [str_ofList]; simp, afterFirst_append _ _ _ (by decide)]
  rw [h1, beforeFirst_append 45 da db h45, afterFirst_append 45 da db h45]
  exact ⟨stoll_digits da hda.1 hda.2 ha, stoll_digits db hdb.1 hdb.2 hb⟩

end SimVerif.HttpServer
