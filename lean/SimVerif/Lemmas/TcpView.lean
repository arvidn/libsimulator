/-
  SimVerif.Lemmas.TcpView — what the handshake properties (C07, C13) can see of the network
  state: per socket (open, bound endpoint, forwarder, channel, pending connect, acceptor
  state: `sv`), per channel (routes, real and visible endpoints: `cv`), the forwarder table, the
  registry. One "summary" per mechanism function: the view after the call in terms of the
  view before, read off the exact descriptions of Lemmas/TcpEq.
-/
import SimVerif.AcceptSys
import SimVerif.Lemmas.TcpMtu
import SimVerif.Lemmas.NetTables
import SimVerif.Lemmas.NetTcp

namespace SimVerif
namespace Hs

structure SockV where
  isOpen   : Bool
  bound    : Ep
  fwd      : Option Nat
  chan     : Option Nat
  connectH : Option Nat
  acc      : Option AccState

def _root_.SimVerif.TcpSock.hview (s : TcpSock) : SockV := ⟨s.isOpen, s.bound, s.fwd, s.chan, s.connectH, s.acc⟩

structure ChanV where
  hops0 : List String
  hops1 : List String
  ep0   : Ep
  ep1   : Ep
  vis0  : Ep
  vis1  : Ep

def _root_.SimVerif.Chan.hview (c : Chan) : ChanV := ⟨c.hops0, c.hops1, c.ep0, c.ep1, c.vis0, c.vis1⟩

def _root_.SimVerif.NetSt.sv (n : NetSt) (o : String) : Option SockV := (n.tcp? o).map TcpSock.hview
def _root_.SimVerif.NetSt.cv (n : NetSt) (c : Nat) : Option ChanV := (n.chan? c).map Chan.hview

@[simp] theorem fwdPkts_nil : fwdPkts [] = [] := rfl
@[simp] theorem okPosts_nil : okPosts [] = [] := rfl
@[simp] theorem fwdPkts_append (a b : List NEff) : fwdPkts (a ++ b) = fwdPkts a ++ fwdPkts b := fwdsOf_append a b
@[simp] theorem okPosts_append (a b : List NEff) : okPosts (a ++ b) = okPosts a ++ okPosts b := by
  simp [okPosts, List.filterMap_append]

theorem sv_setTcp (n : NetSt) (name o : String) (t : TcpSock) :
    (n.setTcp name t).sv o = if o = name then some t.hview else n.sv o := by
  simp only [NetSt.sv, tcp?_setTcp]; split <;> simp

@[simp] theorem sv_setChan (n : NetSt) (c : Nat) (ch : Chan) (o : String) : (n.setChan c ch).sv o = n.sv o := rfl
@[simp] theorem sv_setFwd (n : NetSt) (f : Nat) (t : Option String) (o : String) : (n.setFwd f t).sv o = n.sv o := rfl
@[simp] theorem sv_newFwd (n : NetSt) (name o : String) : (n.newFwd name).1.sv o = n.sv o := rfl
@[simp] theorem cv_setTcp (n : NetSt) (name : String) (t : TcpSock) (c : Nat) : (n.setTcp name t).cv c = n.cv c := rfl
@[simp] theorem cv_setFwd (n : NetSt) (f : Nat) (t : Option String) (c : Nat) : (n.setFwd f t).cv c = n.cv c := rfl
@[simp] theorem cv_newFwd (n : NetSt) (name : String) (c : Nat) : (n.newFwd name).1.cv c = n.cv c := rfl

theorem cv_setChan (n : NetSt) (c d : Nat) (ch : Chan) :
    (n.setChan c ch).cv d = if d = c then (n.cv d).map (fun _ => ch.hview) else n.cv d := by
  simp only [NetSt.cv, chan?_setChan]; split
  · cases n.chan? d <;> simp
  · rfl

theorem sv_of_tcp? {n : NetSt} {o : String} {sk : TcpSock} (h : n.tcp? o = some sk) : n.sv o = some sk.hview := by
  simp [NetSt.sv, h]

theorem cv_of_chan {n : NetSt} {c : Nat} {ch : Chan} (h : n.chans[c]? = some ch) : n.cv c = some ch.hview := by
  simp [NetSt.cv, NetSt.chan?, h]

theorem sv_some {n : NetSt} {o : String} {v : SockV} (h : n.sv o = some v) :
    ∃ s, n.tcp? o = some s ∧ s.hview = v := Option.map_eq_some_iff.mp h

theorem _root_.SimVerif.Posts.fwdPkts {l : List NEff} (h : Posts l) : fwdPkts l = [] := h.fwds

theorem _root_.SimVerif.Aborts.okPosts {l : List NEff} (h : Aborts l) : okPosts l = [] :=
  List.filterMap_eq_nil_iff.mpr fun e he => by obtain ⟨c, rfl, hc⟩ := h e he; simp only [hc]; rfl

theorem tcpCloseEof_errs (n : NetSt) (now : Int) (name : String) (s0 : TcpSock) :
    okPosts (tcpCloseEof n now name s0).2 = [] ∧ ∀ q ∈ fwdPkts (tcpCloseEof n now name s0).2, q.ty = .err := by
  rcases tcpCloseEof_cases n now name s0 with e | ⟨_, _, -, -, e⟩ <;> rw [e]
  · exact ⟨rfl, fun _ h => nomatch h⟩
  · cases n.cfg.pcap <;> exact ⟨rfl, fun q hq => by cases List.mem_singleton.mp hq; rfl⟩

theorem closeEffs_errs (n : NetSt) (now : Int) (name : String) (s0 : TcpSock) :
    okPosts ((tcpCloseEof n now name s0).2 ++ tcpCancelEffs s0) = []
    ∧ ∀ q ∈ fwdPkts ((tcpCloseEof n now name s0).2 ++ tcpCancelEffs s0), q.ty = .err := by
  obtain ⟨h1, h2⟩ := tcpCloseEof_errs n now name s0
  rw [okPosts_append, fwdPkts_append, h1, (aborts_tcpCancelEffs s0).okPosts, (aborts_tcpCancelEffs s0).posts.fwdPkts,
    List.append_nil (fwdPkts _)]
  exact ⟨rfl, h2⟩

theorem _root_.SimVerif.CountersOnly.cv {n : NetSt} {c : Option Nat} {cs : List Chan} (h : CountersOnly n c cs) (d : Nat) :
    (cs[d]?).map Chan.hview = n.cv d := by
  have := congrArg (Option.map Chan.hview) (h.static d)
  rwa [Option.map_map, Option.map_map] at this

/-- `close`, `open`, `acceptor::close` with result `r`: socket `o`, whose view was `v`, comes out with
    the view `v'` (`fl`, `fresh`: a forwarder it has now is the next fresh one) -/
structure Reset (n : NetSt) (r : NetSt × List NEff) (o : String) (v v' : SockV) : Prop where
  cfg   : r.1.cfg = n.cfg
  fl    : r.1.fwds.length = n.fwds.length + v'.fwd.elim 0 fun _ => 1
  fresh : v'.fwd = none ∨ v'.fwd = some n.fwds.length
  cl    : r.1.chans.length = n.chans.length
  reg   : r.1.reg.tcp = if v.bound.isDefault then n.reg.tcp else simUnbind n.reg.tcp o v.bound
  np    : r.1.reg.nextPort = n.reg.nextPort
  sv    : ∀ o', r.1.sv o' = if o' = o then some v' else n.sv o'
  cv    : ∀ c, r.1.cv c = n.cv c
  ft    : ∀ g, r.1.fwdTarget g = if v'.fwd = some g then some o else if v.fwd = some g then none else n.fwdTarget g
  posts : okPosts r.2 = []
  errs  : ∀ q ∈ fwdPkts r.2, q.ty = .err

theorem tcpClose_sum (n : NetSt) (now : Int) (name : String) (v : SockV) (hv : n.sv name = some v) :
    Reset n (n.tcpClose now name) name v ⟨false, {}, none, none, none, v.acc⟩ := by
  obtain ⟨s0, hs0, rfl⟩ := sv_some hv
  obtain ⟨cs, hb, e⟩ := tcpClose_exact n now name s0 hs0
  obtain ⟨h1, h2⟩ := closeEffs_errs n now name s0
  rw [e]
  refine ⟨rfl, released_fwds_length _ name s0.bound s0.fwd, .inl rfl, hb.len, rfl, rfl, fun o => ?_, hb.cv,
    fwdTarget_released _ name s0.bound s0.fwd, h1, h2⟩
  rw [sv_setTcp]; split <;> rfl

theorem tcpOpen_sum (n : NetSt) (now : Int) (name : String) (v4 : Bool) (v : SockV) (hv : n.sv name = some v) :
    Reset n (n.tcpOpen now name v4) name v ⟨true, {}, some n.fwds.length, none, none, v.acc⟩ := by
  obtain ⟨s0, hs0, rfl⟩ := sv_some hv
  obtain ⟨cs, hb, e⟩ := tcpOpen_exact n now name v4 s0 hs0
  obtain ⟨h1, h2⟩ := closeEffs_errs n now name s0
  rw [e]
  refine ⟨rfl, by rw [fwds_setTcp, fwds_length_newFwd, released_fwds_length]; rfl, .inr rfl, hb.len, rfl, rfl, fun o => ?_,
    hb.cv, fun g => ?_, h1, h2⟩
  · rw [sv_setTcp]; split <;> rfl
  · rw [fwdTarget_setTcp, fwdTarget_newFwd, released_fwds_length, fwdTarget_released]
    by_cases hg : g = n.fwds.length
    · rw [if_pos hg, if_pos (by rw [hg])]
    · rw [if_neg hg, if_neg (fun e => hg (Option.some.inj e).symm)]; rfl

theorem cv_some {n : NetSt} {c : Nat} {v : ChanV} (h : n.cv c = some v) :
    ∃ ch, n.chan? c = some ch ∧ ch.hview = v := Option.map_eq_some_iff.mp h

theorem abortAccept_sum (s : TcpSock) :
    (s.abortAccept).1.hview = { s.hview with acc := s.acc.map (fun a => { a with acceptOp := none }) }
    ∧ okPosts (s.abortAccept).2 = [] ∧ fwdPkts (s.abortAccept).2 = [] :=
  ⟨by rw [TcpSock.abortAccept_eq]; rfl, (aborts_abortAccept s).okPosts, (aborts_abortAccept s).posts.fwdPkts⟩

theorem rstEffs_errs (n : NetSt) (l : List Nat) (src : String) :
    okPosts (rstEffs n l src) = [] ∧ ∀ q ∈ fwdPkts (rstEffs n l src), q.ty = .err := by
  unfold rstEffs
  induction l with
  | nil => exact ⟨rfl, fun _ h => nomatch h⟩
  | cons c r ih =>
    rw [List.filterMap_cons]
    cases n.chan? c with
    | none => exact ih
    | some ch =>
      refine ⟨ih.1, fun q hq => ?_⟩
      rcases List.mem_cons.mp hq with rfl | hq
      · rfl
      · exact ih.2 q hq

theorem accCheckQueue_idle (n : NetSt) (now : Int) (a : String) (va : SockV) (ac : AccState)
    (hv : n.sv a = some va) (hac : va.acc = some ac) (ho : va.isOpen = true)
    (hidle : ac.acceptOp = none ∨ ac.conns = []) :
    n.accCheckQueue now a = (n, []) := by
  obtain ⟨s0, hs0, rfl⟩ := sv_some hv
  rw [accCheckQueue_open hs0 hac now ho, accTryAccept_idle hs0 hac now hidle]

theorem accCheckQueue_closed_sum (n : NetSt) (now : Int) (a : String) (va : SockV) (ac : AccState)
    (hv : n.sv a = some va) (hac : va.acc = some ac) (ho : va.isOpen = false) :
    ∃ t e, n.accCheckQueue now a = (n.setTcp a t, e)
      ∧ t.hview = { va with acc := some { ac with conns := [], acceptOp := none } }
      ∧ okPosts e = [] ∧ (∀ q ∈ fwdPkts e, q.ty = .err) := by
  obtain ⟨s0, hs0, rfl⟩ := sv_some hv
  have h3 : okPosts (ac.acceptOp.map acceptAbortEff).toList = []
      ∧ fwdPkts (ac.acceptOp.map acceptAbortEff).toList = [] := by
    rcases ac.acceptOp with _ | (_ | _) <;> exact ⟨rfl, rfl⟩
  obtain ⟨r1, r2⟩ := rstEffs_errs n ac.conns s0.bound.toString
  refine ⟨_, _, accCheckQueue_closed n now a s0 ac hs0 hac ho, rfl, ?_, fun q hq => ?_⟩
  · rw [okPosts_append, h3.1, List.append_nil]; exact r1
  · rw [fwdPkts_append, h3.2, List.append_nil] at hq; exact r2 q hq

/-- the hand-over in `check_accept_queue` with result `r`: the oldest queued channel `c` (view `cv0`)
    goes to the socket `op.peer` (view `vp`) of the outstanding accept `op` of acceptor `a` (view `va`,
    state `ac`, queue `c :: rest`) -/
structure HandOver (n : NetSt) (r : NetSt × List NEff) (a : String) (va : SockV) (ac : AccState)
    (op : AcceptOp) (c : Nat) (rest : List Nat) (vp : SockV) (cv0 : ChanV) : Prop where
  cfg   : r.1.cfg = n.cfg
  fl    : r.1.fwds.length = n.fwds.length + 1
  cl    : r.1.chans.length = n.chans.length
  reg   : r.1.reg.tcp = if vp.bound.isDefault then n.reg.tcp else simUnbind n.reg.tcp op.peer vp.bound
  sv    : ∀ o, r.1.sv o = if o = op.peer then some ⟨true, va.bound, some n.fwds.length, some c, none, vp.acc⟩
                         else if o = a then some { va with acc := some { ac with conns := rest, acceptOp := none } }
                         else n.sv o
  cv    : ∀ d, r.1.cv d = if d = c then some { cv0 with hops1 := cv0.hops1.dropLast ++ [fwdHop n.fwds.length] } else n.cv d
  ft    : ∀ g, r.1.fwdTarget g = if g = n.fwds.length then some op.peer else if vp.fwd = some g then none else n.fwdTarget g
  posts : okPosts r.2 = [{ h := op.h, ec := .ok, extra := if op.withEp then "ep=" ++ cv0.vis0.toString else "" }]
  fwds  : ∀ q ∈ fwdPkts r.2, q.ty = .err ∨ (q.ty = .synack ∧ q.chan = some c ∧ q.hops = cv0.hops0)

theorem accCheckQueue_pop (n : NetSt) (now : Int) (a : String) (va : SockV) (ac : AccState)
    (op : AcceptOp) (c : Nat) (rest : List Nat) (vp : SockV) (cv0 : ChanV)
    (hv : n.sv a = some va) (hac : va.acc = some ac) (ho : va.isOpen = true)
    (hop : ac.acceptOp = some op) (hconns : ac.conns = c :: rest)
    (hpa : op.peer ≠ a) (hvp : n.sv op.peer = some vp) (hcv : n.cv c = some cv0) :
    HandOver n (n.accCheckQueue now a) a va ac op c rest vp cv0 := by
  obtain ⟨s0, hs0, rfl⟩ := sv_some hv
  obtain ⟨p0, hp0, rfl⟩ := sv_some hvp
  obtain ⟨ch0, hch0, rfl⟩ := cv_some hcv
  rw [accCheckQueue_open hs0 hac now ho, accTryAccept_pop hs0 hac now hop hconns]
  unfold accHandOver
  -- the state handed to `tcpAttach`: the peer and the channels are those of `n`
  generalize hn1 : n.setTcp a { s0 with acc := some { ac with conns := rest, acceptOp := none } } = n1
  have e1 : ∀ o, n1.sv o = if o = a then some { s0.hview with acc := some { ac with conns := rest, acceptOp := none } }
      else n.sv o := fun o => by rw [← hn1, sv_setTcp]; rfl
  have e10 : n1.chan? c = some ch0 := by rw [← hn1]; exact hch0
  obtain ⟨cs, hb, e⟩ := tcpAttach_exact n1 now op.peer s0.bound c p0
    (by rw [← hn1, tcp?_setTcp_other _ _ _ _ hpa]; exact hp0)
  obtain ⟨h1, h2⟩ := closeEffs_errs n1 now op.peer p0
  obtain ⟨ch, hch, hchv⟩ : ∃ ch, cs[c]? = some ch ∧ ch.hview = ch0.hview := by
    have := hb.cv c; rw [NetSt.cv, e10] at this; exact Option.map_eq_some_iff.mp this
  have hlen : n1.fwds.length = n.fwds.length ∧ n1.chans.length = n.chans.length := by rw [← hn1]; exact ⟨rfl, rfl⟩
  rw [e, hch]
  simp only [chan?_setTcp, chan?_setChan, chan?_newFwd, chan?_released, chan?_withChans, hch, if_true, Option.map_some,
    e10, Option.getD_some]
  refine ⟨by rw [← hn1]; rfl, by rw [fwds_setTcp, fwds_setChan, fwds_length_newFwd, released_fwds_length, hlen.1],
    by rw [chans_setTcp, setChan_length, ← hlen.2]; exact hb.len, by rw [← hn1]; rfl, fun o => ?_, fun d => ?_, fun g => ?_, ?_,
    fun q hq => ?_⟩
  · rw [sv_setTcp]; split
    · rw [hlen.1]; rfl
    · exact e1 o
  · rw [cv_setTcp, cv_setChan]; split
    · rename_i h; subst h
      rw [show NetSt.cv _ d = (cs[d]?).map Chan.hview from rfl, hch, hlen.1, ← hchv]; rfl
    · rw [show NetSt.cv _ d = (cs[d]?).map Chan.hview from rfl, hb.cv d, ← hn1]; rfl
  · rw [fwdTarget_setTcp, fwdTarget_setChan, fwdTarget_newFwd, released_fwds_length, fwdTarget_released, hlen.1, ← hn1]; rfl
  · rw [okPosts_append, h1]; rfl
  · rcases List.mem_append.mp (fwdPkts_append _ _ ▸ hq) with hq | hq
    · exact Or.inl (h2 q hq)
    · cases List.mem_singleton.mp hq
      exact Or.inr ⟨rfl, rfl, congrArg ChanV.hops0 hchv⟩

theorem cv_lt {n : NetSt} {c : Nat} {cv : ChanV} (h : n.cv c = some cv) : c < n.chans.length :=
  let ⟨_, h, _⟩ := cv_some h; (List.getElem?_eq_some_iff.mp h).1

theorem cv_of_lt {n : NetSt} {c : Nat} (h : c < n.chans.length) : ∃ cv, n.cv c = some cv := by
  simp [NetSt.cv, NetSt.chan?, List.getElem?_eq_getElem h]

theorem sv_upd_cases {n n' : NetSt} {a : String} {v' : SockV}
    (hsv : ∀ o, n'.sv o = if o = a then some v' else n.sv o) {o : String} {v : SockV} (h : n'.sv o = some v) :
    (o = a ∧ v = v') ∨ (o ≠ a ∧ n.sv o = some v) := by
  rw [hsv] at h
  split at h
  · exact Or.inl ⟨‹_›, (Option.some.inj h).symm⟩
  · exact Or.inr ⟨‹_›, h⟩

theorem sv_upd_cases2 {n n' : NetSt} {p a : String} {vp va : SockV}
    (hsv : ∀ o, n'.sv o = if o = p then some vp else if o = a then some va else n.sv o)
    {o : String} {v : SockV} (h : n'.sv o = some v) :
    (o = p ∧ v = vp) ∨ (o ≠ p ∧ o = a ∧ v = va) ∨ (o ≠ p ∧ o ≠ a ∧ n.sv o = some v) := by
  rw [hsv] at h
  split at h
  · exact Or.inl ⟨‹_›, (Option.some.inj h).symm⟩
  · split at h
    · exact Or.inr (Or.inl ⟨‹_›, ‹_›, (Option.some.inj h).symm⟩)
    · exact Or.inr (Or.inr ⟨‹_›, ‹_›, h⟩)

theorem cv_append (n : NetSt) (ch : Chan) (d : Nat) :
    ({ n with chans := n.chans ++ [ch] } : NetSt).cv d = if d = n.chans.length then some ch.hview else n.cv d := by
  simp only [NetSt.cv, NetSt.chan?]
  by_cases hd : d = n.chans.length
  · subst hd; simp
  · simp only [hd, if_false]
    by_cases hlt : d < n.chans.length
    · rw [List.getElem?_append_left hlt]
    · have h1 : n.chans.length ≤ d := by omega
      rw [List.getElem?_eq_none (by simpa using (by omega : n.chans.length + 1 ≤ d)), List.getElem?_eq_none h1]

theorem accClose_sum (n : NetSt) (now : Int) (a : String) (va : SockV) (ac : AccState)
    (hv : n.sv a = some va) (hac : va.acc = some ac) :
    Reset n (n.accClose now a) a va
      ⟨false, {}, none, none, none, some { ac with queueLimit := -1, conns := [], acceptOp := none }⟩ := by
  obtain ⟨s0, hs0, rfl⟩ := sv_some hv
  obtain ⟨cs, hb, e⟩ := accClose_exact n now a s0 hs0
  obtain ⟨h1, h2⟩ := tcpCloseEof_errs n now a s0
  rw [e, show s0.acc = some ac from hac]
  refine ⟨rfl, released_fwds_length _ a s0.bound s0.fwd, .inl rfl, hb.len, rfl, rfl, fun o => ?_, hb.cv,
    fwdTarget_released _ a s0.bound s0.fwd, ?_, fun q hq => ?_⟩
  · rw [sv_setTcp]; split <;> rfl
  · rw [okPosts_append, okPosts_append, okPosts_append, (aborts_tcpAbortAcceptEffs s0).okPosts, h1,
      (aborts_tcpCancelEffs s0).okPosts, rstEffs_errs n _ _ |>.1]; rfl
  · rw [fwdPkts_append, fwdPkts_append, fwdPkts_append, (aborts_tcpAbortAcceptEffs s0).posts.fwdPkts,
      (aborts_tcpCancelEffs s0).posts.fwdPkts, List.nil_append, List.append_nil] at hq
    exact (List.mem_append.mp hq).elim (h2 q) ((rstEffs_errs n _ _).2 q)

/-- a bind of socket `name` (object `s`) with result `r`: the explicit call, its registry half
    `NetSt.tcpBound`, or the implicit one of `async_connect` -/
structure Bound (n : NetSt) (r : NetSt × Ec) (name : String) (s : TcpSock) : Prop where
  cfg   : r.1.cfg = n.cfg
  fwds  : r.1.fwds = n.fwds
  chans : r.1.chans = n.chans
  np    : 0 < r.1.reg.nextPort
  reg   : (r.1.reg.tcp = n.reg.tcp ∧ (∀ o, r.1.tcp? o = n.tcp? o))
          ∨ (r.2 = .ok ∧ ∃ ep2, n.reg.tcp.lookup ep2 = none ∧ ep2.isDefault = false
               ∧ r.1.reg.tcp = n.reg.tcp ++ [(ep2, name)]
               ∧ ∀ o, r.1.tcp? o = if o = name then some { s with bound := ep2 } else n.tcp? o)

theorem Bound.same {n : NetSt} (h : 0 < n.reg.nextPort) (e : Ec) (name : String) (s : TcpSock) : Bound n (n, e) name s :=
  ⟨rfl, rfl, rfl, h, Or.inl ⟨rfl, fun _ => rfl⟩⟩

theorem tcpBound_sum (n : NetSt) (name : String) (s : TcpSock) (ep1 : Ep) (h : 0 < n.reg.nextPort) :
    Bound n (n.tcpBound name s ep1) name s := by
  unfold NetSt.tcpBound
  have hb := simBind_bumped n.reg.tcp n.reg.nextPort name ep1
  rcases hsb : simBind n.reg.tcp n.reg.nextPort name ep1 with ⟨tbl, np, r⟩
  rw [hsb] at hb
  have hnp : 0 < np := by
    rcases hb with e | e <;> rw [show np = _ from e]
    · exact h
    · split <;> omega
  cases r with
  | error e =>
    cases simBind_error _ _ _ _ _ _ _ hsb
    exact ⟨rfl, rfl, rfl, hnp, Or.inl ⟨rfl, fun _ => rfl⟩⟩
  | ok ep2 =>
    obtain ⟨rfl, hfree, _, hx, h0⟩ := simBind_ok _ _ _ _ _ _ _ hsb
    -- ephemeral ports start at a positive number, explicit ones are ≥ 1024: never `0.0.0.0:0`
    have hp : ep2.port ≠ 0 := by
      by_cases hz : ep1.port = 0
      · have := (h0 hz).1; omega
      · obtain ⟨rfl, hge, _⟩ := hx hz; omega
    exact ⟨rfl, rfl, rfl, hnp, Or.inr ⟨rfl, ep2, hfree, by simp [Ep.isDefault, hp], rfl, fun o => by rw [tcp?_setTcp]; rfl⟩⟩

theorem tcpBind_sum (n : NetSt) (name : String) (ep : Ep) (s0 : TcpSock) (hs0 : n.tcp? name = some s0)
    (h : 0 < n.reg.nextPort) :
    Bound n (n.tcpBind name ep) name s0
    ∧ ∀ ep2, (n.tcpBind name ep).1.reg.tcp = n.reg.tcp ++ [(ep2, name)] → s0.bound.isDefault = true := by
  rcases tcpBind_cases n name ep with ⟨e, -, he⟩ | ⟨s, ep1, hpre⟩
  · rw [he]; exact ⟨.same h e name s0, fun _ hn => by have := congrArg List.length hn; simp at this⟩
  · rw [tcpBind_pre n name ep s ep1 hpre]
    cases hs0.symm.trans hpre.1
    exact ⟨tcpBound_sum n name s0 ep1 h, fun _ _ => hpre.2.2.2.1⟩

/-- the implicit bind to the wildcard of the target's family, ephemeral port -/
theorem connBind_sum (n : NetSt) (name : String) (s : TcpSock) (target : Ep) (h : 0 < n.reg.nextPort) :
    Bound n (n.tcpConnectBind name target s) name s := by
  rw [tcpConnectBind_eq]
  split
  · cases ioResolve (n.cfg.ipsOf s.node) { addr := if target.isV4 = true then "0.0.0.0" else "::", port := 0 } with
    | error e => exact .same h e name s
    | ok ep1 => exact tcpBound_sum n name s ep1 h
  · exact .same h .ok name s

/-! only `bind` moves the ephemeral-port counter (`close`, `open`, `acceptor::close`: `Reset.np`; attach:
`tcpAttach_np`, Lemmas/NetTcp.lean) -/

theorem accCheckQueue_np (n : NetSt) (now : Int) (name : String) :
    (n.accCheckQueue now name).1.reg.nextPort = n.reg.nextPort := by
  cases hs : n.tcp? name with
  | none => unfold NetSt.accCheckQueue; simp only [hs]
  | some s0 =>
    cases hac : s0.acc with
    | none => rw [accCheckQueue_noacc n now name s0 hs hac]
    | some ac =>
      cases ho : s0.isOpen with
      | false => rw [accCheckQueue_closed n now name s0 ac hs hac ho]; rfl
      | true =>
        rw [accCheckQueue_open hs hac now ho]
        by_cases hidle : ac.acceptOp = none ∨ ac.conns = []
        · rw [accTryAccept_idle hs hac now hidle]
        · obtain ⟨op, hop⟩ := Option.ne_none_iff_exists'.mp fun e => hidle (.inl e)
          obtain ⟨c, rest, hc⟩ := List.exists_cons_of_ne_nil fun e => hidle (.inr e)
          rw [accTryAccept_pop hs hac now hop hc]
          unfold accHandOver
          simp only
          split <;> exact tcpAttach_np _ _ _ _ _

theorem accIncoming_np (n : NetSt) (now : Int) (a : String) (pk : Pkt) :
    (n.accIncoming now a pk).1.reg.nextPort = n.reg.nextPort := by
  unfold NetSt.accIncoming
  split
  · split
    · rw [accCheckQueue_np]; rfl
    · rfl
  · rfl
  · rfl

end Hs
end SimVerif
