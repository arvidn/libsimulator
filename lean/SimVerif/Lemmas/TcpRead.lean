/-
  SimVerif.Lemmas.TcpRead — the reader-side socket functions of SimVerif/Tcp.lean, one table
  each. The table of `maybeWakeupReader` gives the socket, the ghost event (`wakeRead`,
  StreamSys.lean) and the completions posted (`wakeCompl`) row by row, so that what the ghost
  records and what the handler is told come from the same call.
-/
import SimVerif.Lemmas.TcpBasic

namespace SimVerif

/-- an error packet with no byte queued before it: what makes a read / wait report it -/
def EofHead (q : List Pkt) : Prop := ∃ pre p rest, q = pre ++ p :: rest ∧ p.ty = .err ∧ bytesOf pre = []

def QDrop (q q' : List Pkt) : Prop := q' = q ∨ ∃ p rest, q = p :: rest ∧ p.ty = .err ∧ q' = rest

/-- how the reader's queue may change together with what the reader is told -/
def RdOk (q : List Pkt) (ev : Option RdEv) (q' : List Pkt) : Prop :=
  match ev with
  | some (.data d) => d ++ bytesOf q' = bytesOf q ∧ TqRel q' q
  | some (.err e) => QDrop q q' ∧ (e = .eof → EofHead q)
  | none => QDrop q q'

theorem QDrop.refl (q : List Pkt) : QDrop q q := Or.inl rfl

theorem RdOk.error {q q' : List Pkt} {e : Ec} (hd : QDrop q q') (he : e = .eof → EofHead q) :
    RdOk q (rdEvOf (.error e)) q' := by
  cases e <;> first | exact hd | exact ⟨hd, he⟩

theorem readSome_fail (s : TcpSock) (hc : Bool) (caps : List Nat)
    (h : s.isOpen = false ∨ hc = false ∨ s.connectH ≠ none ∨ s.inq = []) :
    s.readSome hc caps =
      (s, .error (if s.isOpen then (if hc then .wouldBlock else .notConn) else .badDesc)) := by
  unfold TcpSock.readSome
  by_cases h1 : s.isOpen = true
  · by_cases h2 : hc = true
    · cases h3 : s.connectH with
      | some _ => simp [h1, h2]
      | none =>
        have h4 : s.inq = [] := by simpa [h1, h2, h3] using h
        simp [h1, h2, h4]
    · simp [h1, h2]
  · simp [h1]

theorem readSome_err (s : TcpSock) (caps : List Nat) (p : Pkt) (rest : List Pkt)
    (h1 : s.isOpen = true) (h3 : s.connectH = none) (h4 : s.inq = p :: rest) (h5 : p.ty = .err) :
    s.readSome true caps = ({ s with inq := rest, chan := none }, .error p.ec) := by
  unfold TcpSock.readSome
  simp [h1, h3, h4, h5]

theorem readSome_data (s : TcpSock) (caps : List Nat) (p : Pkt) (rest : List Pkt)
    (h1 : s.isOpen = true) (h3 : s.connectH = none) (h4 : s.inq = p :: rest) (h5 : p.ty ≠ .err) :
    s.readSome true caps =
      ({ s with inq := (takeQueued (s.inq.length + 1) (caps.foldl (· + ·) 0) s.inq).2 },
       .ok (takeQueued (s.inq.length + 1) (caps.foldl (· + ·) 0) s.inq).1) := by
  unfold TcpSock.readSome
  simp [h1, h3, h4, h5]

theorem readSome_cases (s : TcpSock) (hc : Bool) (caps : List Nat) :
    ((s.isOpen = false ∨ hc = false ∨ s.connectH ≠ none ∨ s.inq = [])
      ∧ s.readSome hc caps =
          (s, .error (if s.isOpen then (if hc then .wouldBlock else .notConn) else .badDesc)))
    ∨ ∃ p rest, hc = true ∧ s.isOpen = true ∧ s.connectH = none ∧ s.inq = p :: rest
        ∧ ((p.ty = .err ∧ s.readSome hc caps = ({ s with inq := rest, chan := none }, .error p.ec))
          ∨ (p.ty ≠ .err ∧ s.readSome hc caps =
              ({ s with inq := (takeQueued (s.inq.length + 1) (caps.foldl (· + ·) 0) s.inq).2 },
               .ok (takeQueued (s.inq.length + 1) (caps.foldl (· + ·) 0) s.inq).1))) := by
  by_cases h : s.isOpen = false ∨ hc = false ∨ s.connectH ≠ none ∨ s.inq = []
  · exact .inl ⟨h, readSome_fail s hc caps h⟩
  · obtain ⟨h1, h2, h3, h4⟩ : s.isOpen = true ∧ hc = true ∧ s.connectH = none ∧ s.inq ≠ [] := by
      simpa [not_or] using h
    subst h2
    cases hq : s.inq with
    | nil => exact absurd hq h4
    | cons p rest =>
      refine .inr ⟨p, rest, rfl, h1, h3, rfl, ?_⟩
      by_cases hp : p.ty = .err
      · exact .inl ⟨hp, readSome_err s caps p rest h1 h3 hq hp⟩
      · exact .inr ⟨hp, hq ▸ readSome_data s caps p rest h1 h3 hq hp⟩

theorem s5_readSome_spec (s : TcpSock) (hc : Bool) (caps : List Nat) :
    (s.readSome hc caps).1.nextIn = s.nextIn ∧ (s.readSome hc caps).1.reorder = s.reorder ∧
    RdOk s.inq (rdEvOf (s.readSome hc caps).2) (s.readSome hc caps).1.inq := by
  rcases readSome_cases s hc caps with ⟨_, e⟩ | ⟨p, rest, _, _, _, hq, ⟨hp, e⟩ | ⟨_, e⟩⟩ <;> rw [e]
  · exact ⟨rfl, rfl, .error (.refl _) fun h => by split at h <;> (try split at h) <;> cases h⟩
  · exact ⟨rfl, rfl, .error (.inr ⟨p, rest, hq, hp, rfl⟩) fun _ => ⟨[], p, rest, hq, hp, rfl⟩⟩
  · exact ⟨rfl, rfl, takeQueued_spec _ _ _⟩

theorem readSome_congr (s t : TcpSock) (hc : Bool) (caps : List Nat)
    (h1 : t.isOpen = s.isOpen) (h2 : t.connectH = s.connectH) (h3 : t.inq = s.inq) :
    (t.readSome hc caps).2 = (s.readSome hc caps).2 := by
  rcases readSome_cases s hc caps with ⟨hf, e⟩ | ⟨p, rest, rfl, ho, hn, hq, ⟨hp, e⟩ | ⟨hp, e⟩⟩ <;> rw [e]
  · rw [readSome_fail t hc caps (by rw [h1, h2, h3]; exact hf), h1]
  · rw [readSome_err t caps p rest (h1 ▸ ho) (h2 ▸ hn) (h3 ▸ hq) hp]
  · rw [readSome_data t caps p rest (h1 ▸ ho) (h2 ▸ hn) (h3 ▸ hq) hp, h3]

theorem available_go_spec : ∀ (q : List Pkt) (acc : Nat) (e : Ec),
    TcpSock.available.go q acc = .error e → acc = 0 ∧ EofHead q := by
  intro q
  induction q with
  | nil => intro acc e h; simp [TcpSock.available.go] at h
  | cons p rest ih =>
    intro acc e h
    unfold TcpSock.available.go at h
    split at h
    · rename_i hty
      split at h
      · cases h
      · exact ⟨by omega, [], p, rest, rfl, by simpa using hty, rfl⟩
    · obtain ⟨h0, pre, x, r, hq, hx, hp⟩ := ih _ e h
      have hl : p.payload = [] := List.eq_nil_of_length_eq_zero (by omega)
      exact ⟨by omega, p :: pre, x, r, by simp [hq], hx, by simp [hl, hp]⟩

theorem available_spec (s : TcpSock) (hc : Bool) (e : Ec) (h : s.available hc = .error e) :
    e = .eof → EofHead s.inq := by
  unfold TcpSock.available at h
  split at h
  · cases h; intro h; cases h
  · split at h
    · cases h; intro h; cases h
    · intro _; exact (available_go_spec _ _ _ h).2

theorem available_congr (s t : TcpSock) (hc : Bool) (h1 : t.isOpen = s.isOpen) (h3 : t.inq = s.inq) :
    t.available hc = s.available hc := by
  unfold TcpSock.available
  rw [h1, h3]

theorem available_eq_go (s : TcpSock) (h : s.isOpen = true) : s.available true = TcpSock.available.go s.inq 0 := by
  unfold TcpSock.available; simp [h]

/-- what a wait tells the reader when it completes (the twin of `rdEvOf`): the error, if any -/
def waitEvOf : Except Ec Nat → Option RdEv
  | .error e => some (.err e)
  | .ok _ => none

theorem RdOk.avail (s : TcpSock) (hc : Bool) : RdOk s.inq (waitEvOf (s.available hc)) s.inq := by
  cases ha : s.available hc with
  | ok k => exact .refl _
  | error e => exact ⟨.refl _, available_spec s _ e ha⟩

theorem s5_asyncReadImpl_spec (s : TcpSock) (op : ReadOp) :
    (s.asyncReadImpl op).1.nextIn = s.nextIn ∧ (s.asyncReadImpl op).1.reorder = s.reorder ∧
    RdOk s.inq (rdEvOf (s.readSome s.chan.isSome op.caps).2) (s.asyncReadImpl op).1.inq ∧
    s5_fwdsOf (s.asyncReadImpl op).2 = [] := by
  have h := s5_readSome_spec s s.chan.isSome op.caps
  rcases asyncReadImpl_rows s op with ⟨hr, e⟩ | ⟨c, -, -, e⟩ <;> rw [e]
  · rw [hr]; exact ⟨rfl, rfl, QDrop.refl _, rfl⟩
  · exact ⟨h.1, h.2.1, h.2.2, rfl⟩

theorem asyncReadImpl_posts (s : TcpSock) (op : ReadOp) :
    postsOf (s.asyncReadImpl op).2 = readCompl op.h (s.readSome s.chan.isSome op.caps).2 := by
  rcases asyncReadImpl_rows s op with ⟨hr, e⟩ | ⟨c, -, hc, e⟩ <;> rw [e]
  · rw [hr]; rfl
  · exact hc.symm

theorem s5_asyncWaitReadImpl_spec (s : TcpSock) (h : Nat) :
    (s.asyncWaitReadImpl h).1.nextIn = s.nextIn ∧ (s.asyncWaitReadImpl h).1.reorder = s.reorder ∧
    (s.asyncWaitReadImpl h).1.inq = s.inq ∧ s5_fwdsOf (s.asyncWaitReadImpl h).2 = [] := by
  rcases asyncWaitReadImpl_rows s h with ⟨-, e⟩ | ⟨c, -, -, e⟩ <;> rw [e] <;> exact ⟨rfl, rfl, rfl, rfl⟩

theorem asyncWaitReadImpl_posts (s : TcpSock) (h : Nat) :
    postsOf (s.asyncWaitReadImpl h).2 = waitCompl h (s.available s.chan.isSome) := by
  rcases asyncWaitReadImpl_rows s h with ⟨ha, e⟩ | ⟨c, -, hc, e⟩ <;> rw [e]
  · rw [ha]; rfl
  · exact hc.symm

theorem abortRecv_s5_fwdsOf (s : TcpSock) : s5_fwdsOf s.abortRecv.2 = [] := (aborts_tcpAbortRecvEffs s).posts.s5_fwdsOf

/-- the completions `maybe_wakeup_reader()` posts (same case analysis as `wakeRead`) -/
def TcpSock.wakeCompl (tp : TParams) (s : TcpSock) : List Compl :=
  let skip := if tp.wakeReaderFixed then s.inq.isEmpty else s.inq.length != 1
  if skip || (s.recvH.isNone && s.waitRecvH.isNone) then []
  else if s.recvNull then
    match s.waitRecvH with
    | some h => waitCompl h (s.available s.chan.isSome)
    | none => []
  else
    match s.recvH with
    | some op => readCompl op.h (s.readSome s.chan.isSome op.caps).2
    | none => []

/-- `maybe_wakeup_reader()` does nothing, or completes the pending wait, or the pending read; ghost
    event and completions of a row come from the one `available` / `readSome` call made there -/
theorem wake_cases (tp : TParams) (s : TcpSock) :
    (s.maybeWakeupReader tp = (s, []) ∧ s.wakeRead tp = none ∧ s.wakeCompl tp = []
      ∧ ((if tp.wakeReaderFixed then s.inq.isEmpty else s.inq.length != 1) = true
          ∨ (s.recvH = none ∧ (s.waitRecvH = none ∨ s.recvNull = false))
          ∨ (s.waitRecvH = none ∧ s.recvNull = true)))
    ∨ (∃ h, s.waitRecvH = some h ∧ s.maybeWakeupReader tp = ({ s with waitRecvH := none }).asyncWaitReadImpl h
        ∧ s.wakeRead tp = waitEvOf (s.available s.chan.isSome)
        ∧ s.wakeCompl tp = waitCompl h (s.available s.chan.isSome))
    ∨ (∃ op, s.recvH = some op ∧ s.maybeWakeupReader tp = ({ s with recvH := none }).asyncReadImpl op
        ∧ s.wakeRead tp = rdEvOf (s.readSome s.chan.isSome op.caps).2
        ∧ s.wakeCompl tp = readCompl op.h (s.readSome s.chan.isSome op.caps).2) := by
  unfold TcpSock.maybeWakeupReader TcpSock.wakeRead TcpSock.wakeCompl
  dsimp only
  generalize (if tp.wakeReaderFixed = true then s.inq.isEmpty else s.inq.length != 1) = skip
  by_cases h1 : (skip || (s.recvH.isNone && s.waitRecvH.isNone)) = true
  · rw [if_pos h1, if_pos h1, if_pos h1]
    refine .inl ⟨rfl, rfl, rfl, ?_⟩
    simp only [Bool.or_eq_true, Bool.and_eq_true, Option.isNone_iff_eq_none] at h1
    exact h1.imp id fun h => .inl ⟨h.1, .inl h.2⟩
  · rw [if_neg h1, if_neg h1, if_neg h1]
    cases h2 : s.recvNull
    · cases h3 : s.recvH with
      | none => exact .inl ⟨rfl, rfl, rfl, .inr (.inl ⟨rfl, .inr rfl⟩)⟩
      | some op => exact .inr (.inr ⟨op, rfl, rfl, rfl, rfl⟩)
    · cases h3 : s.waitRecvH with
      | none => exact .inl ⟨rfl, rfl, rfl, .inr (.inr ⟨rfl, rfl⟩)⟩
      | some h => exact .inr (.inl ⟨h, rfl, rfl, rfl, rfl⟩)

theorem s5_maybeWakeupReader_spec (tp : TParams) (s : TcpSock) :
    (s.maybeWakeupReader tp).1.nextIn = s.nextIn ∧ (s.maybeWakeupReader tp).1.reorder = s.reorder ∧
    RdOk s.inq (s.wakeRead tp) (s.maybeWakeupReader tp).1.inq ∧
    s5_fwdsOf (s.maybeWakeupReader tp).2 = [] := by
  rcases wake_cases tp s with ⟨e, hr, _⟩ | ⟨h, -, e, hr, _⟩ | ⟨op, -, e, hr, _⟩ <;> rw [e, hr]
  · exact ⟨rfl, rfl, .refl _, rfl⟩
  · obtain ⟨hnx, hro, hinq, hfw⟩ := s5_asyncWaitReadImpl_spec { s with waitRecvH := none } h
    exact ⟨hnx, hro, by rw [hinq]; exact RdOk.avail s _, hfw⟩
  · have hs := s5_asyncReadImpl_spec { s with recvH := none } op
    rw [← readSome_congr s { s with recvH := none } s.chan.isSome op.caps rfl rfl rfl]
    exact hs

theorem maybeWakeupReader_posts (tp : TParams) (s : TcpSock) :
    postsOf (s.maybeWakeupReader tp).2 = s.wakeCompl tp := by
  rcases wake_cases tp s with ⟨e, _, hc, -⟩ | ⟨h, -, e, _, hc⟩ | ⟨op, -, e, _, hc⟩ <;> rw [e, hc]
  · rfl
  · rw [asyncWaitReadImpl_posts, available_congr s { s with waitRecvH := none } _ rfl rfl]
  · rw [asyncReadImpl_posts, readSome_congr s { s with recvH := none } s.chan.isSome op.caps rfl rfl rfl]

/-- the completions `cs` tell the reader what the ghost event `ev` records: data with exactly those
    bytes, an error with that code, or — nothing recorded — at most a wait completing with success -/
def EvCompl (ev : Option RdEv) (cs : List Compl) : Prop :=
  (∀ d, ev = some (.data d) → ∃ h, cs = [{ h := h, ec := .ok, extra := readExtra d, data := d }])
  ∧ (∀ e, ev = some (.err e) → ∃ h x, cs = [{ h := h, ec := e, extra := x }])
  ∧ (ev = none → ∀ c ∈ cs, c.ec = .ok ∧ c.extra = "")

theorem EvCompl.nil : EvCompl none [] := by
  refine ⟨fun _ h => ?_, fun _ h => ?_, fun _ _ hc => ?_⟩
  · cases h
  · cases h
  · cases hc

theorem EvCompl.error (h : Nat) (e : Ec) (x : String) : EvCompl (some (.err e)) [{ h := h, ec := e, extra := x }] := by
  refine ⟨fun _ hd => ?_, fun _ he => ?_, fun hn => ?_⟩
  · cases hd
  · cases he; exact ⟨_, _, rfl⟩
  · cases hn

theorem EvCompl.read (h : Nat) (r : Except Ec (List UInt8)) : EvCompl (rdEvOf r) (readCompl h r) := by
  cases r with
  | ok d =>
    refine ⟨fun _ hd => ?_, fun _ he => ?_, fun hn => ?_⟩
    · cases hd; exact ⟨_, rfl⟩
    · cases he
    · cases hn
  | error e => cases e <;> first | exact .nil | exact .error _ _ _

theorem EvCompl.wait (h : Nat) (a : Except Ec Nat) :
    EvCompl (waitEvOf a) (waitCompl h a) := by
  cases a with
  | error e => exact .error _ _ _
  | ok k =>
    refine ⟨fun _ hd => (nomatch hd), fun _ he => (nomatch he), fun _ c hc => ?_⟩
    by_cases hk : k > 0
    · rw [show waitCompl h (.ok k) = [{ h := h, ec := .ok }] from if_pos hk] at hc
      cases List.mem_singleton.mp hc; exact ⟨rfl, rfl⟩
    · rw [show waitCompl h (.ok k) = [] from if_neg hk] at hc; cases hc

theorem wakeRead_wakeCompl (tp : TParams) (s : TcpSock) : EvCompl (s.wakeRead tp) (s.wakeCompl tp) := by
  rcases wake_cases tp s with ⟨_, hr, hc, -⟩ | ⟨h, -, _, hr, hc⟩ | ⟨op, -, _, hr, hc⟩ <;> rw [hr, hc]
  · exact .nil
  · exact .wait _ _
  · exact .read _ _

end SimVerif
