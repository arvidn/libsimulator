/-
  The header map (`std::map<std::string,std::string>` as a sorted association list):
  `bytesLt` is a strict total order, `mapInsert` keeps the list strictly sorted
  and has insert-or-assign lookup semantics.
-/
import SimVerif.HttpSpec

namespace SimVerif.Http

theorem bytesLt_irrefl (a : Bytes) : bytesLt a a = false := by
  induction a with
  | nil => rfl
  | cons x t ih =>
    unfold bytesLt
    have : ¬ x < x := by rw [UInt8.lt_iff_toNat_lt]; omega
    simp [this, ih]

theorem bytesLt_total (a : Bytes) : ∀ b : Bytes, bytesLt a b = false → a ≠ b → bytesLt b a = true := by
  induction a with
  | nil =>
    intro b h1 h2
    cases b with
    | nil => exact absurd rfl h2
    | cons y t => simp [bytesLt] at h1
  | cons x t ih =>
    intro b h1 h2
    cases b with
    | nil => simp [bytesLt]
    | cons y u =>
      unfold bytesLt at h1 ⊢
      simp at h1 ⊢
      by_cases hxy : x = y
      · subst hxy
        right
        refine ⟨rfl, ih u ?_ ?_⟩
        · cases hb : bytesLt t u with
          | false => rfl
          | true => exact absurd hb (by simpa using h1.2 rfl)
        · intro h; exact h2 (by rw [h])
      · left
        have h3 := h1.1
        simp only [UInt8.lt_iff_toNat_lt, UInt8.le_iff_toNat_le] at h3 ⊢
        have : x.toNat ≠ y.toNat := fun h => hxy (UInt8.toNat_inj.mp h)
        omega

theorem bytesLt_trans (a : Bytes) : ∀ b c : Bytes, bytesLt a b = true → bytesLt b c = true →
    bytesLt a c = true := by
  induction a with
  | nil =>
    intro b c h1 h2
    cases b with
    | nil => simp [bytesLt] at h1
    | cons y u =>
      cases c with
      | nil => simp [bytesLt] at h2
      | cons z w => simp [bytesLt]
  | cons x t ih =>
    intro b c h1 h2
    cases b with
    | nil => simp [bytesLt] at h1
    | cons y u =>
      cases c with
      | nil => simp [bytesLt] at h2
      | cons z w =>
        unfold bytesLt at h1 h2 ⊢
        simp at h1 h2 ⊢
        rcases h1 with h1 | ⟨h1, h1'⟩ <;> rcases h2 with h2 | ⟨h2, h2'⟩
        · left; rw [UInt8.lt_iff_toNat_lt] at *; omega
        · left; subst h2; exact h1
        · left; subst h1; exact h2
        · right; subst h1; subst h2; exact ⟨rfl, ih u w h1' h2'⟩

/-- Keys strictly increasing (adjacent form). -/
def sortedKeys : HMap → Prop
  | [] => True
  | [_] => True
  | a :: b :: t => bytesLt a.1 b.1 = true ∧ sortedKeys (b :: t)

theorem sortedKeys_tail (a : Bytes × Bytes) (t : HMap) (h : sortedKeys (a :: t)) : sortedKeys t := by
  cases t with
  | nil => trivial
  | cons b t' => exact h.2

theorem mapInsert_head (k v : Bytes) (m : HMap) :
    ∃ hd tl, mapInsert k v m = hd :: tl ∧ (hd.1 = k ∨ ∃ tl', m = hd :: tl') := by
  cases m with
  | nil => exact ⟨(k, v), [], rfl, Or.inl rfl⟩
  | cons a t =>
    obtain ⟨k', v'⟩ := a
    unfold mapInsert
    split
    · exact ⟨(k, v), _, rfl, Or.inl rfl⟩
    · split
      · exact ⟨(k, v), _, rfl, Or.inl rfl⟩
      · exact ⟨(k', v'), _, rfl, Or.inr ⟨t, rfl⟩⟩

theorem mapInsert_sorted (k v : Bytes) (m : HMap) (h : sortedKeys m) : sortedKeys (mapInsert k v m) := by
  induction m with
  | nil => trivial
  | cons a t ih =>
    obtain ⟨k', v'⟩ := a
    unfold mapInsert
    split
    · rename_i hlt
      exact ⟨hlt, h⟩
    · rename_i hnlt
      split
      · rename_i heq
        subst heq
        cases t with
        | nil => trivial
        | cons b t' => exact ⟨h.1, h.2⟩
      · rename_i hne
        have hgt : bytesLt k' k = true :=
          bytesLt_total k k' (by simpa using hnlt) hne
        have iht := ih (sortedKeys_tail _ _ h)
        obtain ⟨hd, tl, he, hcase⟩ := mapInsert_head k v t
        rw [he] at iht ⊢
        refine ⟨?_, iht⟩
        rcases hcase with hk | ⟨tl', ht⟩
        · simp only; rw [hk]; exact hgt
        · subst ht; exact h.1

theorem mapLookup_mapInsert (k v k' : Bytes) (m : HMap) :
    mapLookup k' (mapInsert k v m) = if k' = k then some v else mapLookup k' m := by
  induction m with
  | nil => simp [mapInsert, mapLookup]
  | cons a t ih =>
    obtain ⟨k1, v1⟩ := a
    unfold mapInsert
    split
    · simp [mapLookup]
    · split
      · rename_i heq
        subst heq
        simp only [mapLookup]
        split <;> rfl
      · rename_i hne
        simp only [mapLookup]
        rw [ih]
        by_cases h1 : k' = k1
        · subst h1
          have : ¬ k' = k := fun h => hne h.symm
          simp [this]
        · simp [h1]

theorem canonHeaders_sorted (hs : List (Bytes × Bytes)) : sortedKeys (canonHeaders hs) := by
  unfold canonHeaders
  suffices h : ∀ m, sortedKeys m → sortedKeys
      (hs.foldl (fun m h => mapInsert (lowerCase (trimSpec h.1)) (trimSpec h.2) m) m) from
    h [] trivial
  induction hs with
  | nil => intro m hm; exact hm
  | cons a t ih => intro m hm; exact ih _ (mapInsert_sorted _ _ _ hm)

/-- "every header under its lower-cased trimmed name, the last duplicate wins". -/
theorem canonHeaders_lookup (hs : List (Bytes × Bytes)) (k : Bytes) :
    mapLookup k (canonHeaders hs)
      = hs.foldl (fun acc h => if k = lowerCase (trimSpec h.1) then some (trimSpec h.2) else acc) none := by
  unfold canonHeaders
  suffices h : ∀ m, mapLookup k
      (hs.foldl (fun m h => mapInsert (lowerCase (trimSpec h.1)) (trimSpec h.2) m) m)
      = hs.foldl (fun acc h => if k = lowerCase (trimSpec h.1) then some (trimSpec h.2) else acc)
          (mapLookup k m) from h []
  induction hs with
  | nil => intro m; rfl
  | cons a t ih =>
    intro m
    simp only [List.foldl_cons]
    rw [ih, mapLookup_mapInsert]

end SimVerif.Http
