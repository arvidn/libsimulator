/-
  SimVerif.Lemmas.NetUdp — the UDP mechanism functions of SimVerif/Net.lean: what each does to the
  socket objects (`*_udp?`), and to the registry as an operation on the UDP view `NetSt.rvU`
  (Lemmas/NetView.lean) — an equation `(f n).rvU = op n.rvU` for `close`, `open` and the
  destructor, a `RStepU` for `bind`, `send_to` and move construction (which re-points ANY entry
  of the endpoint: an `RV.move` only where the invariant holds). The data-path calls are
  `NetSt.mapUdp` of a socket function (Lemmas/UdpSock.lean) and invisible to the registry (`UFrame`);
  the control-path calls in turn leave the data-path state of every socket alone (`NetSt.ctlStep`).
-/
import SimVerif.Lemmas.NetView
import SimVerif.Lemmas.UdpSend
import SimVerif.Lemmas.UdpSock

namespace SimVerif

theorem uv_setUdp (n : NetSt) (k : String) (u : UdpSock) : (n.setUdp k u).uv = setS n.uv k (some u.view) := by
  funext x; unfold NetSt.uv setS; rw [udp?_setUdp]; split <;> rfl

theorem uv_some_of_udp? {n : NetSt} {name : String} {u : UdpSock} (h : n.udp? name = some u) :
    n.uv name = some (u.isOpen, u.bound, u.fwd) := by simp [NetSt.uv, h, UdpSock.view]
theorem uv_none_of_udp? {n : NetSt} {name : String} (h : n.udp? name = none) : n.uv name = none := by
  simp [NetSt.uv, h]

theorem udpClose_udp? (n : NetSt) (name x : String) :
    (n.udpClose name).1.udp? x = if x = name then (n.udp? name).map UdpSock.closed else n.udp? x := by
  cases h : n.udp? name with
  | none => rw [udpClose_none n name h]; by_cases hx : x = name <;> simp [hx, h]
  | some u => rw [udpClose_exact n name u h]; exact udp?_setUdp _ _ _ _

theorem udpClose_rv (n : NetSt) (name : String) :
    (n.udpClose name).1.rvU = n.rvU.close name ∧ TcpUntouched n (n.udpClose name).1 := by
  cases h : n.udp? name with
  | none => rw [udpClose_none n name h, RV.close_none (uv_none_of_udp? h)]; exact ⟨rfl, .refl n⟩
  | some u =>
    rw [udpClose_exact n name u h, RV.close_some (uv_some_of_udp? h)]
    have hf := fwds_detach (n := n) (n' := n.releasedU name u.bound u.fwd) (fo := u.fwd) rfl
    exact ⟨RV.ext rfl (uv_setUdp _ _ _) rfl hf.1 hf.2 rfl, ⟨rfl, rfl, rfl⟩⟩

theorem udpClose_rstep {b : Bool} (n : NetSt) (name : String) : RStepU b n (n.udpClose name).1 :=
  .of_rv (udpClose_rv n name) (fun _ => rfl) fun _ _ => .close name

theorem udpOpen_udp? (n : NetSt) (name x : String) (v4 : Bool) :
    (n.udpOpen name v4).1.udp? x
      = if x = name then (n.udp? name).map (fun u => u.opened v4 n.fwds.length) else n.udp? x := by
  cases h : n.udp? name with
  | none => rw [udpOpen_none n name v4 h]; by_cases hx : x = name <;> simp [hx, h]
  | some u =>
    rw [udpOpen_exact n name v4 u h, udp?_setUdp, udp?_newFwd, udpClose_udp?]
    by_cases hx : x = name <;> simp [hx]

theorem udpOpen_rv (n : NetSt) (name : String) (v4 : Bool) :
    (n.udpOpen name v4).1.rvU = (n.rvU.close name).opened name ∧ TcpUntouched n (n.udpOpen name v4).1 := by
  have hc := udpClose_rv n name
  rw [← hc.1]
  cases h : n.udp? name with
  | none =>
    rw [udpOpen_none n name v4 h, udpClose_none n name h, RV.opened_none (uv_none_of_udp? h)]
    exact ⟨rfl, .refl n⟩
  | some u =>
    have hcu : (n.udpClose name).1.rvU.v name = some u.closed.view := by
      show NetSt.uv _ name = _; unfold NetSt.uv; rw [udpClose_udp?, if_pos rfl, h]; rfl
    rw [RV.opened_some hcu, udpOpen_exact n name v4 u h]
    refine ⟨RV.ext rfl ?_ rfl (fwdTarget_newFwd' _ name) (fwds_length_newFwd _ name) rfl, hc.2.trans ⟨rfl, rfl, rfl⟩⟩
    show (NetSt.setUdp _ _ _).uv = _; rw [uv_setUdp, ← udpClose_fwds_length n name]; rfl

theorem udpOpen_rstep {b : Bool} (n : NetSt) (name : String) (v4 : Bool) : RStepU b n (n.udpOpen name v4).1 :=
  .of_rv (udpOpen_rv n name v4) (fun _ => rfl) fun _ _ => (ROp.close name).trans (.opened (RV.close_idle _ name))

theorem udpDestroy_udp? (n : NetSt) (name x : String) :
    (n.udpDestroy name).1.udp? x = if x = name then none else n.udp? x := by
  have : (n.udpDestroy name).1.udp? x = ((n.udpClose name).1.udps.filter (fun e => e.1 != name)).lookup x := rfl
  rw [this, lookup_filter_ne]
  by_cases hx : x = name
  · simp [hx]
  · have := udpClose_udp? n name x
    simp only [hx, if_false] at this ⊢
    exact this

theorem udpDestroy_rv (n : NetSt) (name : String) :
    (n.udpDestroy name).1.rvU = (n.rvU.close name).set name none ∧ TcpUntouched n (n.udpDestroy name).1 := by
  have hc := udpClose_rv n name
  refine ⟨?_, ⟨hc.2.tcps, hc.2.regT, hc.2.cfg⟩⟩
  rw [← hc.1]
  refine RV.ext rfl (funext fun x => ?_) rfl rfl rfl rfl
  show ((n.udpDestroy name).1.udp? x).map UdpSock.view = setS (n.udpClose name).1.uv name none x
  rw [udpDestroy_udp?]; unfold setS NetSt.uv; split
  · rfl
  · rw [udpClose_udp?, if_neg ‹_›]

theorem udpDestroy_rstep {b : Bool} (n : NetSt) (name : String) : RStepU b n (n.udpDestroy name).1 :=
  .of_rv (udpDestroy_rv n name) (fun _ => rfl) fun _ _ =>
    (ROp.close name).trans (.idle (RV.close_idle _ name) (.inl rfl))

/-- the checks `bind(ep, ec)` makes before it reaches the registry -/
def NetSt.udpBindPre (n : NetSt) (name : String) (ep : Ep) (u : UdpSock) (ep1 : Ep) : Prop :=
  n.udp? name = some u ∧ u.isOpen = true ∧ ep.isV4 = u.isV4 ∧ u.bound.isDefault = true
  ∧ ioResolve (n.cfg.ipsOf u.node) ep = .ok ep1

theorem udpBind_pre (n : NetSt) (name : String) (ep : Ep) (u : UdpSock) (ep1 : Ep)
    (h : n.udpBindPre name ep u ep1) :
    n.udpBind name ep =
      match simBind n.reg.udp n.reg.nextPort name ep1 with
      | (tbl, np, .error e) => ({ n with reg := { n.reg with udp := tbl, nextPort := np } }, e)
      | (tbl, np, .ok ep2) =>
        (({ n with reg := { n.reg with udp := tbl, nextPort := np } }).setUdp name { u with bound := ep2 }, .ok) := by
  obtain ⟨h1, h2, h3, h4, h5⟩ := h
  unfold NetSt.udpBind
  simp only [h1, h2, h3, h4, h5]
  simp only [Bool.not_true, Bool.false_eq_true, if_false, bne_self_eq_false]
  rcases hs : simBind n.reg.udp n.reg.nextPort name ep1 with ⟨tbl, np, r⟩
  cases r <;> rfl

theorem udpBind_cases (n : NetSt) (name : String) (ep : Ep) :
    (∃ e, e ∈ [Ec.other, .badDesc, .afNoSupport, .invalid, .notAvail] ∧ n.udpBind name ep = (n, e))
    ∨ ∃ u ep1, n.udpBindPre name ep u ep1 := by
  unfold NetSt.udpBind
  cases h1 : n.udp? name with
  | none => exact .inl ⟨_, by simp, rfl⟩
  | some u =>
    dsimp only
    split
    · exact .inl ⟨_, by simp, rfl⟩
    · split
      · exact .inl ⟨_, by simp, rfl⟩
      · split
        · exact .inl ⟨_, by simp, rfl⟩
        · cases h5 : ioResolve (n.cfg.ipsOf u.node) ep with
          | error e => exact .inl ⟨e, by rw [ioResolve_error _ _ _ h5]; simp, rfl⟩
          | ok ep1 => exact .inr ⟨u, ep1, h1, by simp_all, by simp_all, by simp_all, h5⟩

theorem udpBind_codes (n : NetSt) (name : String) (ep : Ep) :
    (n.udpBind name ep).2 ∈ [Ec.other, .badDesc, .afNoSupport, .invalid, .notAvail, .denied, .inUse, .ok]
    ∧ ((n.udpBind name ep).2 ≠ .ok →
        (n.udpBind name ep).1.reg.udp = n.reg.udp ∧ (n.udpBind name ep).1.reg.tcp = n.reg.tcp
        ∧ (n.udpBind name ep).1.udps = n.udps ∧ (n.udpBind name ep).1.tcps = n.tcps
        ∧ (n.udpBind name ep).1.fwds = n.fwds) := by
  rcases udpBind_cases n name ep with ⟨e, he, h⟩ | ⟨u, ep1, hpre⟩
  · rw [h]; exact ⟨List.mem_append_left [Ec.denied, .inUse, .ok] he, fun _ => ⟨rfl, rfl, rfl, rfl, rfl⟩⟩
  · rw [udpBind_pre n name ep u ep1 hpre]
    rcases simBind_cases n.reg.udp n.reg.nextPort name ep1
      with ⟨_, _, e⟩ | ⟨_, _, e⟩ | ⟨q, _, _, e⟩ | ⟨_, _, e⟩ | ⟨_, _, e⟩ <;> rw [e] <;> simp

theorem udpSendTo_outcome (n : NetSt) (now : Int) (name : String) (dst : Ep) (payload : List UInt8) :
    (fwdsOf (n.udpSendTo now name dst payload).2.1 = []
      ∧ ((n.udpSendTo now name dst payload).2.2 = (.ok, payload.length)
        ∨ ((n.udpSendTo now name dst payload).2.2.1 ∈
              [Ec.other, .invalid, .msgSize, .wouldBlock, .badDesc, .afNoSupport, .notAvail, .inUse, .denied]
            ∧ (n.udpSendTo now name dst payload).2.2.2 = 0)))
    ∨ ∃ (u : UdpSock) (hops : List String), 0 < payload.length ∧ payload.length ≤ 65535
        ∧ fwdsOf (n.udpSendTo now name dst payload).2.1 = [sendPkt u.bound hops payload]
        ∧ (n.udpSendTo now name dst payload).2.2 = (.ok, payload.length) := by
  cases hu : n.udp? name with
  | none => left; rw [udpSendTo_none n now name dst payload hu]; exact ⟨rfl, .inr ⟨by simp, rfl⟩⟩
  | some u0 =>
    obtain ⟨⟨n1, ecb⟩, hcodes, e⟩ := udpSendTo_tail
      (P := fun r => r.2 ∈ [Ec.other, .badDesc, .afNoSupport, .invalid, .notAvail, .denied, .inUse, .ok])
      n now name dst payload u0 hu (by simp) (udpBind_codes _ _ _).1
    rw [e]
    rcases udpSendTail_total n1 (u0.abortSend name).2 ecb now name dst payload
      with ⟨e, hr⟩ | ⟨u, hops, _, _, h0, h1, _, e⟩
    · refine .inl ⟨by rw [e]; exact fwdsOf_abortSend name u0, ?_⟩
      rcases hr with ⟨hne, hr⟩ | hr | hr | hr | hr | hr <;> rw [hr]
      · right
        simp only [List.mem_cons, List.not_mem_nil, or_false] at hcodes ⊢
        rcases hcodes with h | h | h | h | h | h | h | h <;> simp [h] at hne ⊢
      · exact .inr ⟨by simp, rfl⟩
      · exact .inr ⟨by simp, rfl⟩
      · exact .inr ⟨by simp, rfl⟩
      · exact .inr ⟨by simp, rfl⟩
      · exact .inl rfl
    · refine .inr ⟨u, hops, h0, h1, ?_, by rw [e]⟩
      rw [e]; simp only [fwdsOf_append, fwdsOf_abortSend, fwdsOf_pcap]; rfl

/-- what `close(ec)` does, field by field (`udpClose_rv` says it as one equation) -/
structure CloseEffU (n n' : NetSt) (name : String) : Prop where
  uv   : ∀ x, n'.uv x = if x = name then (n.uv name).map (fun _ => (false, ({} : Ep), (none : Option Nat))) else n.uv x
  regU : n'.reg.udp = match n.uv name with
          | some v => if v.2.1.isDefault then n.reg.udp else simUnbind n.reg.udp name v.2.1
          | none => n.reg.udp
  regT : n'.reg.tcp = n.reg.tcp
  port : n'.reg.nextPort = n.reg.nextPort
  cfg  : n'.cfg = n.cfg
  tcps : ∀ x, n'.tcp? x = n.tcp? x
  flen : n'.fwds.length = n.fwds.length
  ft   : ∀ g, n'.fwdTarget g = if (n.uv name).bind (·.2.2) = some g then none else n.fwdTarget g

theorem CloseEffU.closed {n n' : NetSt} {name : String} (e : CloseEffU n n' name) :
    n'.uv name = none ∨ n'.uv name = some (false, {}, none) := by
  rw [e.uv]; cases n.uv name <;> simp

theorem UdpSock.cancel_view (name : String) (u : UdpSock) : (u.cancel name).1.view = u.view := rfl

theorem UdpSock.sameCtl.view {u u' : UdpSock} (h : u.sameCtl u') : u'.view = u.view := by
  unfold UdpSock.view; rw [h.1, h.2.1, h.2.2.1]

/-- `n'` differs from `n` only in what the registry cannot see of UDP sockets -/
structure UFrame (n n' : NetSt) : Prop where
  uv   : ∀ x, n'.uv x = n.uv x
  reg  : n'.reg = n.reg
  fwds : n'.fwds = n.fwds
  tcps : n'.tcps = n.tcps
  cfg  : n'.cfg = n.cfg

theorem UFrame.refl (n : NetSt) : UFrame n n := ⟨fun _ => rfl, rfl, rfl, rfl, rfl⟩
theorem UFrame.trans {a b c : NetSt} (h1 : UFrame a b) (h2 : UFrame b c) : UFrame a c :=
  ⟨fun x => (h2.uv x).trans (h1.uv x), h2.reg.trans h1.reg, h2.fwds.trans h1.fwds,
   h2.tcps.trans h1.tcps, h2.cfg.trans h1.cfg⟩

theorem UFrame.rvU {n n' : NetSt} (h : UFrame n n') : n'.rvU = n.rvU := by
  unfold NetSt.rvU NetSt.fwdTarget; rw [funext h.uv, h.reg, h.fwds]
theorem UFrame.same {n n' : NetSt} (h : UFrame n n') : TcpUntouched n n' := ⟨h.tcps, by rw [h.reg], h.cfg⟩
theorem UFrame.step {b : Bool} {n n' : NetSt} (h : UFrame n n') : RStepU b n n' :=
  .of_rv ⟨h.rvU, h.same⟩ (fun _ => rfl) fun _ _ => .refl

theorem UFrame.setUdp (n : NetSt) (name : String) (u u' : UdpSock) (h : n.udp? name = some u)
    (hv : u'.view = u.view) : UFrame n (n.setUdp name u') := by
  refine ⟨fun x => ?_, rfl, rfl, rfl, rfl⟩
  simp only [NetSt.uv, udp?_setUdp]
  by_cases hx : x = name
  · subst hx; simp [h, hv]
  · simp [hx]

def NetSt.mapUdp (n : NetSt) (name : String) (g : UdpSock → UdpSock) : NetSt :=
  match n.udp? name with
  | none => n
  | some u => n.setUdp name (g u)

theorem udp?_mapUdp (n : NetSt) (name x : String) (g : UdpSock → UdpSock) :
    (n.mapUdp name g).udp? x = if x = name then (n.udp? name).map g else n.udp? x := by
  unfold NetSt.mapUdp
  cases h : n.udp? name with
  | none => by_cases hx : x = name <;> simp [hx, h]
  | some u => simp
@[simp] theorem tcp?_mapUdp (n : NetSt) (name x : String) (g : UdpSock → UdpSock) :
    (n.mapUdp name g).tcp? x = n.tcp? x := by unfold NetSt.mapUdp; split <;> rfl
@[simp] theorem reg_mapUdp (n : NetSt) (name : String) (g : UdpSock → UdpSock) :
    (n.mapUdp name g).reg = n.reg := by unfold NetSt.mapUdp; split <;> rfl
@[simp] theorem fwds_mapUdp (n : NetSt) (name : String) (g : UdpSock → UdpSock) :
    (n.mapUdp name g).fwds = n.fwds := by unfold NetSt.mapUdp; split <;> rfl
@[simp] theorem cfg_mapUdp (n : NetSt) (name : String) (g : UdpSock → UdpSock) :
    (n.mapUdp name g).cfg = n.cfg := by unfold NetSt.mapUdp; split <;> rfl
@[simp] theorem tcps_mapUdp (n : NetSt) (name : String) (g : UdpSock → UdpSock) :
    (n.mapUdp name g).tcps = n.tcps := by unfold NetSt.mapUdp; split <;> rfl
@[simp] theorem chans_mapUdp (n : NetSt) (name : String) (g : UdpSock → UdpSock) :
    (n.mapUdp name g).chans = n.chans := by unfold NetSt.mapUdp; split <;> rfl
theorem fwdTarget_mapUdp (n : NetSt) (name : String) (g : UdpSock → UdpSock) (f : Nat) :
    (n.mapUdp name g).fwdTarget f = n.fwdTarget f := fwdTarget_congr _ _ (fwds_mapUdp n name g) f

theorem udpAsyncRecv_fst (n : NetSt) (name : String) (op : RecvOp) :
    (n.udpAsyncRecv name op).1 = n.mapUdp name (fun u => (u.abortRecv.1.asyncReceive op).1) := by
  unfold NetSt.udpAsyncRecv NetSt.mapUdp
  cases h : n.udp? name <;> rfl

theorem udpAsyncRecv_snd (n : NetSt) (name : String) (op : RecvOp) (u : UdpSock) (h : n.udp? name = some u) :
    (n.udpAsyncRecv name op).2 = u.abortRecv.2 ++ (u.abortRecv.1.asyncReceive op).2 := by
  unfold NetSt.udpAsyncRecv
  simp only [h]

theorem udpRecvNb_fst (n : NetSt) (name : String) (caps : List Nat) :
    (n.udpRecvNb name caps).1 = n.mapUdp name (fun u => (u.abortRecv.1.receiveFrom caps).1) := by
  unfold NetSt.udpRecvNb NetSt.mapUdp
  cases h : n.udp? name <;> rfl

theorem udpRecvNb_result (n : NetSt) (name : String) (caps : List Nat) (u : UdpSock) (h : n.udp? name = some u) :
    (n.udpRecvNb name caps).2.2 = (u.abortRecv.1.receiveFrom caps).2 := by
  unfold NetSt.udpRecvNb
  simp only [h]

theorem udpWaitRead_fst (n : NetSt) (name : String) (h : Nat) :
    (n.udpWaitRead name h).1 = n.mapUdp name (fun u => (u.abortRecv.1.asyncWaitReceive h).1) := by
  unfold NetSt.udpWaitRead NetSt.mapUdp
  cases h : n.udp? name <;> rfl

theorem udpCancel_fst (n : NetSt) (name : String) :
    (n.udpCancel name).1 = n.mapUdp name (fun u => (u.cancel name).1) := by
  unfold NetSt.udpCancel NetSt.mapUdp
  cases h : n.udp? name <;> rfl

theorem udpWaitWrite_fst (n : NetSt) (now : Int) (name : String) (h : Nat) :
    (n.udpWaitWrite now name h).1 = n.mapUdp name (fun u =>
      if u.nextSend - now > u.sendQueueTime / 2 then { u with waitSendH := some h } else { u with waitSendH := none }) := by
  unfold NetSt.udpWaitWrite NetSt.mapUdp
  cases hu : n.udp? name with
  | none => rfl
  | some u =>
    dsimp only [UdpSock.abortSend]
    split <;> rfl

theorem udpSendWaitFired_fst (n : NetSt) (name : String) (ab : Bool) :
    (n.udpSendWaitFired name ab).1 = n
    ∨ (n.udpSendWaitFired name ab).1 = n.mapUdp name (fun u => { u with waitSendH := none }) := by
  unfold NetSt.udpSendWaitFired NetSt.mapUdp
  cases n.udp? name with
  | none => exact .inl rfl
  | some u =>
    dsimp only
    split
    · exact .inl rfl
    · cases u.waitSendH with
      | none => exact .inl rfl
      | some h => exact .inr rfl

theorem UFrame.mapUdp (n : NetSt) (name : String) (g : UdpSock → UdpSock) (hg : ∀ u : UdpSock, (g u).view = u.view) :
    UFrame n (n.mapUdp name g) := by
  unfold NetSt.mapUdp
  cases h : n.udp? name with
  | none => exact UFrame.refl n
  | some u => exact UFrame.setUdp n name u _ h (hg u)

theorem udpMove_none (n : NetSt) (src dst : String) (h : n.udp? src = none) : n.udpMove src dst = n := by
  simp [NetSt.udpMove, h]

def UdpSock.movedFrom (u : UdpSock) : UdpSock :=
  { node := u.node, isV4 := u.isV4, nextSend := u.nextSend, queueSize := u.queueSize,
    recvNull := u.recvNull, df := u.df, sendQueueTime := u.sendQueueTime }

theorem udpMove_some (n : NetSt) (src dst : String) (u : UdpSock) (h : n.udp? src = some u) :
    n.udpMove src dst =
      (({ n with reg := { n.reg with udp := if u.bound.isDefault then n.reg.udp
                                            else n.reg.udp.map (fun (e : Ep × String) => if e.1 == u.bound then (e.1, dst) else e) },
                 fwds := match u.fwd with | some f => (n.setFwd f (some dst)).fwds | none => n.fwds }).setUdp dst u).setUdp
        src u.movedFrom := by
  unfold NetSt.udpMove
  simp only [h]
  cases u.fwd <;> cases u.bound.isDefault <;> rfl

theorem udpMove_udp? (n : NetSt) (src dst x : String) (u : UdpSock) (h : n.udp? src = some u) :
    (n.udpMove src dst).udp? x = if x = src then some u.movedFrom else if x = dst then some u else n.udp? x := by
  rw [udpMove_some n src dst u h, udp?_setUdp, udp?_setUdp]
  rfl

theorem udpMove_rv (n : NetSt) (src dst : String) (u : UdpSock) (h : n.udp? src = some u) :
    (n.udpMove src dst).rvU = { n.rvU.move src dst u.view with
        tbl := if u.bound.isDefault then n.reg.udp else rebindAll n.reg.udp u.bound dst }
    ∧ TcpUntouched n (n.udpMove src dst) := by
  have hf := fwdTarget_setFwdOpt (n := n) (n' := n.udpMove src dst) (fo := u.fwd) (t := some dst)
    (by rw [udpMove_some n src dst u h]; rfl)
  refine ⟨RV.ext ?_ ?_ rfl (funext hf.2) hf.1 ?_, ?_⟩ <;> rw [udpMove_some n src dst u h]
  · rfl
  · show (NetSt.setUdp _ _ _).uv = _; rw [uv_setUdp, uv_setUdp]; rfl
  · rfl
  · exact ⟨rfl, rfl, rfl⟩

/-- the UDP registry re-points whatever entry the endpoint has; by the invariant it is `src`'s -/
theorem udpMove_rstep {b : Bool} (n : NetSt) (src dst : String) (u : UdpSock) (h : n.udp? src = some u)
    (hf : n.fresh dst = true) : RStepU b n (n.udpMove src dst) := by
  have e := udpMove_rv n src dst u h
  have hv : n.rvU.v src = some (u.isOpen, u.bound, u.fwd) := uv_some_of_udp? h
  refine ⟨e.2, fun _ => congrArg RV.port e.1, fun _ hr => ?_⟩
  refine (ROp.move hv (uv_none_of_udp? ((fresh_iff n dst).mp hf).1)
    (by simp [NetSt.tf, ((fresh_iff n dst).mp hf).2])).cast (e.1.trans (RV.ext ?_ rfl rfl rfl rfl rfl))
  show (if u.bound.isDefault then n.reg.udp else rebindAll n.reg.udp u.bound dst)
    = if u.bound.isDefault then n.reg.udp else rebind n.reg.udp u.bound src dst
  cases hbd : u.bound.isDefault with
  | true => rfl
  | false =>
    exact rebindAll_eq_rebind _ _ _ _ fun y hy => hr.p.entry_is_own (by rw [hv]; rfl) hbd List.not_mem_nil hy

/-- the same sockets exist and each has the same data-path state (`UdpSock.sameData`) -/
def NetSt.udpSame (n n' : NetSt) : Prop :=
  ∀ x, (n.udp? x = none ∧ n'.udp? x = none) ∨ ∃ u u', n.udp? x = some u ∧ n'.udp? x = some u' ∧ u.sameData u'

theorem NetSt.udpSame.of_udp? {n n' : NetSt} (h : ∀ x, n'.udp? x = n.udp? x) : n.udpSame n' := by
  intro x
  cases hu : n.udp? x with
  | none => left; exact ⟨rfl, by rw [h x, hu]⟩
  | some u => right; exact ⟨u, u, rfl, by rw [h x, hu], UdpSock.sameData.refl u⟩

theorem NetSt.udpSame.of_udps {n n' : NetSt} (h : n'.udps = n.udps) : n.udpSame n' :=
  NetSt.udpSame.of_udp? (fun x => by unfold NetSt.udp?; rw [h])

theorem NetSt.udpSame.refl (n : NetSt) : n.udpSame n := NetSt.udpSame.of_udp? (fun _ => rfl)

theorem NetSt.udpSame.trans {n m k : NetSt} (h1 : n.udpSame m) (h2 : m.udpSame k) : n.udpSame k := by
  intro x
  rcases h1 x with ⟨a, b⟩ | ⟨u, u', a, b, c⟩
  · rcases h2 x with ⟨a', b'⟩ | ⟨v, v', a', b', c'⟩
    · exact Or.inl ⟨a, b'⟩
    · rw [b] at a'; simp at a'
  · rcases h2 x with ⟨a', b'⟩ | ⟨v, v', a', b', c'⟩
    · rw [b] at a'; simp at a'
    · rw [b] at a'; simp at a'; subst a'
      exact Or.inr ⟨u, v', a, b', c.trans c'⟩

theorem NetSt.udpSame.setUdp {n : NetSt} {name : String} {u u' : UdpSock} (h : n.udp? name = some u)
    (hs : u.sameData u') : n.udpSame (n.setUdp name u') := by
  intro x
  by_cases hx : x = name
  · subst hx; right; exact ⟨u, u', h, by simp, hs⟩
  · cases hu : n.udp? x with
    | none => left; exact ⟨rfl, by simp [hx, hu]⟩
    | some v => right; exact ⟨v, v, rfl, by simp [hx, hu], UdpSock.sameData.refl v⟩

theorem NetSt.udpSame.mapUdp (n : NetSt) (name : String) (g : UdpSock → UdpSock) (hg : ∀ u : UdpSock, u.sameData (g u)) :
    n.udpSame (n.mapUdp name g) := by
  unfold NetSt.mapUdp
  cases h : n.udp? name with
  | none => exact NetSt.udpSame.refl n
  | some u => exact NetSt.udpSame.setUdp h (hg u)

structure NetSt.ctlStep (n n' : NetSt) : Prop where
  same : n.udpSame n'
  fwds : n'.fwds = n.fwds
  tcps : n'.tcps = n.tcps
  cfg  : n'.cfg = n.cfg

theorem NetSt.ctlStep.refl (n : NetSt) : n.ctlStep n := ⟨NetSt.udpSame.refl n, rfl, rfl, rfl⟩
theorem NetSt.ctlStep.trans {n m k : NetSt} (h1 : n.ctlStep m) (h2 : m.ctlStep k) : n.ctlStep k :=
  ⟨h1.same.trans h2.same, h2.fwds.trans h1.fwds, h2.tcps.trans h1.tcps, h2.cfg.trans h1.cfg⟩
theorem NetSt.ctlStep.setUdp {n : NetSt} {name : String} {u u' : UdpSock} (h : n.udp? name = some u)
    (hs : u.sameData u') : n.ctlStep (n.setUdp name u') := ⟨NetSt.udpSame.setUdp h hs, rfl, rfl, rfl⟩
theorem NetSt.ctlStep.mapUdp (n : NetSt) (name : String) (g : UdpSock → UdpSock) (hg : ∀ u : UdpSock, u.sameData (g u)) :
    n.ctlStep (n.mapUdp name g) := ⟨NetSt.udpSame.mapUdp n name g hg, by simp, by simp, by simp⟩

/-- the registry half of a bind, explicit or `send_to`'s, on an open, unbound UDP socket -/
theorem udpBindReg_rstep {n : NetSt} {name : String} {u : UdpSock} {ep1 : Ep} {tbl : List (Ep × String)}
    {np : Nat} {r : Except Ec Ep} (hs : n.udp? name = some u) (ho : u.isOpen = true)
    (hb : u.bound.isDefault = true) (hip : ep1.addr ∈ n.cfg.ipsOf u.node)
    (hsb : simBind n.reg.udp n.reg.nextPort name ep1 = (tbl, np, r)) :
    RStepU true n (match (generalizing := false) r with
      | .error _ => { n with reg := { n.reg with udp := tbl, nextPort := np } }
      | .ok ep2 => ({ n with reg := { n.reg with udp := tbl, nextPort := np } }).setUdp name { u with bound := ep2 })
    ∧ bumped n.reg.nextPort np
    ∧ n.ctlStep (match (generalizing := false) r with
      | .error _ => { n with reg := { n.reg with udp := tbl, nextPort := np } }
      | .ok ep2 => ({ n with reg := { n.reg with udp := tbl, nextPort := np } }).setUdp name { u with bound := ep2 }) := by
  have hv : n.rvU.v name = some (true, u.bound, u.fwd) := ho ▸ uv_some_of_udp? hs
  have op := fun (_ : n.cfg.WF) (_ : n.rvU.Ok n.tf) => ROp.bind (c := n.cfg) (st := n.tf) hv hb hip
  have c0 : n.ctlStep { n with reg := { n.reg with udp := tbl, nextPort := np } } := ⟨.of_udps rfl, rfl, rfl, rfl⟩
  refine ⟨?_, by have := simBind_bumped n.reg.udp n.reg.nextPort name ep1; rwa [hsb] at this, ?_⟩ <;> cases r
  · exact .of_rv ⟨(RV.bind_error (r := n.rvU) hsb).symm, ⟨rfl, rfl, rfl⟩⟩ nofun op
  · refine .of_rv ⟨?_, ⟨rfl, rfl, rfl⟩⟩ nofun op
    rw [RV.bind_ok (r := n.rvU) hsb, hv]
    exact RV.ext rfl (by show (NetSt.setUdp _ _ _).uv = _; rw [uv_setUdp, ← ho]; rfl) rfl rfl rfl rfl
  · exact c0
  · exact c0.trans (.setUdp (u := u) hs ⟨rfl, rfl, rfl, rfl, rfl, rfl, rfl, rfl, fun hd => by rw [hb] at hd; cases hd⟩)

theorem udpBind_rstep (n : NetSt) (name : String) (ep : Ep) :
    RStepU true n (n.udpBind name ep).1 ∧ bumped n.reg.nextPort (n.udpBind name ep).1.reg.nextPort
    ∧ n.ctlStep (n.udpBind name ep).1 := by
  rcases udpBind_cases n name ep with ⟨e, -, he⟩ | ⟨u, ep1, hpre⟩
  · rw [he]; exact ⟨.refl n, .refl _, .refl n⟩
  · rw [udpBind_pre n name ep u ep1 hpre]
    obtain ⟨h1, h2, -, h4, h5⟩ := hpre
    rcases hsb : simBind n.reg.udp n.reg.nextPort name ep1 with ⟨tbl, np, r⟩
    have := udpBindReg_rstep h1 h2 h4 (ioResolve_ok _ _ _ h5).2 hsb
    cases r <;> exact this

/-- `send_to`: `abort_send_handlers()`, the implicit bind of an unbound socket, the pacing clock -/
theorem udpSendTo_rstep (n : NetSt) (now : Int) (name : String) (dst : Ep) (payload : List UInt8) :
    RStepU true n (n.udpSendTo now name dst payload).1
    ∧ bumped n.reg.nextPort (n.udpSendTo now name dst payload).1.reg.nextPort
    ∧ n.ctlStep (n.udpSendTo now name dst payload).1 := by
  cases hu : n.udp? name with
  | none => rw [udpSendTo_none n now name dst payload hu]; exact ⟨.refl n, .refl _, .refl n⟩
  | some u0 =>
    have f1 : RStepU true n (n.setUdp name { u0 with waitSendH := none }) := (UFrame.setUdp n name u0 { u0 with waitSendH := none } hu rfl).step
    have c1 : n.ctlStep (n.setUdp name { u0 with waitSendH := none }) :=
      .setUdp hu ⟨rfl, rfl, rfl, rfl, rfl, rfl, rfl, rfl, fun _ => rfl⟩
    obtain ⟨r, ⟨h1, h2, h3⟩, e⟩ := udpSendTo_tail
      (P := fun r => RStepU true n r.1 ∧ bumped n.reg.nextPort r.1.reg.nextPort ∧ n.ctlStep r.1)
      n now name dst payload u0 hu ⟨f1, .refl _, c1⟩
      (let b := udpBind_rstep (n.setUdp name { u0 with waitSendH := none }) name {}
       ⟨f1.trans b.1, b.2.1, c1.trans b.2.2⟩)
    rw [e]
    rcases udpSendTail_cases r.1 (u0.abortSend name).2 r.2 now name dst payload
      with ⟨c, e, -⟩ | ⟨u, hops, -, hu2, -, -, -, -, -, e⟩ <;> rw [e]
    · exact ⟨h1, h2, h3⟩
    · exact ⟨h1.trans (UFrame.step (n' := r.1.setUdp name _) (UFrame.setUdp r.1 name u _ hu2 rfl)), h2,
        h3.trans (.setUdp hu2 ⟨rfl, rfl, rfl, rfl, rfl, rfl, rfl, rfl, fun _ => rfl⟩)⟩

theorem udpNew_rstep {b : Bool} (n : NetSt) (name node : String) (hf : n.fresh name = true) :
    RStepU b n (n.udpNew name node) :=
  .of_rv (r' := n.rvU.set name (some View.idle)) ⟨RV.ext rfl (uv_setUdp n name _) rfl rfl rfl rfl, ⟨rfl, rfl, rfl⟩⟩
    (fun _ => rfl) fun _ _ => .idle (.inl (uv_none_of_udp? ((fresh_iff n name).mp hf).1))
      (.inr ⟨rfl, by unfold NetSt.tf; rw [((fresh_iff n name).mp hf).2]; rfl⟩)

end SimVerif
