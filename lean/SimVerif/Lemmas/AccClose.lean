/-
  SimVerif.Lemmas.AccClose — what the acceptor's `close()` (`NetSt.accClose`, SimVerif/Tcp.lean;
  `http_server::stop()` calls it on `m_listen_socket`, Props/C16) does to the listen socket and to
  the registry of bound endpoints: the socket is closed, no longer listening, unbound, and its
  registry entry is gone — so a later connect to the old endpoint cannot reach it (refused unless
  somebody else listens there) and the port can be bound again.

  The registry theorems carry the hypothesis `hb : s.bound.isDefault = false` (the acceptor
  is bound): `tcp::socket::close` only calls `unbind_socket` for a bound socket (`tcpClose`:
  `if !s.bound.isDefault`); without it they fail (`accClose_unbound_counterexample`).
-/
import SimVerif.Lemmas.NetBasic
import SimVerif.Lemmas.TcpEq

namespace SimVerif

theorem setTcp_chan? (n : NetSt) (name : String) (t : TcpSock) (c : Nat) : (n.setTcp name t).chan? c = n.chan? c := rfl
theorem setChan_reg (n : NetSt) (c : Nat) (ch : Chan) : (n.setChan c ch).reg = n.reg := rfl
theorem setChan_tcp? (n : NetSt) (c : Nat) (ch : Chan) (name : String) : (n.setChan c ch).tcp? name = n.tcp? name := rfl
theorem setFwd_tcp? (n : NetSt) (f : Nat) (t : Option String) (name : String) : (n.setFwd f t).tcp? name = n.tcp? name := rfl

theorem accClose_spec (n : NetSt) (now : Int) (name : String) (s : TcpSock) (hs : n.tcp? name = some s) :
    (n.accClose now name).1.reg = (if !s.bound.isDefault then { n.reg with tcp := simUnbind n.reg.tcp name s.bound } else n.reg) ∧
    ∃ s', (n.accClose now name).1.tcp? name = some s' ∧ s'.isOpen = false ∧ s'.isListening = false ∧
      s'.bound = {} := by
  obtain ⟨cs, -, e⟩ := accClose_exact n now name s hs
  rw [e]
  refine ⟨?_, _, tcp?_setTcp_same _ _ _, rfl, ?_, rfl⟩
  · show ({ n.reg with tcp := if s.bound.isDefault then n.reg.tcp else simUnbind n.reg.tcp name s.bound } : Registry) = _
    cases s.bound.isDefault <;> rfl
  · unfold TcpSock.isListening; cases s.acc <;> rfl

theorem accClose_reg_bound (n : NetSt) (now : Int) (name : String) (s : TcpSock) (hs : n.tcp? name = some s)
    (hb : s.bound.isDefault = false) :
    (n.accClose now name).1.reg = { n.reg with tcp := simUnbind n.reg.tcp name s.bound } := by
  rw [(accClose_spec n now name s hs).1]
  simp [hb]

theorem accClose_registry (n : NetSt) (now : Int) (name : String) (s : TcpSock) (hs : n.tcp? name = some s)
    (hb : s.bound.isDefault = false) :
    (∀ e ∈ (n.accClose now name).1.reg.tcp, e ∈ n.reg.tcp ∧ ¬(e.1 = s.bound ∧ e.2 = name)) ∧
    (n.accClose now name).1.reg.nextPort = n.reg.nextPort := by
  rw [accClose_reg_bound n now name s hs hb]
  exact ⟨fun e he => (mem_simUnbind _ _ _ e).mp he, rfl⟩

/-- a connect to the old endpoint is never routed to this socket again -/
theorem accClose_lookup (n : NetSt) (now : Int) (name : String) (s : TcpSock) (hs : n.tcp? name = some s)
    (hb : s.bound.isDefault = false) :
    (n.accClose now name).1.reg.tcp.lookup s.bound ≠ some name := by
  rw [accClose_reg_bound n now name s hs hb]
  exact fun h => ((mem_simUnbind ..).1 (mem_of_lookup h)).2 ⟨rfl, rfl⟩

/-- if this socket was the only holder of the endpoint, the endpoint is free: a connect
    to it is refused (`internalConnect` finds no listener) and `simBind` accepts it again -/
theorem accClose_port_free (n : NetSt) (now : Int) (name : String) (s : TcpSock) (hs : n.tcp? name = some s)
    (hb : s.bound.isDefault = false)
    (honly : ∀ e ∈ n.reg.tcp, e.1 = s.bound → e.2 = name) :
    (n.accClose now name).1.reg.tcp.lookup s.bound = none ∧
    (∀ (c : String), ((n.accClose now name).1.internalConnect c s.bound).2.2 = none) ∧
    (∀ (other : String), 1024 ≤ s.bound.port →
      (simBind (n.accClose now name).1.reg.tcp (n.accClose now name).1.reg.nextPort other s.bound).2.2 = .ok s.bound) := by
  have hl : (n.accClose now name).1.reg.tcp.lookup s.bound = none := by
    rw [accClose_reg_bound n now name s hs hb, lookup_none_iff]
    intro x hx
    rw [mem_simUnbind] at hx
    exact hx.2 ⟨rfl, honly _ hx.1 rfl⟩
  exact ⟨hl, fun c => by rw [internalConnect_refused _ c _ fun ⟨_, _, h, _⟩ => by rw [hl] at h; cases h],
    fun other hp => congrArg (·.2.2) (simBind_explicit _ _ other _ hp hl)⟩

/-- Why `hb` is needed: an unbound acceptor "a" whose name sits in the registry under the default
    endpoint keeps that entry (`tcpClose` unbinds only a bound socket), which refutes
    `accClose_registry`, `accClose_lookup` and the first two parts of `accClose_port_free`
    without `hb` (`honly` holds here: the entry is the only one). -/
theorem accClose_unbound_counterexample :
    let n : NetSt := { reg := { tcp := [({}, "a")] }, tcps := [("a", { node := "x", acc := some {} })] }
    let s : TcpSock := { node := "x", acc := some {} }
    n.tcp? "a" = some s ∧ (n.accClose 0 "a").1.reg.tcp.lookup s.bound = some "a" :=
  ⟨rfl, by decide +kernel⟩

end SimVerif
