/-
  SimVerif.Lemmas.NetTables — names and texts the handshake and NAT properties (C07, C13) depend on:
  forwarder hop names (`fwdHop`) are injective and are what the driver decodes; a printed endpoint
  keeps its port under the NAT's address replacement; the NAT hop `natApply` row by row. The setters'
  projections stand here a second time (shared copies: Lemmas/Assoc). `Hs` ("handshake") is the
  namespace of this file and of Lemmas/TcpView, AcceptInv, AcceptStep.
-/
import Std.Data.String.ToNat
import SimVerif.Nat

namespace SimVerif
namespace Hs

@[simp] theorem setTcp_cfg (n : NetSt) (name : String) (t : TcpSock) : (n.setTcp name t).cfg = n.cfg := rfl
@[simp] theorem setTcp_chan? (n : NetSt) (name : String) (t : TcpSock) (c : Nat) : (n.setTcp name t).chan? c = n.chan? c := rfl

@[simp] theorem setChan_cfg (n : NetSt) (c : Nat) (ch : Chan) : (n.setChan c ch).cfg = n.cfg := rfl
@[simp] theorem setChan_reg (n : NetSt) (c : Nat) (ch : Chan) : (n.setChan c ch).reg = n.reg := rfl
@[simp] theorem setChan_fwds (n : NetSt) (c : Nat) (ch : Chan) : (n.setChan c ch).fwds = n.fwds := rfl
@[simp] theorem setChan_tcp? (n : NetSt) (c : Nat) (ch : Chan) (o : String) : (n.setChan c ch).tcp? o = n.tcp? o := rfl
@[simp] theorem setFwd_cfg (n : NetSt) (f : Nat) (t : Option String) : (n.setFwd f t).cfg = n.cfg := rfl
@[simp] theorem setFwd_reg (n : NetSt) (f : Nat) (t : Option String) : (n.setFwd f t).reg = n.reg := rfl
@[simp] theorem setFwd_chans (n : NetSt) (f : Nat) (t : Option String) : (n.setFwd f t).chans = n.chans := rfl
@[simp] theorem setFwd_chan? (n : NetSt) (f : Nat) (t : Option String) (c : Nat) : (n.setFwd f t).chan? c = n.chan? c := rfl
@[simp] theorem setFwd_tcp? (n : NetSt) (f : Nat) (t : Option String) (o : String) : (n.setFwd f t).tcp? o = n.tcp? o := rfl
@[simp] theorem newFwd_cfg (n : NetSt) (name : String) : (n.newFwd name).1.cfg = n.cfg := rfl
@[simp] theorem newFwd_reg (n : NetSt) (name : String) : (n.newFwd name).1.reg = n.reg := rfl
@[simp] theorem newFwd_chans (n : NetSt) (name : String) : (n.newFwd name).1.chans = n.chans := rfl
@[simp] theorem newFwd_chan? (n : NetSt) (name : String) (c : Nat) : (n.newFwd name).1.chan? c = n.chan? c := rfl
@[simp] theorem newFwd_tcp? (n : NetSt) (name o : String) : (n.newFwd name).1.tcp? o = n.tcp? o := rfl
@[simp] theorem newFwd_id (n : NetSt) (name : String) : (n.newFwd name).2 = n.fwds.length := rfl

theorem fwdHop_inj {a b : Nat} (h : fwdHop a = fwdHop b) : a = b := by
  unfold fwdHop at h
  have h2 := congrArg String.toList h
  simp only [String.toList_append, List.append_cancel_left_eq] at h2
  exact Nat.repr_injective (String.toList_inj.mp h2)

/-! The world driver (`forwardPkt` in SimVerif/Drv/Kernel.lean) recognises a forwarder hop by
`hop.startsWith "@"` and decodes it with `((hop.drop 1).toString).toNat?`. -/

theorem fwdHop_startsWith (f : Nat) : (fwdHop f).startsWith "@" = true := by
  unfold fwdHop; simp

theorem fwdHop_drop (f : Nat) : ((fwdHop f).drop 1).toString = Nat.repr f := by
  unfold fwdHop
  apply String.toList_inj.mp
  show ((("@" ++ toString f).drop 1).copy).toList = _
  rw [String.toList_copy_drop]
  simp [String.toList_append]

theorem fwdHop_decode (f : Nat) : ((fwdHop f).drop 1).toString.toNat? = some f := by
  rw [fwdHop_drop, Nat.toNat?_repr]

theorem portSuffix_no_colon (s : String) : ':' ∉ (portSuffix s).toList := by
  unfold portSuffix
  simp only [String.toList_ofList, List.mem_reverse]
  intro h
  have h2 := @List.all_takeWhile _ (fun c => c != ':') s.toList.reverse
  rw [List.all_eq_true] at h2
  have := h2 _ h
  simp at this

theorem portSuffix_append_colon (a r : String) (hr : ':' ∉ r.toList) :
    portSuffix (a ++ ":" ++ r) = r := by
  unfold portSuffix
  have h1 : (a ++ ":" ++ r).toList.reverse = r.toList.reverse ++ (':' :: a.toList.reverse) := by
    simp [String.toList_append]
  rw [h1, List.takeWhile_append_of_pos]
  · simp
  · intro c hc
    simp only [List.mem_reverse] at hc
    simp
    intro h; subst h; exact hr hc

theorem portSuffix_natRewrite (src ext : String) : portSuffix (natRewrite src ext) = portSuffix src := by
  unfold natRewrite
  exact portSuffix_append_colon ext _ (portSuffix_no_colon src)

theorem repr_no_colon (n : Nat) : ':' ∉ (Nat.repr n).toList := by
  rw [Nat.toList_repr]
  intro h
  have := Nat.isDigit_of_mem_toDigits (by decide) (by decide) h
  simp [Char.isDigit] at this

theorem portSuffix_toString (e : Ep) : portSuffix e.toString = Nat.repr e.port := by
  unfold Ep.toString
  split
  · exact portSuffix_append_colon _ _ (repr_no_colon _)
  · have : "[" ++ e.addr ++ "]:" ++ Nat.repr e.port = ("[" ++ e.addr ++ "]") ++ ":" ++ Nat.repr e.port := by
      simp [String.append_assoc]
    rw [this]
    exact portSuffix_append_colon _ _ (repr_no_colon _)

theorem natRewrite_toString (e : Ep) (ext : String) (hv : addrIsV4 ext = true) :
    natRewrite e.toString ext = ({ e with addr := ext } : Ep).toString := by
  unfold natRewrite
  rw [portSuffix_toString]
  exact (if_pos (show ({ e with addr := ext } : Ep).isV4 = true from hv)).symm

theorem natApply_fst (ext : String) (pk : Pkt) (chans : List Chan) :
    (natApply ext pk chans).1 = { pk with src := natRewrite pk.src ext } := rfl

theorem natApply_snd_cases (ext : String) (pk : Pkt) (chans : List Chan) :
    ((pk.ty = .syn → pk.chan.bind (fun c => chans[c]?) = none) ∧ (natApply ext pk chans).2 = chans)
    ∨ ∃ c ch, pk.ty = .syn ∧ pk.chan = some c ∧ chans[c]? = some ch
        ∧ (natApply ext pk chans).2
            = chans.mapIdx (fun i x => if i = c then { ch with vis0 := { ch.vis0 with addr := ext } } else x) := by
  unfold natApply natApplyP
  cases hb : pk.chan.bind (fun c => chans[c]?) with
  | none => exact .inl ⟨fun _ => rfl, rfl⟩
  | some ch =>
    obtain ⟨c, hc, hch⟩ := Option.bind_eq_some_iff.mp hb
    by_cases hty : pk.ty = .syn
    · exact .inr ⟨c, ch, hty, hc, hch, by simp [hty, hc]⟩
    · exact .inl ⟨fun h => absurd h hty, by simp [hty]⟩

theorem natApply_snd_nonsyn (ext : String) (pk : Pkt) (chans : List Chan) (h : pk.ty ≠ .syn) :
    (natApply ext pk chans).2 = chans := by
  rcases natApply_snd_cases ext pk chans with ⟨_, e⟩ | ⟨_, _, hty, _⟩
  · exact e
  · exact absurd hty h

theorem natApply_snd_syn (ext : String) (pk : Pkt) (chans : List Chan) (c : Nat) (ch : Chan)
    (h : pk.ty = .syn) (hc : pk.chan = some c) (hch : chans[c]? = some ch) :
    (natApply ext pk chans).2 = chans.mapIdx (fun i x => if i = c then { ch with vis0 := { ch.vis0 with addr := ext } } else x) := by
  rcases natApply_snd_cases ext pk chans with ⟨hn, _⟩ | ⟨c', ch', _, hc', hch', e⟩
  · have := hn h; rw [hc, Option.bind_some, hch] at this; cases this
  · cases hc.symm.trans hc'; cases hch.symm.trans hch'; exact e

theorem getElem?_mapIdx_at {α : Type} (l : List α) (c i : Nat) (v : α) :
    (l.mapIdx (fun j x => if j = c then v else x))[i]? = if i = c then (l[i]?).map (fun _ => v) else l[i]? := by
  rw [List.getElem?_mapIdx]
  split <;> cases l[i]? <;> rfl

end Hs
end SimVerif
