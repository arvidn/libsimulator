/-
  What the users of `parse_request` and `find_request_len` need, read off `parseRequest_eq` and
  `find_spec`. On a buffer that holds at least `len` bytes every read stays inside the allocation and
  the result depends only on the first `len` bytes (on the exactly-sized buffer `bs.take len` the two
  together are "never reads outside `[0, len)`"); neither function sees bytes appended to the buffer
  (`*_append`); a rendered well-formed request parses to `canon r`. `find_request_len`: `-1`, or the
  end of the first blank line among the first `len` bytes (`findRequestLen_cases`). What a
  successful parse says about `path` holds whatever the buffer, by a walk of its own.
-/
import SimVerif.Lemmas.HttpRefine

namespace SimVerif.Http

theorem parseRequest_take (bs : Bytes) (len : Nat) (hlen : len ≤ bs.length) :
    parseRequest (bs.take len) len = parseRequest bs len := by
  rw [parseRequest_eq hlen, parseRequest_eq (by rw [List.length_take]; omega), List.take_take, Nat.min_self]

theorem parseRequest_ne_oob (bs : Bytes) (len : Nat) (hlen : len ≤ bs.length) :
    parseRequest bs len ≠ .oob := by
  rw [parseRequest_eq hlen]
  split <;> nofun

theorem parseRequest_append (b rest : Bytes) (n : Nat) (hn : n ≤ b.length) :
    parseRequest (b ++ rest) n = parseRequest b n := by
  rw [parseRequest_eq hn, parseRequest_eq (by rw [List.length_append]; omega), List.take_append_of_le_length hn]

theorem parseRequest_render (r : RawRequest) (hwf : WellFormed r) :
    parseRequest (render r) (render r).length = .ok (canon r) := by
  rw [parseRequest_eq (Nat.le_refl _), List.take_length, parseSpec_render r hwf]

theorem findRequestLen_take (bs : Bytes) (len : Nat) (h : len ≤ bs.length) :
    findRequestLen bs len = findRequestLen (bs.take len) len := by
  rw [findRequestLen, findRequestLen, find_eq_search h 0 len CRLFCRLF (by omega) (.inl nofun),
    find_eq_search (bs := bs.take len) (len := len) (by rw [List.length_take]; omega) 0 len CRLFCRLF (by omega)
      (.inl nofun), List.take_take, Nat.min_self]

theorem findRequestLen_cases (bs : Bytes) (len : Int) (h : len ≤ bs.length) :
    (findRequestLen bs len = .ok (-1) ∧ ∀ k : Nat, (k : Int) + 4 ≤ len → win bs k 4 ≠ CRLFCRLF) ∨
    ∃ p : Nat, findRequestLen bs len = .ok ((p : Int) + 4) ∧ (p : Int) + 4 ≤ len ∧
      win bs p 4 = CRLFCRLF ∧ ∀ k, k < p → win bs k 4 ≠ CRLFCRLF := by
  have hs := find_spec bs 0 len CRLFCRLF (by omega)
  rw [show (CRLFCRLF : Bytes).length = 4 from rfl] at hs
  unfold findRequestLen
  rcases hs with ⟨hf, hn⟩ | ⟨p, hf, -, hp, hw, hk⟩ <;> rw [hf]
  · exact .inl ⟨rfl, fun k hk => hn k (Nat.zero_le _) (by omega)⟩
  · exact .inr ⟨p, congrArg Except.ok (by omega), by omega, hw, fun k => hk k (Nat.zero_le _)⟩

theorem findRequestLen_eq_some (bs : Bytes) (len : Int) (h : len ≤ bs.length) (n : Nat) :
    findRequestLen bs len = .ok ((n : Int) + 4) ↔
      (n : Int) + 4 ≤ len ∧ win bs n 4 = CRLFCRLF ∧ ∀ k, k < n → win bs k 4 ≠ CRLFCRLF := by
  rcases findRequestLen_cases bs len h with ⟨hf, hno⟩ | ⟨p, hf, hp, hw, hk⟩ <;> rw [hf]
  · exact ⟨fun he => by injection he; omega, fun ⟨h1, h2, _⟩ => absurd h2 (hno n h1)⟩
  · constructor
    · intro he
      obtain rfl : p = n := by injection he; omega
      exact ⟨hp, hw, hk⟩
    · rintro ⟨_, h2, h3⟩
      rcases Nat.lt_trichotomy p n with hlt | rfl | hgt
      · exact absurd hw (h3 p hlt)
      · rfl
      · exact absurd h2 (hk n hgt)

theorem findRequestLen_whole (b : Bytes) :
    findRequestLen b b.length = .ok (-1) ∨
      ∃ n : Nat, findRequestLen b b.length = .ok (n : Int) ∧ 4 ≤ n ∧ n ≤ b.length := by
  rcases findRequestLen_cases b b.length (Int.le_refl _) with ⟨h, -⟩ | ⟨p, h, hp, -⟩
  · exact .inl h
  · exact .inr ⟨p + 4, h, Nat.le_add_left .., by omega⟩

theorem findRequestLen_bounds (b : Bytes) (n : Nat) (h : findRequestLen b b.length = .ok (n : Int)) :
    4 ≤ n ∧ n ≤ b.length := by
  rcases findRequestLen_whole b with h' | ⟨m, h', h4, hm⟩ <;> rw [h'] at h <;> injection h with h <;> omega

theorem findRequestLen_append (b c : Bytes) (n : Nat) (h : findRequestLen b b.length = .ok (n : Int)) :
    findRequestLen (b ++ c) (b ++ c).length = .ok (n : Int) := by
  obtain ⟨p, rfl⟩ : ∃ p, n = p + 4 := ⟨n - 4, by have := findRequestLen_bounds b n h; omega⟩
  rw [Int.natCast_add] at h ⊢
  obtain ⟨hp, hw, hk⟩ := (findRequestLen_eq_some b _ (Int.le_refl _) p).1 h
  refine (findRequestLen_eq_some (b ++ c) _ (Int.le_refl _) p).2 ⟨by rw [List.length_append]; omega, ?_, fun k hkp => ?_⟩
  · rwa [win_append_left _ _ _ _ (by omega)]
  · rw [win_append_left _ _ _ _ (by omega)]
    exact hk k hkp

theorem failParse_ne_ok {α : Type} (bs : Bytes) (len : Nat) (x : α) : failParse bs len ≠ .ok x := by
  unfold failParse; split <;> simp

theorem parseRequestE_path (bs : Bytes) (len : Nat) (r : Request) (he : parseRequestE bs len = .ok r) :
    (if r.method ≠ CONNECT then normalize (r.req.takeWhile (· != 63)) else .ok r.req) = .ok r.path := by
  -- walk to the only `.ok` exit of `parseRequestE`: every other branch returns an error, and on the
  -- way the match on `pathE` leaves `hp : pathE = .ok path`, which is the claim
  unfold parseRequestE at he
  split at he
  · simp at he
  · exact absurd he (failParse_ne_ok _ _ _)
  · split at he
    · simp at he
    · exact absurd he (failParse_ne_ok _ _ _)
    · split at he
      · simp at he
      · split at he
        · simp at he
        · dsimp only at he
          split at he
          · simp at he
          · rename_i hp
            split at he
            · simp at he
            · split at he
              · simp at he
              · simp at he
                subst he
                exact hp

end SimVerif.Http
