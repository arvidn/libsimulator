/-
  The invariant of the one-UDP-socket open system (SimVerif/HandlerSys.lean): the handler ids
  in the socket's slots together with the ids of all completions produced so far are a
  permutation of the ids given to initiating calls.
-/
import SimVerif.Lemmas.HandlersUdp

namespace SimVerif

namespace HL

theorem logOf_append (a b : List NEff) : logOf (a ++ b) = logOf a ++ logOf b := by
  induction a with
  | nil => rfl
  | cons e rest ih => cases e <;> simp [logOf, ih]

theorem logOf_inline_noInvoke {l : List NEff} (h : noInvoke l) : ∀ x ∈ logOf l, x.1 = false := by
  induction l with
  | nil => exact fun _ hx => nomatch hx
  | cons e rest ih =>
    rw [noInvoke_cons] at h
    cases e with
    | post c => exact fun x hx => (List.mem_cons.mp hx).elim (fun e => e ▸ rfl) (ih h.2 x)
    | invoke c => exact nomatch h.1
    | _ => exact ih h.2

theorem udp_label_conserve (name : String) (n : NetSt) (l : ULbl) (u : UdpSock) (h : n.udp? name = some u) :
    ((l.eff name n).1.udp? name).isSome
    ∧ (udpIds (l.eff name n).1 name ++ effIds (l.eff name n).2).Perm (u.slotIds ++ l.newId?.toList) := by
  cases l with
  | recv op =>
    simp only [ULbl.eff, NetSt.udpAsyncRecv, h, ULbl.newId?, Option.toList_some]
    have h1 := udp_conserve_abortRecv u
    have h2 := udp_conserve_asyncReceive u.abortRecv.1 op rfl
    exact udp_conserve_lift (by rw [effIds_append]; perm_omega h1 h2)
  | waitRead hd =>
    simp only [ULbl.eff, NetSt.udpWaitRead, h, ULbl.newId?, Option.toList_some]
    have h1 := udp_conserve_abortRecv u
    have h2 := udp_conserve_asyncWaitReceive u.abortRecv.1 hd rfl
    exact udp_conserve_lift (by rw [effIds_append]; perm_omega h1 h2)
  | waitWrite now hd =>
    simp only [ULbl.eff, NetSt.udpWaitWrite, h, ULbl.newId?, Option.toList_some]
    rw [UdpSock.abortSend_eq]
    split <;> refine udp_conserve_lift ?_ <;> unfold UdpSock.slotIds <;>
      simp only [effIds_append, effIds_udpAbortSendEffs, effIds, List.append_nil, Option.toList_none, Option.toList_some]
    · simp only [List.append_assoc]; exact .append_left _ (.append_left _ List.perm_append_comm)
    · rw [← List.append_assoc]
  | recvNb caps =>
    simp only [ULbl.eff, NetSt.udpRecvNb, h, ULbl.newId?, Option.toList_none, List.append_nil]
    have hk : (u.abortRecv.1.receiveFrom caps).1.slotIds = u.abortRecv.1.slotIds := by
      unfold UdpSock.receiveFrom; (repeat' split) <;> rfl
    exact udp_conserve_lift (hk ▸ udp_conserve_abortRecv u)
  | sendTo now dst pl =>
    obtain ⟨-, ⟨u', hu', a, b, c⟩, tail, he, ht⟩ := udpSendTo_sum n now name dst pl u h none
    simp only [ULbl.eff, ULbl.newId?, Option.toList_none, List.append_nil]
    refine ⟨by rw [hu']; rfl, ?_⟩
    rw [udpIds_of_some hu', he, effIds_append, effIds_silent ht, UdpSock.abortSend_eq, effIds_append, effIds_udpAbortSendEffs]
    unfold UdpSock.slotIds; rw [a, b, c]
    simp [effIds]
  | cancel =>
    simp only [ULbl.eff, NetSt.udpCancel, h, ULbl.newId?, Option.toList_none, List.append_nil]
    exact udp_conserve_lift (udp_conserve_cancel name u)
  | close =>
    simp only [ULbl.eff, udpClose_exact n name u h, ULbl.newId?, Option.toList_none, List.append_nil]
    exact udp_conserve_lift (udp_conserve_cancel name u)
  | reopen v4 =>
    simp only [ULbl.eff, udpOpen_exact n name v4 u h, ULbl.newId?, Option.toList_none, List.append_nil]
    exact udp_conserve_lift (udp_conserve_cancel name u)
  | bind ep =>
    obtain ⟨-, u', hu', a, b, c⟩ := udpBind_sum n name ep u h none
    refine ⟨by simp [ULbl.eff, hu'], ?_⟩
    simp only [ULbl.eff, ULbl.newId?, effIds_nil, List.append_nil, Option.toList_none]
    rw [udpIds_of_some hu', slotIds_congr a b c]
  | incoming p =>
    simp only [ULbl.eff, h, ULbl.newId?, Option.toList_none, List.append_nil]
    exact udp_conserve_lift (udp_conserve_incoming u p)
  | sendTimer ab =>
    simp only [ULbl.eff, NetSt.udpSendWaitFired, h, ULbl.newId?, Option.toList_none, List.append_nil]
    have hid : n.udp? name = some u → ((n.udp? name).isSome ∧ (udpIds n name ++ effIds []).Perm u.slotIds) :=
      fun h => by rw [udpIds_of_some h, h]; exact ⟨rfl, by simp⟩
    split
    · exact hid h
    split
    · exact hid h
    · rename_i hd hw
      refine udp_conserve_lift ?_
      unfold UdpSock.slotIds; dsimp only; rw [hw]
      simp [effIds]

end HL

structure UInv (name : String) (s : HdS) : Prop where
  ex   : (s.n.udp? name).isSome
  perm : (HL.udpIds s.n name ++ s.ids).Perm s.started

open HL

theorem UInv.step (name : String) (s : HdS) (l : ULbl) (hI : UInv name s) : UInv name (US.step name s l) := by
  obtain ⟨u, hu⟩ := Option.isSome_iff_exists.mp hI.ex
  obtain ⟨h1, h2⟩ := udp_label_conserve name s.n l u hu
  refine ⟨h1, ?_⟩
  have h3 := hI.perm
  rw [udpIds_of_some hu] at h3
  unfold US.step HdS.ids at *
  dsimp only at *
  rw [List.map_append, logOf_ids]
  perm_omega h2 h3

theorem UInv.run (name : String) (ls : List ULbl) (s : HdS) (hI : UInv name s) : UInv name (US.run name s ls) := by
  induction ls generalizing s with
  | nil => exact hI
  | cons l rest ih => exact ih _ (hI.step name s l)

theorem US.run_started (name : String) (ls : List ULbl) (s : HdS) :
    (US.run name s ls).started = s.started ++ ls.filterMap ULbl.newId? := by
  induction ls generalizing s with
  | nil => simp [US.run]
  | cons l rest ih =>
    have := ih (US.step name s l)
    unfold US.run at this ⊢
    rw [List.foldl_cons, this]
    unfold US.step; dsimp only
    cases hl : l.newId? <;> simp [hl]

theorem HL.US_run_append (name : String) (a b : List ULbl) (s : HdS) :
    US.run name s (a ++ b) = US.run name (US.run name s a) b := by
  simp [US.run, List.foldl_append]

end SimVerif
