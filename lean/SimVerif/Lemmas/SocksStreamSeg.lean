/-
  SimVerif.Lemmas.SocksStreamSeg — segmentation independence of the whole negotiation over an
  abstract client byte stream (SimVerif/SocksStream.lean).
-/
import SimVerif.SocksStream
import SimVerif.Lemmas.SocksEff

namespace SimVerif.Socks

structure NS.WF (s : NS) : Prop where
  sized : s.c.Sized
  cnt : s.cnt.length = 3
  rd : ∀ off need got k, s.rd = some (off, need, got, k) →
    (POp.exact off need got k).Bnd ∧ (POp.exact off need got k).Strict

theorem absorb_wf (f : Nat) : ∀ (s : NS) (acts : List Act), s.WF → ActsOk acts → ActsStrict acts →
    ∃ s', NS.absorb {} f s acts = .ok s' ∧ s'.WF ∧ s'.rest = s.rest := by
  induction f with
  | zero => intro s acts h _ _; exact ⟨s, by unfold NS.absorb; rfl, h, rfl⟩
  | succ f ih =>
    intro s acts h ho hst
    cases acts with
    | nil => exact ⟨s, by unfold NS.absorb; rfl, h, rfl⟩
    | cons a more =>
      have ho' : ActsOk more := fun x hx => ho x (List.mem_cons_of_mem _ hx)
      have hst' : ActsStrict more := fun x hx => hst x (List.mem_cons_of_mem _ hx)
      unfold NS.absorb
      split
      · rename_i cap off need got k
        exact ih { s with rd := some (off, need, got, k) } more
          ⟨h.sized, h.cnt, fun _ _ _ _ e => by
            cases e; exact ⟨ho _ (List.mem_cons_self ..) _ rfl, hst _ (List.mem_cons_self ..) _ rfl⟩⟩ ho' hst'
      · rename_i bytes len
        obtain ⟨c, cnt, acts, e, hE⟩ :=
          complete_eff h.sized h.cnt (.write .client len .hs3) (.wr .ok len) trivial (by simp [valid])
        rw [e]
        exact ih { s with c := c, cnt := cnt, log := _ } (acts ++ more) ⟨hE.sized, hE.len, h.rd⟩
          (List.forall_mem_append.2 ⟨hE.bnd, ho'⟩) (List.forall_mem_append.2 ⟨hE.strict, hst'⟩)
      · exact ih { s with log := s.log ++ [a] } more ⟨h.sized, h.cnt, h.rd⟩ ho' hst'

theorem init_wf (ver : Int) (flags : Nat) (cnt : List Int) (hc : cnt.length = 3) (bs : Bytes) :
    ∃ s0, NS.init {} ver flags cnt bs = .ok s0 ∧ s0.WF := by
  obtain ⟨c, cnt', acts, e, hN⟩ := start_neg (c := { ver := ver, flags := flags }) ⟨rfl, rfl, rfl⟩ hc
  unfold NS.init
  dsimp only
  rw [e]
  have ⟨s', e1, e2, _⟩ := absorb_wf 8 { c := c, cnt := cnt', rest := bs } acts
    ⟨hN.sized, hN.len, fun _ _ _ _ e => nomatch e⟩ hN.bnd hN.strict
  exact ⟨s', e1, e2⟩

/-- one read completion carrying the bytes `d`, with `r` left unread -/
def NS.chunk (s : NS) (off need got : Nat) (kd : Kind) (d r : Bytes) : Except Fault NS :=
  match onExactChunk {} s.c s.cnt off need got kd .ok d with
  | .error e => .error e
  | .ok (c, cnt, acts) => NS.absorb {} 8 { s with c := c, cnt := cnt, rest := r, rd := none } acts

theorem deliver_chunk (s : NS) (off need got : Nat) (kd : Kind) (k : Nat)
    (hrd : s.rd = some (off, need, got, kd)) (hne : s.rest ≠ []) :
    s.deliver {} k = s.chunk off need got kd (s.rest.take (min (k + 1) (min (need - got) s.rest.length)))
      (s.rest.drop (min (k + 1) (min (need - got) s.rest.length))) := by
  unfold NS.deliver NS.chunk; rw [hrd]; simp only [hne, if_false]; rfl

/-- the state after a chunk that does not fill the region -/
def NS.part (s : NS) (off need got : Nat) (kd : Kind) (d r : Bytes) : NS :=
  { s with c := { s.c with outBuf := s.c.outBuf.store (off + got) d }, rest := r, rd := some (off, need, got + d.length, kd) }

/-- a successful chunk that carries something ends the composed read exactly when the region is full -/
theorem exactStep_data (c : Conn) (off need got : Nat) {d : Bytes} (hd : d ≠ []) (h : off + got + d.length ≤ c.outBuf.cap) :
    exactStep c off need got .ok d
      = .ok ({ c with outBuf := c.outBuf.store (off + got) d }, got + d.length, decide (need ≤ got + d.length)) := by
  rw [exactStep_ok _ _ _ _ _ _ h]
  have : d.length ≠ 0 := fun e => hd (List.eq_nil_of_length_eq_zero e)
  simp [this]

section chunk
variable (s : NS) (off need got : Nat) (kd : Kind) (hb : off + need ≤ s.c.outBuf.cap)
include hb

theorem chunk_partial (d r : Bytes) (h0 : d ≠ []) (hlt : got + d.length < need) :
    s.chunk off need got kd d r = .ok (s.part off need got kd d r) := by
  unfold NS.chunk onExactChunk
  rw [exactStep_data _ _ _ _ h0 (by omega)]
  simp only [show ¬ need ≤ got + d.length by omega, decide_false]
  simp [NS.absorb, NS.part]

/-- two successive chunks of one composed read are one chunk -/
theorem chunk_fuse (d1 d2 r1 r : Bytes) (h2 : d2 ≠ []) (hle : got + d1.length + d2.length ≤ need) :
    (s.part off need got kd d1 r1).chunk off need (got + d1.length) kd d2 r = s.chunk off need got kd (d1 ++ d2) r := by
  unfold NS.chunk onExactChunk
  rw [exactStep_data _ _ _ _ h2 (by simp only [NS.part, Buf.store_cap]; omega),
    exactStep_data _ _ _ _ (by simp [h2]) (by rw [List.length_append]; omega)]
  simp only [NS.part, List.length_append, ← Nat.add_assoc, Buf.store_store]

end chunk

/-- the size of a piece: at most what the region lacks, at most what is unread, and not 0 unless one of them is -/
theorem piece_size (k a b : Nat) :
    min (k + 1) (min a b) ≤ a ∧ min (k + 1) (min a b) ≤ b ∧ (0 < a → 0 < b → 0 < min (k + 1) (min a b)) :=
  ⟨Nat.le_trans (Nat.min_le_right ..) (Nat.min_le_left ..), Nat.le_trans (Nat.min_le_right ..) (Nat.min_le_right ..),
   fun ha hb => Nat.lt_min.2 ⟨Nat.succ_pos k, Nat.lt_min.2 ⟨ha, hb⟩⟩⟩

/-- `d` was read, `r` is unread, and `d` is shorter than the maximal piece (`m` bytes) of
    `d ++ r`: the maximal piece of `r` (`j` bytes: `min` distributes over the subtraction of
    `|d|`) completes `d` to that piece -/
theorem split_piece (d r : Bytes) (need got m j M : Nat) (ha : need - got ≤ M)
    (hm : m = min (need - got) (d ++ r).length) (hd : d.length < m)
    (hj : j = min M (min (need - (got + d.length)) r.length)) :
    got + d.length < need ∧ r ≠ [] ∧ (d ++ r).take m = d ++ r.take j ∧ (d ++ r).drop m = r.drop j
    ∧ r.take j ≠ [] ∧ got + d.length + (r.take j).length ≤ need := by
  rw [List.length_append] at hm
  have h1 : m ≤ need - got := hm ▸ Nat.min_le_left ..
  have h2 : m ≤ d.length + r.length := hm ▸ Nat.min_le_right ..
  have hj : j = m - d.length := by
    rw [hj, hm, Nat.sub_add_eq, Nat.min_eq_right (Nat.le_trans (Nat.min_le_left ..) (Nat.le_trans (Nat.sub_le ..) ha)),
      ← Nat.sub_min_sub_right, Nat.add_sub_cancel_left]
  subst hj
  clear hm
  have hr : r ≠ [] := fun e => by subst e; exact Nat.not_le_of_lt hd h2
  have := List.length_take_le (m - d.length) r
  refine ⟨by omega, hr, ?_, ?_, fun e => ?_, by omega⟩
  · rw [List.take_append, List.take_of_length_le (Nat.le_of_lt hd)]
  · rw [List.drop_append, List.drop_of_length_le (Nat.le_of_lt hd), List.nil_append]
  · exact (List.take_eq_nil_iff.1 e).elim (Nat.sub_ne_zero_of_lt hd) hr

theorem chunk_step (s : NS) (off need got : Nat) (kd : Kind) (d r : Bytes) (h : s.WF)
    (hb : off + need ≤ 65536 ∧ got ≤ need) (hle : d.length ≤ need - got) :
    ∃ s', s.chunk off need got kd d r = .ok s' ∧ s'.WF ∧ s'.rest = r := by
  obtain ⟨c, cnt, acts, e, hE⟩ := onExactChunk_eff h.sized h.cnt (k := kd) (ec := .ok) hb (show d.length ≤ _ by omega)
  unfold NS.chunk
  rw [e]
  exact absorb_wf 8 _ acts ⟨hE.sized, hE.len, fun _ _ _ _ e => nomatch e⟩ hE.bnd hE.strict

/-- a completed read of no bytes at all ends the negotiation -/
theorem exactDone_zero {c c' : Conn} {cnt cnt' : List Int} {k : Kind} {acts : List Act}
    (h : exactDone {} c cnt k .ok 0 = .ok (c', cnt', acts)) :
    acts = closeActs ∨ (∃ hn pt, acts = [.resolve hn pt .resolve]) ∨ acts = [] := by
  cases k
  case hs1 =>
    -- a greeting of 0 ≠ 2 bytes
    rw [exactDone, onHandshake1, if_pos (.inr (by decide)), closeConnection] at h
    cases h; exact .inl rfl
  case hs2 =>
    simp only [exactDone, onHandshake2, Buf.readN, ne_eq, not_true_eq_false, if_false] at h
    cases hi : c.outBuf.inb 0 ((0 : Nat) : Int)
    · rw [hi] at h; simp at h
    · -- an empty method list does not offer "no authentication"
      rw [hi] at h; simp [closeConnection] at h; obtain ⟨-, -, rfl⟩ := h; exact .inl rfl
  case req1 =>
    rw [exactDone, onRequest1_eq, if_pos (.inr (by have := expectedLen_ge c.ver; omega))] at h
    cases h; exact .inl rfl
  case dom =>
    obtain ⟨-, -, rfl | ⟨_, _, rfl⟩⟩ := onRequestDomainName_out h
    · exact .inl rfl
    · exact .inr (.inl ⟨_, _, rfl⟩)
  -- the other kinds are not composed reads: `exactDone` does nothing
  all_goals (simp only [exactDone] at h; cases h; exact .inr (.inr rfl))

theorem chunk_zero {s s' : NS} {off : Nat} {kd : Kind} {r : Bytes}
    (h : s.chunk off 0 0 kd [] r = .ok s') : s'.rd = none := by
  unfold NS.chunk at h
  split at h
  · cases h
  · rename_i c cnt acts ho
    rcases onExactChunk_cases ho with ⟨h1, _⟩ | ⟨_, h2⟩
    · exfalso; apply h1; right; left; simp
    · -- none of the three action lists starts a read: `absorb` (with the fuel 8 that `NS.deliver` gives it) only logs them
      have keep : ∀ {t : NS}, NS.absorb {} 8 t acts = .ok s' → s'.rd = t.rd := by
        rcases exactDone_zero h2 with e | ⟨hn, pt, e⟩ | e <;> subst e <;> intro t h <;>
          simp [NS.absorb, closeActs] at h <;> subst h <;> rfl
      exact keep h

def NS.Settled (s : NS) : Prop := s.rd = none ∨ s.rest = []

theorem deliver_settled (p : Params) (s : NS) (k : Nat) (h : s.Settled) : s.deliver p k = .ok s := by
  unfold NS.deliver
  rcases h with h | h
  · rw [h]
  · split
    · rfl
    · simp [h]

theorem deliver_unsettled {s : NS} (h : s.WF) (hs : ¬ s.Settled) :
    ∃ off need got kd, s.rd = some (off, need, got, kd) ∧ s.rest ≠ []
      ∧ off + need ≤ 65536 ∧ got ≤ need ∧ (got < need ∨ got = 0) := by
  cases hrd : s.rd with
  | none => exact absurd (.inl hrd) hs
  | some q =>
    obtain ⟨off, need, got, kd⟩ := q
    have ⟨hb, hst⟩ := h.rd off need got kd hrd
    exact ⟨off, need, got, kd, rfl, fun e => hs (.inr e), hb.1, hb.2, hst⟩

/-- fuel `f` suffices to settle `s` -/
def NS.Enough (s : NS) (f : Nat) : Prop := s.rest.length + 1 ≤ f ∨ s.Settled

/-- a read completion keeps the state well formed and uses up at most one unit of fuel: it
    consumes a byte, or ends the read in progress, or finds the negotiation settled -/
theorem deliver_step (s : NS) (k : Nat) (h : s.WF) :
    ∃ s', s.deliver {} k = .ok s' ∧ s'.WF ∧ ∀ f, s.Enough (f + 1) → s'.Enough f := by
  by_cases hs : s.Settled
  · exact ⟨s, deliver_settled _ s k hs, h, fun _ _ => .inr hs⟩
  · obtain ⟨off, need, got, kd, hrd, hne, hb1, hb2, hb3⟩ := deliver_unsettled h hs
    rw [deliver_chunk s off need got kd k hrd hne]
    obtain ⟨n1, n2, n3⟩ := piece_size k (need - got) s.rest.length
    generalize min (k + 1) (min (need - got) s.rest.length) = n at *
    obtain ⟨s', e1, e2, e3⟩ := chunk_step s off need got kd (s.rest.take n) (s.rest.drop n) h ⟨hb1, hb2⟩
      (Nat.le_trans (List.length_take_le ..) n1)
    refine ⟨s', e1, e2, fun f he => ?_⟩
    by_cases hz : got < need
    · exact .inl (by rw [e3, List.length_drop]; have := he.resolve_right hs; have := n3 (by omega) (List.length_pos_iff.2 hne); omega)
    · -- a read of 0 bytes (`need = 0`)
      have hn0 : n = 0 := by omega
      have hg : got = 0 := by omega
      have hn' : need = 0 := by omega
      subst hn0 hg hn'
      exact .inr (.inl (chunk_zero e1))

theorem settle_settled (p : Params) (f : Nat) (s : NS) (h : s.Settled) : NS.settle p f s = .ok s := by
  induction f with
  | zero => rfl
  | succ f ih => unfold NS.settle; rw [deliver_settled p s _ h]; exact ih

theorem settle_succ (f : Nat) (s : NS) : NS.settle {} (f + 1) s =
    (match s.deliver {} 65535 with
     | .error e => .error e
     | .ok s' => NS.settle {} f s') := rfl

/-- with enough fuel the negotiation settles, and more fuel changes nothing -/
theorem settle_enough (f : Nat) : ∀ (s : NS), s.WF → s.Enough f →
    (∃ t, NS.settle {} f s = .ok t ∧ t.Settled) ∧ ∀ g, NS.settle {} (f + g) s = NS.settle {} f s := by
  induction f with
  | zero =>
    intro s _ h
    have hs := h.resolve_left (by omega)
    exact ⟨⟨s, rfl, hs⟩, fun g => by rw [settle_settled _ _ _ hs]; rfl⟩
  | succ f ih =>
    intro s hw h
    obtain ⟨s', e1, e2, e3⟩ := deliver_step s 65535 hw
    have := ih s' e2 (e3 f h)
    refine ⟨?_, fun g => ?_⟩
    · rw [settle_succ, e1]; exact this.1
    · rw [Nat.succ_add, settle_succ, settle_succ, e1]; exact this.2 g

theorem settle_stable (f g : Nat) (s : NS) (hw : s.WF) (hf : s.Enough f) (hg : s.Enough g) :
    NS.settle {} f s = NS.settle {} g s := by
  rcases Nat.le_total f g with h | h
  · obtain ⟨d, rfl⟩ := Nat.le.dest h
    exact ((settle_enough f s hw hf).2 d).symm
  · obtain ⟨d, rfl⟩ := Nat.le.dest h
    exact (settle_enough g s hw hg).2 d

/-- a completion carrying any chunk either IS the completion carrying the maximal chunk, or
    leaves a state from which the maximal chunk gives what it gives from the start -/
theorem deliver_max {s s1 : NS} {k : Nat} (h : s.WF) (hd : s.deliver {} k = .ok s1) :
    s.deliver {} 65535 = .ok s1 ∨ s1.deliver {} 65535 = s.deliver {} 65535 := by
  by_cases hs : s.Settled
  · rw [deliver_settled _ s k hs] at hd; cases hd
    exact .inl (deliver_settled _ s _ hs)
  · obtain ⟨off, need, got, kd, hrd, hne, hb1, hb2, hb3⟩ := deliver_unsettled h hs
    rw [deliver_chunk s off need got kd _ hrd hne] at hd ⊢
    have ha : need - got ≤ 65536 := Nat.le_trans (Nat.sub_le ..) (Nat.le_trans (Nat.le_add_left ..) hb1)
    rw [Nat.min_eq_right (Nat.le_trans (Nat.min_le_left ..) ha)]
    by_cases hk : min (need - got) s.rest.length ≤ k + 1
    · rw [Nat.min_eq_right hk] at hd
      exact .inl hd
    · right
      have hk := Nat.lt_of_not_le hk
      -- the chunk `d` is partial; what is left unread is `r`
      obtain ⟨d, r, hdr, hdl, ht, hdp⟩ : ∃ d r, s.rest = d ++ r ∧ d.length = k + 1 ∧ s.rest.take (k + 1) = d ∧ s.rest.drop (k + 1) = r :=
        ⟨_, _, (List.take_append_drop ..).symm, List.length_take_of_le (Nat.le_trans (Nat.le_of_lt hk) (Nat.min_le_right ..)), rfl, rfl⟩
      rw [Nat.min_eq_left (Nat.le_of_lt hk), ht, hdp] at hd
      rw [hdr, ← hdl] at hk
      obtain ⟨q0, qr, q1, q2, q3, q4⟩ := split_piece d r need got _ _ _ ha rfl hk rfl
      rw [chunk_partial s off need got kd (h.sized.out ▸ hb1) d r (List.ne_nil_of_length_pos (hdl ▸ Nat.succ_pos k)) q0] at hd
      cases hd
      rw [hdr, q1, q2, deliver_chunk (s.part off need got kd d r) off need (got + d.length) kd 65535 rfl qr]
      exact chunk_fuse s off need got kd (h.sized.out ▸ hb1) d _ r _ q3 q4

theorem settle_deliver {s s1 : NS} {k : Nat} (h : s.WF) (hd : s.deliver {} k = .ok s1) :
    s1.settle {} s1.fuel = s.settle {} s.fuel := by
  obtain ⟨s1', e1, hw1, he1⟩ := deliver_step s k h
  rw [hd] at e1; cases e1
  have hs1 : s1.Enough s.rest.length := he1 _ (.inl (Nat.le_refl _))
  unfold NS.fuel
  rw [settle_succ s.rest.length s]
  rcases deliver_max h hd with hm | hm
  · -- the piece was the maximal one
    rw [hm]
    exact settle_stable _ _ s1 hw1 (.inl (Nat.le_refl _)) hs1
  · -- a partial piece: the maximal piece from here fuses with it
    rw [← hm, ← settle_succ]
    exact settle_stable _ _ s1 hw1 (.inl (Nat.le_refl _)) (hs1.imp_left Nat.le_succ_of_le)

theorem settle_feed (ks : List Nat) : ∀ (s : NS), s.WF →
    ∃ s1, s.feed {} ks = .ok s1 ∧ s1.WF ∧ s1.settle {} s1.fuel = s.settle {} s.fuel := by
  induction ks with
  | nil => intro s h; exact ⟨s, rfl, h, rfl⟩
  | cons k ks ih =>
    intro s h
    obtain ⟨s', e1, e2, _⟩ := deliver_step s k h
    obtain ⟨s1, f1, f2, f3⟩ := ih s' e2
    refine ⟨s1, ?_, f2, ?_⟩
    · unfold NS.feed; rw [e1]; exact f1
    · rw [f3]; exact settle_deliver h e1

end SimVerif.Socks
