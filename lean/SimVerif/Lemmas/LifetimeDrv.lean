/-
  C12 helper lemmas about the world driver (SimVerif/Drv/Kernel.lean): packets and drop
  notifications addressed to a detached forwarder vanish; the catch-all of `run()`.
-/
import SimVerif.Drv.Kernel
import SimVerif.Lemmas.LifetimeKernel
import SimVerif.Lemmas.NetTables
import SimVerif.Lemmas.HandlersTcp
import SimVerif.Lemmas.HandlersUdp

namespace SimVerif

open Drv

/-- what holds of the kernel state while the catch-all cancels the sockets, relative to the kernel
    state `k0` right after all timers were cancelled: still no timer queued or pending, timers
    untouched, and the ready queue only grew by plain (non-timer) posted completions -/
structure CatchInv (k0 : K) (s : KSt) : Prop where
  dead    : KDead s.k
  timers  : s.k.timers = k0.timers
  stopped : s.k.stopped = k0.stopped
  ready   : ∃ extra, s.k.ready = k0.ready ++ extra ∧ ∀ t ∈ extra, t.tm = false

namespace HL

theorem forwardPkt_detached (p : KParams) (f : Nat) (pk : Pkt) (s : KSt) (name : String) (rest : List String)
    (hh : pk.hops = name :: rest) (h1 : name.startsWith "@" = true)
    (h2 : ((name.drop 1).toString.toNat?).bind s.net.fwdTarget = none) :
    forwardPkt p (f + 1) pk s = s := by
  rw [forwardPkt]
  simp only [hh, h1, if_true, h2]

/-- for the hop name of forwarder `g` itself no hypothesis about decoding is left: `fwdHop g` starts
    with "@" and decodes to `g` (`Hs.fwdHop_decode`) -/
theorem forwardPkt_detached_fwdHop (p : KParams) (f : Nat) (pk : Pkt) (s : KSt) (g : Nat) (rest : List String)
    (hh : pk.hops = fwdHop g :: rest) (h2 : s.net.fwdTarget g = none) :
    forwardPkt p (f + 1) pk s = s :=
  forwardPkt_detached p f pk s (fwdHop g) rest hh (Hs.fwdHop_startsWith g)
    (by rw [Hs.fwdHop_decode]; exact h2)

theorem applyQEffs_dropCb_detached (p : KParams) (qi : Nat) (pk : Pkt) (s : KSt) (fid : Nat)
    (h1 : pk.dropFwd = some fid) (h2 : s.net.fwdTarget fid = none) :
    applyQEffs p qi [.dropCb pk] s = s := by
  simp [applyQEffs, h1, h2]

theorem dropNotify_detached (s : KSt) (name : String) (pk : Pkt) (fid : Nat)
    (h1 : pk.dropFwd = some fid) (h2 : s.net.fwdTarget fid = none) :
    dropNotify s name pk = s.emit (describePkt "D" name s.k.now pk pk.hasDrop) := by
  unfold dropNotify
  have : (s.emit (describePkt "D" name s.k.now pk pk.hasDrop)).net = s.net := rfl
  simp only [h1, this, h2]
  split <;> rfl

theorem applyNEffs_nil (p : KParams) (f : Nat) (s : KSt) : applyNEffs p (f + 1) [] s = s := by
  rw [applyNEffs]
  intro h; cases h

/-- a posted completion: the kernel gets a plain task, the rest is the driver's bookkeeping -/
theorem applyNEffs_post (p : KParams) (f : Nat) (c : Compl) (rest : List NEff) (s : KSt) :
    ∃ s', applyNEffs p (f + 1) (.post c :: rest) s = applyNEffs p (f + 1) rest s'
      ∧ s'.k = step p s.k (.post c.h) := by
  rw [applyNEffs]
  exact ⟨_, rfl, rfl⟩

theorem applyNEffs_cancelTimer_some (p : KParams) (f : Nat) (o : String) (sl t : Nat) (rest : List NEff) (s : KSt)
    (h : s.itimers.lookup (o, sl) = some t) :
    applyNEffs p (f + 1) (.cancelTimer o sl :: rest) s
      = applyNEffs p (f + 1) rest { s with k := step p s.k (.cancel t) } := by
  rw [applyNEffs]; simp only [h]

theorem applyNEffs_cancelTimer_none (p : KParams) (f : Nat) (o : String) (sl : Nat) (rest : List NEff) (s : KSt)
    (h : s.itimers.lookup (o, sl) = none) :
    applyNEffs p (f + 1) (.cancelTimer o sl :: rest) s = applyNEffs p (f + 1) rest s := by
  rw [applyNEffs]; simp only [h]

theorem applyNEffs_zero (p : KParams) (effs : List NEff) (s : KSt) :
    applyNEffs p 0 effs s = { s with bad := true } := by
  rw [applyNEffs]

theorem _root_.SimVerif.CatchInv.of_k {k0 : K} {s s' : KSt} (hI : CatchInv k0 s) (h : s'.k = s.k := by rfl) :
    CatchInv k0 s' :=
  ⟨h ▸ hI.dead, h ▸ hI.timers, h ▸ hI.stopped, h ▸ hI.ready⟩

theorem CatchInv_applyNEffs (p : KParams) (k0 : K) (f : Nat) (effs : List NEff) (s : KSt)
    (hs : postsOnly effs) (hI : CatchInv k0 s) : CatchInv k0 (applyNEffs p f effs s) := by
  cases f with
  | zero => rw [applyNEffs_zero]; exact hI.of_k
  | succ f =>
    induction effs generalizing s with
    | nil => rw [applyNEffs_nil]; exact hI
    | cons e rest ih =>
      have hrest : postsOnly rest := fun e he => hs e (List.mem_cons_of_mem _ he)
      have he := hs e List.mem_cons_self
      cases e with
      | post c =>
        obtain ⟨s', he', hk'⟩ := applyNEffs_post p f c rest s
        rw [he']
        apply ih _ hrest
        obtain ⟨extra, hx, ht⟩ := hI.ready
        have hk2 : s'.k = postTask s.k c.h := hk'
        refine ⟨by rw [hk2]; exact KDead_post s.k c.h hI.dead, by rw [hk2]; exact hI.timers,
          by rw [hk2]; exact hI.stopped, extra ++ [{ h := c.h, ec := .ok, st := s.k.now }], ?_, ?_⟩
        · rw [hk2]
          unfold postTask; dsimp only; rw [hx, List.append_assoc]
        · intro t htm
          rw [List.mem_append] at htm
          rcases htm with htm | htm
          · exact ht t htm
          · simp only [List.mem_singleton] at htm; subst htm; rfl
      | cancelTimer o sl =>
        cases hl : s.itimers.lookup (o, sl) with
        | none => rw [applyNEffs_cancelTimer_none _ _ _ _ _ _ hl]; exact ih _ hrest hI
        | some t =>
          rw [applyNEffs_cancelTimer_some _ _ _ _ _ _ _ hl]
          exact ih _ hrest (hI.of_k (cancel_of_dead s.k t hI.dead))
      | _ => simp [NEff.isPostOrCancel] at he

theorem catch_timers_fold (p : KParams) (l : List (Int × Nat)) (s : KSt) :
    l.foldl (fun (s : KSt) (x : Int × Nat) => { s with k := step p s.k (.cancel x.2) }) s
      = { s with k := cancelAllL l s.k } := by
  induction l generalizing s with
  | nil => rfl
  | cons a rest ih => rw [List.foldl_cons, ih]; rfl

/-- **the catch-all of `run()`**, given the kernel invariant at the moment the exception arrives -/
theorem runCatch_spec (p : KParams) (s : KSt) (hk : KInv s.k) :
    (runCatch p s).k.tq = []
    ∧ (runCatch p s).k.stopped = true
    ∧ (∀ i, ((runCatch p s).k.timers i).expired = true ∧ ((runCatch p s).k.timers i).handler = none)
    ∧ (∃ extra, (runCatch p s).k.ready = s.k.ready ++ s.k.tq.filterMap (abortCompletion s.k) ++ extra
        ∧ ∀ t ∈ extra, t.tm = false)
    ∧ (runCatch p s).thrown = false ∧ (runCatch p s).threw = true := by
  unfold runCatch
  dsimp only
  rw [catch_timers_fold]
  obtain ⟨_, _, c3⟩ := cancelAllL_spec s.k.tq s.k hk rfl
  obtain ⟨d1, d2⟩ := cancelAllL_dead s.k hk
  -- the invariant holds after the timers, and each step of the two socket loops keeps it
  have h0 : CatchInv (cancelAllL s.k.tq s.k) { s with k := cancelAllL s.k.tq s.k } :=
    ⟨d1, rfl, rfl, [], by simp, by simp⟩
  generalize hs1 : List.foldl _ ({ s with k := cancelAllL s.k.tq s.k } : KSt) _ = s1
  have h1 : CatchInv (cancelAllL s.k.tq s.k) s1 := hs1 ▸ List.foldlRecOn _ _ h0 fun s hI x _ => by
    split
    · exact CatchInv_applyNEffs p _ netFuel _ _ (sstep_cancel _).posts.postsOnly hI.of_k
    · exact hI
  generalize hs2 : List.foldl _ s1 _ = s2
  have h2 : CatchInv (cancelAllL s.k.tq s.k) s2 := hs2 ▸ List.foldlRecOn _ _ h1 fun s hI x _ => by
    split
    · exact CatchInv_applyNEffs p _ netFuel _ _ (posts_udp_cancel _ _) hI.of_k
    · exact hI
  refine ⟨h2.dead.tq, rfl, fun i => ⟨h2.dead.exp i, ?_⟩, ?_, rfl, rfl⟩
  · exact (congrArg (fun f => (f i).handler) h2.timers).trans (d2 i)
  · obtain ⟨extra, hx, ht⟩ := h2.ready
    exact ⟨extra, hx.trans (by rw [c3]), ht⟩

end HL

end SimVerif
