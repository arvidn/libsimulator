/-
  SimVerif.Lemmas.UdpSock — one UDP socket object (`UdpSock.*` of SimVerif/Net.lean): the outcome
  table of each function, what they leave alone (`sameCtl`), what they do to the queue (`QTail`),
  the per-socket data invariant `UdpSock.DOk` with its preservation, and what a control-path call
  may change of an object without the invariant noticing (`sameData`); last, `close`, `cancel`
  and `open` on the network state as equations.
-/
import SimVerif.NetSys
import SimVerif.Lemmas.Assoc

namespace SimVerif

def UdpSock.closed (u : UdpSock) : UdpSock :=
  { u with bound := {}, isOpen := false, fwd := none, queue := [], queueSize := 0,
           recvH := none, waitRecvH := none, waitSendH := none }

def UdpSock.opened (u : UdpSock) (v4 : Bool) (fid : Nat) : UdpSock :=
  { u.closed with isOpen := true, isV4 := v4, fwd := some fid }

def paySum (q : List Pkt) : Int := (q.map (fun p => (p.payload.length : Int))).sum

@[simp] theorem paySum_nil : paySum [] = 0 := rfl
@[simp] theorem paySum_cons (p : Pkt) (q : List Pkt) : paySum (p :: q) = p.payload.length + paySum q := by
  simp [paySum]
theorem paySum_append (q r : List Pkt) : paySum (q ++ r) = paySum q + paySum r := by
  simp [paySum, List.sum_append]

def QTail (q q' : List Pkt) : Prop := q' = q ∨ ∃ p, q = p :: q'

theorem QTail.refl (q : List Pkt) : QTail q q := Or.inl rfl

theorem popped_self (q : List Pkt) : popped q q = [] := by simp [popped]
theorem popped_tail (p : Pkt) (q : List Pkt) : popped (p :: q) q = [p] := by simp [popped]
theorem popped_nil' (q : List Pkt) : popped q [] = q := by simp [popped]

theorem QTail.popped_cases {q q' : List Pkt} (h : QTail q q') :
    (q' = q ∧ popped q q' = []) ∨ (∃ p, q = p :: q' ∧ popped q q' = [p]) := by
  rcases h with h | ⟨p, h⟩
  · subst h; exact Or.inl ⟨rfl, popped_self _⟩
  · subst h; exact Or.inr ⟨p, rfl, popped_tail _ _⟩

theorem QTail.popped_append {q q' : List Pkt} (h : QTail q q') : popped q q' ++ q' = q := by
  rcases h.popped_cases with ⟨rfl, e⟩ | ⟨p, rfl, e⟩ <;> rw [e] <;> rfl

theorem QTail.popped_length {q q' : List Pkt} (h : QTail q q') : (popped q q').length ≤ 1 := by
  rcases h.popped_cases with ⟨_, e⟩ | ⟨p, _, e⟩ <;> simp [e]

def udpAbortRecvEffs (u : UdpSock) : List NEff :=
  (match u.recvH with
    | some op => [NEff.post { h := op.h, ec := .aborted, extra := "n=0" ++ (if op.withEp then " ep=0.0.0.0:0" else "") ++ " data=-" }]
    | none => [])
  ++ (match u.waitRecvH with
    | some h => [NEff.post { h := h, ec := .aborted }]
    | none => [])

def udpAbortSendEffs (u : UdpSock) : List NEff :=
  match u.waitSendH with
  | some h => [NEff.post { h := h, ec := .aborted }]
  | none => []

theorem UdpSock.abortRecv_eq (u : UdpSock) :
    u.abortRecv = ({ u with recvH := none, waitRecvH := none }, udpAbortRecvEffs u) := rfl

theorem UdpSock.abortSend_eq (name : String) (u : UdpSock) :
    u.abortSend name = ({ u with waitSendH := none }, udpAbortSendEffs u ++ [.cancelTimer name 0]) := rfl

theorem UdpSock.cancel_eq (name : String) (u : UdpSock) :
    u.cancel name = ({ u with recvH := none, waitRecvH := none, waitSendH := none },
      udpAbortRecvEffs u ++ (udpAbortSendEffs u ++ [.cancelTimer name 0]) ++ [.cancelTimer name 0]) := rfl

theorem UdpSock.open_bound_queue_cases (u : UdpSock) :
    u.isOpen = false ∨ (u.isOpen = true ∧ u.bound.isDefault = true)
    ∨ (u.isOpen = true ∧ u.bound.isDefault = false ∧ u.queue = [])
    ∨ (∃ p rest, u.isOpen = true ∧ u.bound.isDefault = false ∧ u.queue = p :: rest) := by
  cases u.isOpen <;> cases u.bound.isDefault <;> cases u.queue <;> simp

theorem UdpSock.receiveFrom_closed (u : UdpSock) (caps : List Nat) (h : u.isOpen = false) :
    u.receiveFrom caps = (u, .error .badDesc) := by
  simp [UdpSock.receiveFrom, h]

theorem UdpSock.receiveFrom_unbound (u : UdpSock) (caps : List Nat) (ho : u.isOpen = true)
    (hb : u.bound.isDefault = true) : u.receiveFrom caps = (u, .error .invalid) := by
  simp [UdpSock.receiveFrom, ho, hb]

theorem UdpSock.receiveFrom_empty (u : UdpSock) (caps : List Nat) (ho : u.isOpen = true)
    (hb : u.bound.isDefault = false) (hq : u.queue = []) : u.receiveFrom caps = (u, .error .wouldBlock) := by
  simp [UdpSock.receiveFrom, ho, hb, hq]

theorem UdpSock.receiveFrom_cons (u : UdpSock) (caps : List Nat) (p : Pkt) (rest : List Pkt)
    (ho : u.isOpen = true) (hb : u.bound.isDefault = false) (hq : u.queue = p :: rest) :
    u.receiveFrom caps = ({ u with queue := rest, queueSize := u.queueSize - p.payload.length },
      .ok (p.payload.take (caps.foldl (· + ·) 0), p.src)) := by
  simp [UdpSock.receiveFrom, ho, hb, hq]

def recvErrCompl (op : RecvOp) (e : Ec) : NEff :=
  .post { h := op.h, ec := e, extra := "n=0" ++ (if op.withEp then " ep=0.0.0.0:0" else "") ++ " data=-" }

theorem UdpSock.asyncReceive_closed (u : UdpSock) (op : RecvOp) (h : u.isOpen = false) :
    u.asyncReceive op = ({ u with recvH := none, recvNull := false }, [recvErrCompl op .badDesc]) := by
  simp [UdpSock.asyncReceive, u.receiveFrom_closed op.caps h, recvErrCompl]

theorem UdpSock.asyncReceive_unbound (u : UdpSock) (op : RecvOp) (ho : u.isOpen = true)
    (hb : u.bound.isDefault = true) :
    u.asyncReceive op = ({ u with recvH := none, recvNull := false }, [recvErrCompl op .invalid]) := by
  simp [UdpSock.asyncReceive, u.receiveFrom_unbound op.caps ho hb, recvErrCompl]

theorem UdpSock.asyncReceive_empty (u : UdpSock) (op : RecvOp) (ho : u.isOpen = true)
    (hb : u.bound.isDefault = false) (hq : u.queue = []) :
    u.asyncReceive op = ({ u with recvH := some op, recvNull := false }, []) := by
  simp [UdpSock.asyncReceive, u.receiveFrom_empty op.caps ho hb hq]

theorem UdpSock.asyncReceive_cons (u : UdpSock) (op : RecvOp) (p : Pkt) (rest : List Pkt)
    (ho : u.isOpen = true) (hb : u.bound.isDefault = false) (hq : u.queue = p :: rest) :
    u.asyncReceive op =
      ({ u with queue := rest, queueSize := u.queueSize - p.payload.length, recvH := none, recvNull := false },
       [.post { h := op.h, ec := .ok,
                extra := recvExtra op.withEp (p.payload.take (op.caps.foldl (· + ·) 0)) p.src,
                data := p.payload.take (op.caps.foldl (· + ·) 0), src := p.src }]) := by
  simp [UdpSock.asyncReceive, u.receiveFrom_cons op.caps p rest ho hb hq]

theorem UdpSock.asyncWaitReceive_eq (u : UdpSock) (h : Nat) :
    u.asyncWaitReceive h =
      if u.isOpen = true ∧ u.bound.isDefault = false ∧ u.queue = [] then
        ({ u with recvNull := true, waitRecvH := some h }, [])
      else (u, [.post { h := h, ec := if !u.isOpen then .badDesc else if u.bound.isDefault then .invalid else .ok }]) := by
  unfold UdpSock.asyncWaitReceive
  rcases u.open_bound_queue_cases with ho | ⟨ho, hb⟩ | ⟨ho, hb, hq⟩ | ⟨p, rest, ho, hb, hq⟩ <;> simp [*]

theorem UdpSock.maybeWakeup_cases (u : UdpSock) :
    u.maybeWakeup = (u, [])
    ∨ (∃ h, u.waitRecvH = some h ∧ u.maybeWakeup = ({ u with waitRecvH := none }).asyncWaitReceive h)
    ∨ (∃ op, u.recvH = some op ∧ u.maybeWakeup = ({ u with recvH := none }).asyncReceive op) := by
  unfold UdpSock.maybeWakeup
  by_cases hl : u.queue.length = 1
  · cases hn : u.recvNull <;> cases hr : u.recvH <;> cases hw : u.waitRecvH <;> simp [hl]
  · left; simp [hl]

section incoming
variable {u : UdpSock} {p : Pkt}

theorem UdpSock.incoming_full (hc : u.queueSize + p.size > 262144) : u.incoming p = (u, []) := if_pos hc

theorem UdpSock.incoming_idle (hc : ¬ u.queueSize + p.size > 262144) (hr : u.recvH = none) (hw : u.waitRecvH = none) :
    u.incoming p = ({ u with queueSize := u.queueSize + p.payload.length, queue := u.queue ++ [p] }, []) := by
  simp [UdpSock.incoming, UdpSock.maybeWakeup, hc, hr, hw]

theorem UdpSock.incoming_recv {op : RecvOp} (hc : ¬ u.queueSize + p.size > 262144) (hq : u.queue = [])
    (hn : u.recvNull = false) (hr : u.recvH = some op) :
    u.incoming p = ({ u with queueSize := u.queueSize + p.payload.length, queue := [p], recvH := none } :
      UdpSock).asyncReceive op := by
  simp [UdpSock.incoming, UdpSock.maybeWakeup, hc, hq, hn, hr]

theorem UdpSock.incoming_wait {k : Nat} (hc : ¬ u.queueSize + p.size > 262144) (hq : u.queue = [])
    (hn : u.recvNull = true) (hw : u.waitRecvH = some k) :
    u.incoming p = ({ u with queueSize := u.queueSize + p.payload.length, queue := [p], waitRecvH := none } :
      UdpSock).asyncWaitReceive k := by
  simp [UdpSock.incoming, UdpSock.maybeWakeup, hc, hq, hn, hw]

end incoming

def UdpSock.sameCtl (u u' : UdpSock) : Prop :=
  u'.isOpen = u.isOpen ∧ u'.fwd = u.fwd ∧ u'.bound = u.bound ∧ u'.node = u.node ∧ u'.isV4 = u.isV4

theorem UdpSock.sameCtl.refl (u : UdpSock) : u.sameCtl u := ⟨rfl, rfl, rfl, rfl, rfl⟩
theorem UdpSock.sameCtl.trans {u v w : UdpSock} (h1 : u.sameCtl v) (h2 : v.sameCtl w) : u.sameCtl w := by
  obtain ⟨a1, a2, a3, a4, a5⟩ := h1; obtain ⟨b1, b2, b3, b4, b5⟩ := h2
  exact ⟨b1.trans a1, b2.trans a2, b3.trans a3, b4.trans a4, b5.trans a5⟩

theorem UdpSock.sameCtl_abortRecv (u : UdpSock) : u.sameCtl u.abortRecv.1 := ⟨rfl, rfl, rfl, rfl, rfl⟩
theorem UdpSock.sameCtl_abortSend (name : String) (u : UdpSock) : u.sameCtl (u.abortSend name).1 :=
  ⟨rfl, rfl, rfl, rfl, rfl⟩
theorem UdpSock.sameCtl_cancel (name : String) (u : UdpSock) : u.sameCtl (u.cancel name).1 := by
  rw [UdpSock.cancel_eq]; exact ⟨rfl, rfl, rfl, rfl, rfl⟩

theorem UdpSock.sameCtl_asyncWaitReceive (u : UdpSock) (h : Nat) : u.sameCtl (u.asyncWaitReceive h).1 := by
  rw [UdpSock.asyncWaitReceive_eq]; split <;> exact ⟨rfl, rfl, rfl, rfl, rfl⟩

theorem UdpSock.asyncWaitReceive_queue (u : UdpSock) (h : Nat) : (u.asyncWaitReceive h).1.queue = u.queue := by
  rw [UdpSock.asyncWaitReceive_eq]; split <;> rfl

/-- What holds of every UDP socket object between API calls:
    * `acct`  — an open socket's receive-buffer account is the payload bytes it has queued
      (a moved-from object keeps a stale account, but it is closed);
    * `cle`   — a closed socket has nothing queued;
    * `h1/h2` — the flag `m_recv_null_buffers` agrees with which handler is parked, so
      `maybe_wakeup_reader` never calls an empty handler object;
    * `pend`  — a receive or wait is parked only on an open, bound socket with an empty queue
      (no lost wake-up: a datagram is never left queued next to a parked reader). -/
structure UdpSock.DOk (u : UdpSock) : Prop where
  acct : u.isOpen = true → u.queueSize = paySum u.queue
  cle  : u.isOpen = false → u.queue = []
  h1   : u.recvH.isSome = true → u.recvNull = false
  h2   : u.waitRecvH.isSome = true → u.recvNull = true
  pend : (u.recvH.isSome = true ∨ u.waitRecvH.isSome = true) →
           u.queue = [] ∧ u.isOpen = true ∧ u.bound.isDefault = false

def UdpSock.DataCall (g : UdpSock → UdpSock) : Prop :=
  (∀ u : UdpSock, u.sameCtl (g u)) ∧ (∀ u : UdpSock, u.DOk → (g u).DOk) ∧ ∀ u : UdpSock, QTail u.queue (g u).queue

theorem UdpSock.DOk.fresh (node : String) : UdpSock.DOk { node := node } := by
  constructor <;> simp

theorem UdpSock.DOk.closed (u : UdpSock) : u.closed.DOk := by
  constructor <;> simp [UdpSock.closed]

theorem UdpSock.DOk.opened (u : UdpSock) (v4 : Bool) (fid : Nat) : (u.opened v4 fid).DOk := by
  constructor <;> simp [UdpSock.opened, UdpSock.closed]

theorem UdpSock.DOk.abortRecv {u : UdpSock} (h : u.DOk) : u.abortRecv.1.DOk := by
  rw [UdpSock.abortRecv_eq]
  exact ⟨h.acct, h.cle, by simp, by simp, by simp⟩

theorem UdpSock.DOk.abortSend {u : UdpSock} (name : String) (h : u.DOk) : (u.abortSend name).1.DOk := by
  rw [UdpSock.abortSend_eq]
  exact ⟨h.acct, h.cle, h.h1, h.h2, h.pend⟩

theorem UdpSock.DOk.cancel {u : UdpSock} (name : String) (h : u.DOk) : (u.cancel name).1.DOk := by
  rw [UdpSock.cancel_eq]
  exact ⟨h.acct, h.cle, by simp, by simp, by simp⟩

theorem UdpSock.DOk.recvH_none {u : UdpSock} (h : u.DOk) (hn : u.recvNull = true) : u.recvH = none := by
  cases hr : u.recvH with
  | none => rfl
  | some op => have := h.h1 (by rw [hr]; rfl); rw [hn] at this; cases this

theorem UdpSock.DOk.waitRecvH_none {u : UdpSock} (h : u.DOk) (hn : u.recvNull = false) : u.waitRecvH = none := by
  cases hw : u.waitRecvH with
  | none => rfl
  | some k => have := h.h2 (by rw [hw]; rfl); rw [hn] at this; cases this

theorem UdpSock.receiveFrom_frame (u : UdpSock) (caps : List Nat) :
    u.sameCtl (u.receiveFrom caps).1 ∧ QTail u.queue (u.receiveFrom caps).1.queue
    ∧ (u.DOk → (u.receiveFrom caps).1.DOk) := by
  rcases u.open_bound_queue_cases with ho | ⟨ho, hb⟩ | ⟨ho, hb, hq⟩ | ⟨p, rest, ho, hb, hq⟩
  · rw [u.receiveFrom_closed caps ho]; exact ⟨.refl u, .refl _, id⟩
  · rw [u.receiveFrom_unbound caps ho hb]; exact ⟨.refl u, .refl _, id⟩
  · rw [u.receiveFrom_empty caps ho hb hq]; exact ⟨.refl u, .refl _, id⟩
  · rw [u.receiveFrom_cons caps p rest ho hb hq]
    refine ⟨⟨rfl, rfl, rfl, rfl, rfl⟩, .inr ⟨p, hq⟩, fun h => ?_⟩
    have hp := h.pend; rw [hq] at hp
    have ha := h.acct ho; rw [hq, paySum_cons] at ha
    refine ⟨fun _ => by dsimp only; omega, fun hc => by simp [ho] at hc, h.h1, h.h2, fun hx => ?_⟩
    exact absurd (hp hx).1 (by simp)

theorem UdpSock.asyncReceive_frame (u : UdpSock) (op : RecvOp) :
    u.sameCtl (u.asyncReceive op).1 ∧ QTail u.queue (u.asyncReceive op).1.queue
    ∧ (u.DOk → u.waitRecvH = none → (u.asyncReceive op).1.DOk) := by
  rcases u.open_bound_queue_cases with ho | ⟨ho, hb⟩ | ⟨ho, hb, hq⟩ | ⟨p, rest, ho, hb, hq⟩
  · rw [u.asyncReceive_closed op ho]
    exact ⟨⟨rfl, rfl, rfl, rfl, rfl⟩, .refl _, fun h hw => ⟨h.acct, h.cle, by simp, by simp [hw], by simp [hw]⟩⟩
  · rw [u.asyncReceive_unbound op ho hb]
    exact ⟨⟨rfl, rfl, rfl, rfl, rfl⟩, .refl _, fun h hw => ⟨h.acct, h.cle, by simp, by simp [hw], by simp [hw]⟩⟩
  · rw [u.asyncReceive_empty op ho hb hq]
    exact ⟨⟨rfl, rfl, rfl, rfl, rfl⟩, .refl _, fun h hw => ⟨h.acct, h.cle, by simp, by simp [hw], fun _ => ⟨hq, ho, hb⟩⟩⟩
  · rw [u.asyncReceive_cons op p rest ho hb hq]
    refine ⟨⟨rfl, rfl, rfl, rfl, rfl⟩, .inr ⟨p, hq⟩, fun h hw => ?_⟩
    have ha := h.acct ho; rw [hq, paySum_cons] at ha
    exact ⟨fun _ => by dsimp only; omega, fun hc => by simp [ho] at hc, by simp, by simp [hw], by simp [hw]⟩

theorem UdpSock.maybeWakeup_frame (u : UdpSock) :
    u.sameCtl u.maybeWakeup.1 ∧ QTail u.queue u.maybeWakeup.1.queue := by
  rcases u.maybeWakeup_cases with e | ⟨h, _, e⟩ | ⟨op, _, e⟩ <;> rw [e]
  · exact ⟨.refl u, .refl _⟩
  · exact ⟨sameCtl.trans (v := { u with waitRecvH := none }) ⟨rfl, rfl, rfl, rfl, rfl⟩ (sameCtl_asyncWaitReceive _ h),
      by rw [asyncWaitReceive_queue]; exact .refl _⟩
  · have f := asyncReceive_frame { u with recvH := none } op
    exact ⟨sameCtl.trans (v := { u with recvH := none }) ⟨rfl, rfl, rfl, rfl, rfl⟩ f.1, f.2.1⟩

theorem UdpSock.sameCtl_incoming (u : UdpSock) (p : Pkt) : u.sameCtl (u.incoming p).1 := by
  unfold UdpSock.incoming
  split
  · exact sameCtl.refl u
  · exact sameCtl.trans (v := { u with queueSize := u.queueSize + p.payload.length, queue := u.queue ++ [p] })
      ⟨rfl, rfl, rfl, rfl, rfl⟩ (maybeWakeup_frame _).1

theorem UdpSock.incoming_cases (u : UdpSock) (p : Pkt) :
    (u.queueSize + p.size > 262144 ∧ u.incoming p = (u, []))
    ∨ (¬ u.queueSize + p.size > 262144 ∧
        u.incoming p = ({ u with queueSize := u.queueSize + p.payload.length, queue := u.queue ++ [p] }).maybeWakeup
        ∧ QTail (u.queue ++ [p]) (u.incoming p).1.queue) := by
  unfold UdpSock.incoming
  split
  · left; exact ⟨by assumption, rfl⟩
  · right; refine ⟨by assumption, rfl, ?_⟩
    exact (UdpSock.maybeWakeup_frame { u with queueSize := u.queueSize + p.payload.length, queue := u.queue ++ [p] }).2

theorem UdpSock.DOk.asyncWaitReceive {u : UdpSock} (hh : Nat) (h : u.DOk)
    (hr : u.recvH = none) : (u.asyncWaitReceive hh).1.DOk := by
  rw [UdpSock.asyncWaitReceive_eq]
  split
  · rename_i hc
    exact ⟨h.acct, h.cle, by simp [hr], by simp, fun _ => ⟨hc.2.2, hc.1, hc.2.1⟩⟩
  · exact h

/-- the two branches of `maybe_wakeup_reader` that would call an empty handler object are
    excluded by the invariant -/
theorem UdpSock.DOk.wakeup_handler_present {u : UdpSock} (h : u.DOk)
    (hp : u.recvH.isSome = true ∨ u.waitRecvH.isSome = true) :
    (u.recvNull = true → u.waitRecvH.isSome = true) ∧ (u.recvNull = false → u.recvH.isSome = true) := by
  constructor <;> intro hn <;> rcases hp with hp | hp
  · rw [h.recvH_none hn] at hp; cases hp
  · exact hp
  · exact hp
  · rw [h.waitRecvH_none hn] at hp; cases hp

theorem UdpSock.DOk.incoming_cases {u : UdpSock} (h : u.DOk) (p : Pkt) :
    (u.queueSize + p.size > 262144 ∧ u.incoming p = (u, []))
    ∨ (¬ u.queueSize + p.size > 262144 ∧ u.recvH = none ∧ u.waitRecvH = none ∧ u.incoming p =
        ({ u with queueSize := u.queueSize + p.payload.length, queue := u.queue ++ [p] }, []))
    ∨ (∃ op, ¬ u.queueSize + p.size > 262144 ∧ u.recvH = some op ∧ u.waitRecvH = none ∧ u.queue = []
        ∧ u.isOpen = true ∧ u.incoming p =
        ({ u with queueSize := u.queueSize + p.payload.length - p.payload.length, queue := [], recvH := none,
                  recvNull := false },
         [.post { h := op.h, ec := .ok,
                  extra := recvExtra op.withEp (p.payload.take (op.caps.foldl (· + ·) 0)) p.src,
                  data := p.payload.take (op.caps.foldl (· + ·) 0), src := p.src }]))
    ∨ (∃ k, ¬ u.queueSize + p.size > 262144 ∧ u.waitRecvH = some k ∧ u.recvH = none ∧ u.queue = []
        ∧ u.isOpen = true ∧ u.incoming p =
        ({ u with queueSize := u.queueSize + p.payload.length, queue := [p], waitRecvH := none },
         [.post { h := k, ec := .ok }])) := by
  by_cases hc : u.queueSize + p.size > 262144
  · exact .inl ⟨hc, incoming_full hc⟩
  right
  -- a parked reader means an empty queue: the datagram is then the only one queued
  cases hr : u.recvH with
  | some op =>
    obtain ⟨hq, ho, hb⟩ := h.pend (.inl (by rw [hr]; rfl))
    have hw := h.waitRecvH_none (h.h1 (by rw [hr]; rfl))
    refine .inr (.inl ⟨op, hc, rfl, hw, hq, ho, ?_⟩)
    exact (incoming_recv hc hq (h.h1 (by rw [hr]; rfl)) hr).trans (UdpSock.asyncReceive_cons _ op p [] ho hb rfl)
  | none =>
    cases hw : u.waitRecvH with
    | none => exact .inl ⟨hc, rfl, rfl, by rw [incoming_idle hc hr hw, hr, hw]⟩
    | some k =>
      obtain ⟨hq, ho, hb⟩ := h.pend (.inr (by rw [hw]; rfl))
      refine .inr (.inr ⟨k, hc, rfl, rfl, hq, ho, ?_⟩)
      rw [incoming_wait hc hq (h.h2 (by rw [hw]; rfl)) hw, UdpSock.asyncWaitReceive_eq, if_neg (fun c => by cases c.2.2)]
      simp [ho, hb, hr]

theorem UdpSock.DOk.incoming {u : UdpSock} (p : Pkt) (h : u.DOk) (ho : u.isOpen = true) :
    (u.incoming p).1.DOk := by
  have ha := h.acct ho
  have hacc : u.queueSize + (p.payload.length : Int) = paySum (u.queue ++ [p]) := by
    rw [paySum_append]; simp; omega
  rcases h.incoming_cases p with ⟨_, e⟩ | ⟨_, hr, hw, e⟩ | ⟨op, _, _, hw, hq, _, e⟩ | ⟨k, _, _, hr, hq, _, e⟩ <;> rw [e]
  · exact h
  · exact ⟨fun _ => hacc, fun hc => by simp [ho] at hc, h.h1, h.h2, by simp [hr, hw]⟩
  · rw [hq, paySum_nil] at ha
    exact ⟨fun _ => by show u.queueSize + (p.payload.length : Int) - p.payload.length = 0; omega,
      fun hc => by simp [ho] at hc, by simp, by simp [hw], by simp [hw]⟩
  · rw [hq] at hacc
    exact ⟨fun _ => hacc, fun hc => by simp [ho] at hc, by simp [hr], by simp, by simp [hr]⟩

theorem UdpSock.incoming_accepts_drained {u : UdpSock} (p : Pkt) (h : u.DOk) (ho : u.isOpen = true)
    (hq : u.queue = []) (hs : p.size ≤ 262144) : ¬ u.queueSize + p.size > 262144 := by
  have := h.acct ho
  rw [hq] at this; simp at this
  omega

def UdpSock.sameData (u u' : UdpSock) : Prop :=
  u'.queue = u.queue ∧ u'.queueSize = u.queueSize ∧ u'.isOpen = u.isOpen ∧ u'.recvH = u.recvH
  ∧ u'.waitRecvH = u.waitRecvH ∧ u'.recvNull = u.recvNull ∧ u'.fwd = u.fwd ∧ u'.node = u.node
  ∧ (u.bound.isDefault = false → u'.bound = u.bound)

theorem UdpSock.sameData.refl (u : UdpSock) : u.sameData u := ⟨rfl, rfl, rfl, rfl, rfl, rfl, rfl, rfl, fun _ => rfl⟩

theorem UdpSock.sameData.trans {u v w : UdpSock} (h1 : u.sameData v) (h2 : v.sameData w) : u.sameData w := by
  obtain ⟨a1, a2, a3, a4, a5, a6, a7, a8, a9⟩ := h1
  obtain ⟨b1, b2, b3, b4, b5, b6, b7, b8, b9⟩ := h2
  refine ⟨b1.trans a1, b2.trans a2, b3.trans a3, b4.trans a4, b5.trans a5, b6.trans a6, b7.trans a7, b8.trans a8, ?_⟩
  intro hd
  have := a9 hd
  rw [b9 (by rw [this]; exact hd), this]

theorem UdpSock.DOk.sameData {u u' : UdpSock} (h : u.DOk) (hs : u.sameData u') : u'.DOk := by
  obtain ⟨a1, a2, a3, a4, a5, a6, a7, a8, a9⟩ := hs
  constructor
  · rw [a1, a2, a3]; exact h.acct
  · rw [a1, a3]; exact h.cle
  · rw [a4, a6]; exact h.h1
  · rw [a5, a6]; exact h.h2
  · rw [a4, a5, a1, a3]
    intro hx
    obtain ⟨x1, x2, x3⟩ := h.pend hx
    exact ⟨x1, x2, by rw [a9 x3]; exact x3⟩

/-- what `close` does outside the object -/
def NetSt.releasedU (n : NetSt) (name : String) (b : Ep) (fw : Option Nat) : NetSt :=
  { n with reg := { n.reg with udp := if b.isDefault then n.reg.udp else simUnbind n.reg.udp name b },
           fwds := match fw with | some f => (n.setFwd f none).fwds | none => n.fwds }

theorem udpClose_none (n : NetSt) (name : String) (h : n.udp? name = none) : n.udpClose name = (n, []) := by
  simp [NetSt.udpClose, h]

theorem udpClose_exact (n : NetSt) (name : String) (u : UdpSock) (h : n.udp? name = some u) :
    n.udpClose name = ((n.releasedU name u.bound u.fwd).setUdp name u.closed, (u.cancel name).2) := by
  unfold NetSt.udpClose NetSt.releasedU
  simp only [h]
  cases u.fwd <;> cases u.bound.isDefault <;> rfl

theorem udpCancel_exact (n : NetSt) (name : String) (u : UdpSock) (h : n.udp? name = some u) :
    n.udpCancel name = (n.setUdp name (u.cancel name).1, (u.cancel name).2) := by
  simp only [NetSt.udpCancel, h]

theorem udpClose_fwds_length (n : NetSt) (name : String) : (n.udpClose name).1.fwds.length = n.fwds.length := by
  cases h : n.udp? name with
  | none => rw [udpClose_none n name h]
  | some u => rw [udpClose_exact n name u h]; exact (fwdTarget_setFwdOpt (fo := u.fwd) rfl).1

theorem udpOpen_none (n : NetSt) (name : String) (v4 : Bool) (h : n.udp? name = none) :
    n.udpOpen name v4 = (n, []) := by
  unfold NetSt.udpOpen; rw [udpClose_none n name h]; simp only [h]

theorem udpOpen_exact (n : NetSt) (name : String) (v4 : Bool) (u : UdpSock) (h : n.udp? name = some u) :
    n.udpOpen name v4 = (((n.udpClose name).1.newFwd name).1.setUdp name (u.opened v4 n.fwds.length),
      (u.cancel name).2) := by
  have hl := udpClose_fwds_length n name
  unfold NetSt.udpOpen
  rw [udpClose_exact n name u h] at hl ⊢
  simp only [udp?_setUdp_same, newFwd_snd, hl]
  rfl

end SimVerif
