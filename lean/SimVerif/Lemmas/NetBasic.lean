/-
  SimVerif.Lemmas.NetBasic — endpoints, the registry tables
  (`simBind` with the port counter, `simUnbind`, `probePort`, `ioResolve`) of the network
  mechanism model (SimVerif/Net.lean), and the socket views the registry invariant speaks about.
-/
import SimVerif.NetSys
import SimVerif.Lemmas.Assoc

namespace SimVerif

theorem Ep.default_isDefault : ({} : Ep).isDefault = true := by decide

theorem Ep.addr_of_isDefault {e : Ep} (h : e.isDefault = true) : e.addr = "0.0.0.0" := by
  simp only [Ep.isDefault, Bool.and_eq_true, beq_iff_eq] at h; exact h.1

theorem Ep.isV4_eq (e : Ep) : e.isV4 = !decide (':' ∈ e.addr.toList) := by
  unfold Ep.isV4; simp

theorem mem_simUnbind (tbl : List (Ep × String)) (name : String) (ep : Ep) (e : Ep × String) :
    e ∈ simUnbind tbl name ep ↔ e ∈ tbl ∧ ¬(e.1 = ep ∧ e.2 = name) := by
  simp only [simUnbind, List.mem_filter]
  constructor
  · rintro ⟨h1, h2⟩; refine ⟨h1, ?_⟩; rintro ⟨ha, hb⟩; simp [ha, hb] at h2
  · rintro ⟨h1, h2⟩; refine ⟨h1, ?_⟩
    by_cases ha : e.1 = ep <;> by_cases hb : e.2 = name <;> simp [ha, hb]
    exact h2 ⟨ha, hb⟩

theorem keys_nodup_simUnbind (tbl : List (Ep × String)) (name : String) (ep : Ep)
    (h : (tbl.map Prod.fst).Nodup) : ((simUnbind tbl name ep).map Prod.fst).Nodup :=
  List.Nodup.sublist (List.Sublist.map _ List.filter_sublist) h

theorem keys_unique (tbl : List (Ep × String)) (hn : (tbl.map Prod.fst).Nodup) (ep : Ep) (x y : String)
    (hx : (ep, x) ∈ tbl) (hy : (ep, y) ∈ tbl) : x = y :=
  congrArg Prod.snd (eq_of_nodup_map Prod.fst tbl hn _ _ hx hy rfl)

theorem lookup_simUnbind_self (tbl : List (Ep × String)) (name : String) (ep : Ep)
    (hn : (tbl.map Prod.fst).Nodup) (h : (ep, name) ∈ tbl) : (simUnbind tbl name ep).lookup ep = none := by
  rw [lookup_none_iff]
  intro x hx
  rw [mem_simUnbind] at hx
  exact hx.2 ⟨rfl, keys_unique _ hn ep x name hx.1 h⟩

theorem lookup_simUnbind (tbl : List (Ep × String)) (name a : String) (ep k : Ep) (hne : name ≠ a)
    (h : tbl.lookup k = some a) : (simUnbind tbl name ep).lookup k = some a := by
  obtain ⟨l₁, l₂, rfl, hk⟩ := List.lookup_eq_some_iff.mp h
  unfold simUnbind
  rw [List.filter_append, List.filter_cons_of_pos (by simp [Ne.symm hne])]
  exact List.lookup_eq_some_iff.mpr ⟨_, _, rfl, fun p hp => hk p (List.mem_filter.mp hp).1⟩

theorem probePort_some (tbl : List (Ep × String)) (addr : String) (fuel port q : Nat)
    (h : probePort tbl addr fuel port = some q) :
    tbl.lookup { addr := addr, port := q } = none ∧ port ≤ q ∧ q ≤ max port 65530 := by
  induction fuel generalizing port with
  | zero => simp [probePort] at h
  | succ f ih =>
    unfold probePort at h
    split at h
    · split at h
      · simp at h
      · have := ih _ h; exact ⟨this.1, by omega, by omega⟩
    · rename_i hh
      simp at h; subst h
      refine ⟨?_, Nat.le_refl _, by omega⟩
      cases hl : List.lookup ({ addr := addr, port := port } : Ep) tbl <;> simp_all

/-! `simulation::bind_socket` on one table (`simBind`), row by row in the order of its tests -/
section simBind
variable (tbl : List (Ep × String)) (np : Nat) (name : String) (ep : Ep)

theorem simBind_denied (h : 0 < ep.port ∧ ep.port < 1024) :
    simBind tbl np name ep = (tbl, np, .error .denied) := by
  simp [simBind, h]

theorem simBind_ephemeral (h : ep.port = 0) :
    simBind tbl np name ep = match probePort tbl ep.addr 65536 np with
      | none => (tbl, (if np + 1 > 65534 then 2000 else np + 1), .error .inUse)
      | some q => (tbl ++ [({ ep with port := q }, name)], (if np + 1 > 65534 then 2000 else np + 1),
          .ok { ep with port := q }) := by
  unfold simBind
  rw [if_neg (by simp [h]), if_pos h]
  cases probePort tbl ep.addr 65536 np <;> rfl

theorem simBind_taken (h : 1024 ≤ ep.port) (ht : (tbl.lookup ep).isSome = true) :
    simBind tbl np name ep = (tbl, np, .error .inUse) := by
  have h1 : ¬ ep.port < 1024 := by omega
  have h0 : ep.port ≠ 0 := by omega
  simp [simBind, h1, h0, ht]

theorem simBind_explicit (h : 1024 ≤ ep.port) (ht : tbl.lookup ep = none) :
    simBind tbl np name ep = (tbl ++ [(ep, name)], np, .ok ep) := by
  have h1 : ¬ ep.port < 1024 := by omega
  have h0 : ep.port ≠ 0 := by omega
  simp [simBind, h1, h0, ht]

end simBind

theorem simBind_cases (tbl : List (Ep × String)) (np : Nat) (name : String) (ep : Ep) :
    (0 < ep.port ∧ ep.port < 1024 ∧ simBind tbl np name ep = (tbl, np, .error .denied))
    ∨ (ep.port = 0 ∧ probePort tbl ep.addr 65536 np = none ∧
        simBind tbl np name ep = (tbl, (if np + 1 > 65534 then 2000 else np + 1), .error .inUse))
    ∨ (∃ q, ep.port = 0 ∧ probePort tbl ep.addr 65536 np = some q ∧
        simBind tbl np name ep = (tbl ++ [({ ep with port := q }, name)],
          (if np + 1 > 65534 then 2000 else np + 1), .ok { ep with port := q }))
    ∨ (1024 ≤ ep.port ∧ (tbl.lookup ep).isSome ∧ simBind tbl np name ep = (tbl, np, .error .inUse))
    ∨ (1024 ≤ ep.port ∧ tbl.lookup ep = none ∧ simBind tbl np name ep = (tbl ++ [(ep, name)], np, .ok ep)) := by
  by_cases h1 : 0 < ep.port ∧ ep.port < 1024
  · exact .inl ⟨h1.1, h1.2, simBind_denied tbl np name ep h1⟩
  by_cases h0 : ep.port = 0
  · rw [simBind_ephemeral tbl np name ep h0]
    cases probePort tbl ep.addr 65536 np with
    | none => exact .inr (.inl ⟨h0, rfl, rfl⟩)
    | some q => exact .inr (.inr (.inl ⟨q, h0, rfl, rfl⟩))
  have hge : 1024 ≤ ep.port := by omega
  cases hl : tbl.lookup ep with
  | none => exact .inr (.inr (.inr (.inr ⟨hge, rfl, simBind_explicit tbl np name ep hge hl⟩)))
  | some v => exact .inr (.inr (.inr (.inl ⟨hge, rfl, simBind_taken tbl np name ep hge (by rw [hl]; rfl)⟩)))

theorem simBind_ok (tbl tbl' : List (Ep × String)) (np np' : Nat) (name : String) (ep ep2 : Ep)
    (h : simBind tbl np name ep = (tbl', np', .ok ep2)) :
    tbl' = tbl ++ [(ep2, name)] ∧ tbl.lookup ep2 = none ∧ ep2.addr = ep.addr
    ∧ (ep.port ≠ 0 → ep2 = ep ∧ 1024 ≤ ep.port ∧ np' = np)
    ∧ (ep.port = 0 → np ≤ ep2.port ∧ np' = (if np + 1 > 65534 then 2000 else np + 1)) := by
  rcases simBind_cases tbl np name ep with ⟨_, _, e⟩ | ⟨_, _, e⟩ | ⟨q, h0, hp, e⟩ | ⟨_, _, e⟩ | ⟨hge, hl, e⟩
  · rw [e] at h; simp at h
  · rw [e] at h; simp at h
  · rw [e] at h
    simp only [Prod.mk.injEq, Except.ok.injEq] at h
    obtain ⟨h1, h2, h3⟩ := h
    have := probePort_some _ _ _ _ _ hp
    subst h3 h1 h2
    exact ⟨rfl, this.1, rfl, fun hne => absurd h0 hne, fun _ => ⟨this.2.1, rfl⟩⟩
  · rw [e] at h; simp at h
  · rw [e] at h
    simp only [Prod.mk.injEq, Except.ok.injEq] at h
    obtain ⟨h1, h2, h3⟩ := h
    subst h3 h1 h2
    exact ⟨rfl, hl, rfl, fun _ => ⟨rfl, hge, rfl⟩, fun h0 => by omega⟩

theorem simBind_error (tbl tbl' : List (Ep × String)) (np np' : Nat) (name : String) (ep : Ep) (e : Ec)
    (h : simBind tbl np name ep = (tbl', np', .error e)) : tbl' = tbl := by
  rcases simBind_cases tbl np name ep with ⟨_, _, e⟩ | ⟨_, _, e⟩ | ⟨q, h0, hp, e⟩ | ⟨_, _, e⟩ | ⟨hge, hl, e⟩ <;>
    (rw [e] at h; simp at h) <;> simp [h]

/-- the ephemeral-port counter `m_next_bind_port` before and after one `bind_socket` -/
def bumped (np np' : Nat) : Prop := np' = np ∨ np' = (if np + 1 > 65534 then 2000 else np + 1)

theorem bumped.refl (np : Nat) : bumped np np := Or.inl rfl

theorem bumped.range {np np' : Nat} (h : bumped np np') (hr : 2000 ≤ np ∧ np ≤ 65534) :
    2000 ≤ np' ∧ np' ≤ 65534 := by
  rcases h with e | e <;> rw [e] <;> (try split) <;> omega

theorem simBind_bumped (tbl : List (Ep × String)) (np : Nat) (name : String) (ep : Ep) :
    bumped np (simBind tbl np name ep).2.1 := by
  rcases simBind_cases tbl np name ep with ⟨_, _, e⟩ | ⟨_, _, e⟩ | ⟨q, _, _, e⟩ | ⟨_, _, e⟩ | ⟨_, _, e⟩ <;> rw [e]
  · exact Or.inl rfl
  · exact Or.inr rfl
  · exact Or.inr rfl
  · exact Or.inl rfl
  · exact Or.inl rfl

theorem ioResolve_ok (ips : List String) (ep ep1 : Ep) (h : ioResolve ips ep = .ok ep1) :
    ep1.port = ep.port ∧ ep1.addr ∈ ips := by
  unfold ioResolve at h
  split at h
  · split at h
    · simp at h
    · rename_i ip hf
      simp at h; subst h
      exact ⟨rfl, List.mem_of_find?_eq_some hf⟩
  · split at h
    · split at h
      · simp at h
      · rename_i ip hf
        simp at h; subst h
        exact ⟨rfl, List.mem_of_find?_eq_some hf⟩
    · split at h
      · rename_i hc
        simp at h; subst h
        exact ⟨rfl, by simpa using hc⟩
      · simp at h

theorem ioResolve_error (ips : List String) (ep : Ep) (e : Ec) (h : ioResolve ips ep = .error e) :
    e = .notAvail := by
  unfold ioResolve at h
  split at h
  · split at h <;> simp at h; exact h.symm
  · split at h
    · split at h <;> simp at h; exact h.symm
    · split at h <;> simp at h; exact h.symm

theorem fresh_iff (n : NetSt) (name : String) : n.fresh name = true ↔ n.udp? name = none ∧ n.tcp? name = none := by
  unfold NetSt.fresh
  cases n.udp? name <;> cases n.tcp? name <;> simp

theorem NetCfg.wf_of_nodes {c : NetCfg} (h : ∀ e ∈ c.nodes, "0.0.0.0" ∉ e.2 ∧ "::" ∉ e.2) : c.WF := by
  intro node
  unfold NetCfg.ipsOf
  cases hl : c.nodes.lookup node with
  | none => exact ⟨List.not_mem_nil, List.not_mem_nil⟩
  | some ips =>
    obtain ⟨l₁, l₂, e, -⟩ := List.lookup_eq_some_iff.mp hl
    exact h (node, ips) (e ▸ List.mem_append_right _ List.mem_cons_self)

theorem NetCfg.WF.resolve_own {c : NetCfg} (hc : c.WF) {node : String} {ep : Ep} (h : ep.addr ∈ c.ipsOf node) :
    ioResolve (c.ipsOf node) ep = .ok ep := by
  have h1 : ep.addr ≠ "0.0.0.0" := fun e => (hc node).1 (e ▸ h)
  have h2 : ep.addr ≠ "::" := fun e => (hc node).2 (e ▸ h)
  unfold ioResolve; simp [h1, h2, h]

/-- (is open, bound endpoint, forwarder id): all the registry and forwarder invariants read of a UDP socket -/
def UdpSock.view (u : UdpSock) : Bool × Ep × Option Nat := (u.isOpen, u.bound, u.fwd)
/-- (is open, bound endpoint, forwarder id) of a TCP object -/
def TcpSock.view (t : TcpSock) : Bool × Ep × Option Nat := (t.isOpen, t.bound, t.fwd)
/-- the view of the UDP socket `x`, if it exists -/
def NetSt.uv (n : NetSt) (x : String) : Option (Bool × Ep × Option Nat) := (n.udp? x).map UdpSock.view
/-- the view of the TCP object `x`, if it exists -/
def NetSt.tv (n : NetSt) (x : String) : Option (Bool × Ep × Option Nat) := (n.tcp? x).map TcpSock.view
/-- (is open, bound endpoint) of the UDP socket `x`: what `PInv` reads -/
def NetSt.ub (n : NetSt) (x : String) : Option (Bool × Ep) := (n.udp? x).map (fun u => (u.isOpen, u.bound))
/-- (is open, bound endpoint) of the TCP object `x` -/
def NetSt.tb (n : NetSt) (x : String) : Option (Bool × Ep) := (n.tcp? x).map (fun t => (t.isOpen, t.bound))
/-- (is open, forwarder id) of the UDP socket `x`: what `FInv` reads -/
def NetSt.uf (n : NetSt) (x : String) : Option (Bool × Option Nat) := (n.udp? x).map (fun u => (u.isOpen, u.fwd))
/-- (is open, forwarder id) of the TCP object `x` -/
def NetSt.tf (n : NetSt) (x : String) : Option (Bool × Option Nat) := (n.tcp? x).map (fun t => (t.isOpen, t.fwd))

/-- (is open, bound endpoint, forwarder id) -/
abbrev View := Bool × Ep × Option Nat

def View.idle : View := (false, {}, none)
def View.bnd (w : View) : Bool × Ep := (w.1, w.2.1)
def View.fw (w : View) : Bool × Option Nat := (w.1, w.2.2)

theorem NetSt.ub_eq (n : NetSt) : n.ub = fun x => (n.uv x).map View.bnd := by
  funext x; simp [NetSt.ub, NetSt.uv, UdpSock.view, View.bnd, Function.comp_def]
theorem NetSt.uf_eq (n : NetSt) : n.uf = fun x => (n.uv x).map View.fw := by
  funext x; simp [NetSt.uf, NetSt.uv, UdpSock.view, View.fw, Function.comp_def]
theorem NetSt.tb_eq (n : NetSt) : n.tb = fun x => (n.tv x).map View.bnd := by
  funext x; simp [NetSt.tb, NetSt.tv, TcpSock.view, View.bnd, Function.comp_def]
theorem NetSt.tf_eq (n : NetSt) : n.tf = fun x => (n.tv x).map View.fw := by
  funext x; simp [NetSt.tf, NetSt.tv, TcpSock.view, View.fw, Function.comp_def]

end SimVerif
