/-
  One summary per TCP model function: `Act` for any function, `Own` for a function of one object.
  Both are closed under composition (`trans`), and every primitive change of the state has its
  instance below: the object replaced by a socket-level step (`setTcp`, `setTcpIf`, `create`), the
  tables outside the object table changed (`state`, `countersOnly`), effects emitted (`with_effs`, `emit`,
  `direct`, `post`). A model function is walked once, along its equation in Lemmas/TcpEq.lean, and
  what C04, C12 and C19 say about it are fields of the result. A summary is stated with the
  strongest indices (`True`, `none`) and adapted where it is used (`mono`, `weaken`, `widen`).
-/
import SimVerif.Lemmas.HandlersConns
import SimVerif.Lemmas.CapShape
import SimVerif.Lemmas.Frames

namespace SimVerif

open HL

theorem postsOnly.quiet {l : List NEff} (h : postsOnly l) : Quiet l := by
  induction l with
  | nil => exact Quiet.nil
  | cons e r ih =>
    rw [postsOnly_cons] at h
    have := ih h.2
    cases e <;> first | exact this | cases h.1

theorem Posts.quiet {l : List NEff} (h : Posts l) : Quiet l := h.postsOnly.quiet

theorem Quiet.wireOf {l : List NEff} (h : Quiet l) : wireOf l = [] :=
  wireOf_silent_free fun e he p hp => by
    have := (mem_s5_forwards l p).2 (hp ▸ he)
    rw [← s5_fwdsOf_eq, h.2.2] at this; cases this

theorem effs_sendEffs (pcap : Bool) (now : Int) (src dst : Ep) (seq : Nat) (p : Pkt) :
    silent (sendEffs pcap now src dst seq p) ∧ wireOf (sendEffs pcap now src dst seq p) = p.chan.toList
    ∧ parkedOf (sendEffs pcap now src dst seq p) = [] := by
  cases pcap <;> exact ⟨rfl, List.append_nil _, rfl⟩

/-- **Summary of a call of a TCP model function** that leads from `n` to `n'` and emits `e`.
    `P` is what the code asserts of the state it is called in (the object exists, a slot is free,
    the socket an accept creates is new) or the environment guarantees (a SYN's channel id is
    valid): without it a handler id would be lost, so it guards `ids` and nothing else. In a walk it
    is ONE proposition, about the state the walk starts in: `trans` asks for the same `P` in both
    parts, and `mono` / `weaken` bring the summary of a part to it. `t` is the time of the
    `send_packet` calls the function makes, `none` if it makes none. `new` are the handler ids the
    call brings in. -/
structure Act (P : Prop) (t : Option Int) (n n' : NetSt) (e : List NEff) (new : List Nat) : Prop where
  /-- handler ids are conserved (`TCons`: under `TWf n`, the ids in the slots of `n'` and in the
      completions of `e` are those in the slots of `n` and `new`) and accept queues stay valid -/
  ids      : P → ConnsOk n → TCons n n' e new ∧ ConnsOk n'
  wire     : WStep n n' e
  noInvoke : noInvoke e
  cfg      : n'.cfg = n.cfg
  shape    : CapAt n.cfg.pcap t e

/-- **Summary of a call of a function of the one TCP object `a`**: `Act`, with the frame of C12:
    every other object and registry entry stays, and of the forwarders and channels only `fw` and
    `ch` (the object's own; `none`: none at all) change -/
structure Own (a : String) (fw ch : Option Nat) (P : Prop) (t : Option Int) (n n' : NetSt) (e : List NEff)
    (new : List Nat) : Prop extends Act P t n n' e new where
  frame : TcpFrame a fw ch n n'

section
variable {P Q : Prop} {t : Option Int} {n n1 n2 n' : NetSt} {e e' e1 e2 q : List NEff}
  {new new' new1 new2 : List Nat} {a : String} {fw ch : Option Nat} {s s' : TcpSock}

theorem Act.mono (h : Act Q t n n' e new) (hpq : P → Q) : Act P t n n' e new :=
  ⟨fun hp => h.ids (hpq hp), h.wire, h.noInvoke, h.cfg, h.shape⟩

/-- a summary without precondition, inside a walk with one -/
theorem Act.weaken (h : Act True t n n' e new) : Act P t n n' e new := h.mono fun _ => trivial

/-- a function that never reaches `send_packet`, inside the walk of one that does -/
theorem Act.widen (h : Act P none n n' e new) : Act P t n n' e new :=
  ⟨h.ids, h.wire, h.noInvoke, h.cfg, h.shape.of_none⟩

/-- in a case that `P` excludes nothing is brought in or lost: `new` is free -/
theorem Act.excluded (h : Act P t n n' e new) (hn : ¬ P) : Act P t n n' e new' :=
  ⟨fun hp => (hn hp).elim, h.wire, h.noInvoke, h.cfg, h.shape⟩

theorem Own.mono (h : Own a fw ch Q t n n' e new) (hpq : P → Q) : Own a fw ch P t n n' e new :=
  ⟨h.toAct.mono hpq, h.frame⟩

theorem Own.weaken (h : Own a fw ch True t n n' e new) : Own a fw ch P t n n' e new :=
  ⟨h.toAct.weaken, h.frame⟩

/-- a function that never reaches `send_packet` and changes no forwarder or channel, inside the
    walk of one that does (the frame alone is widened by `TcpFrame.mono` on `.frame`) -/
theorem Own.widen (h : Own a none none P none n n' e new) : Own a fw ch P t n n' e new :=
  ⟨h.toAct.widen, h.frame.mono (.inl rfl) (.inl rfl)⟩

theorem Own.excluded (h : Own a fw ch P t n n' e new) (hn : ¬ P) : Own a fw ch P t n n' e new' :=
  ⟨h.toAct.excluded hn, h.frame⟩

theorem Act.refl (n : NetSt) : Act P t n n [] [] :=
  ⟨fun _ hc => ⟨TCons.refl n, hc⟩, WStep.refl n, noInvoke_nil, rfl, Quiet.nil.capAt⟩

/-- the effect list and the list of new ids may be given in any form equal to the concatenations
    (by default: definitionally equal) -/
theorem Act.trans (h1 : Act P t n n1 e1 new1) (h2 : Act P t n1 n2 e2 new2) (he : e = e1 ++ e2 := by rfl)
    (hn : new = new1 ++ new2 := by rfl) : Act P t n n2 e new := by
  subst he hn
  refine ⟨fun hp hc => ?_, h1.wire.trans h2.wire, (noInvoke_append _ _).mpr ⟨h1.noInvoke, h2.noInvoke⟩,
    h2.cfg.trans h1.cfg, h1.shape.append (h1.cfg ▸ h2.shape)⟩
  obtain ⟨c1, k1⟩ := h1.ids hp hc
  obtain ⟨c2, k2⟩ := h2.ids hp k1
  exact ⟨c1.trans c2, k2⟩

theorem Own.refl (a : String) (fw ch : Option Nat) (n : NetSt) : Own a fw ch P t n n [] [] :=
  ⟨.refl n, .refl a fw ch n⟩

theorem Own.trans (h1 : Own a fw ch P t n n1 e1 new1) (h2 : Own a fw ch P t n1 n2 e2 new2)
    (he : e = e1 ++ e2 := by rfl) (hn : new = new1 ++ new2 := by rfl) : Own a fw ch P t n n2 e new :=
  ⟨h1.toAct.trans h2.toAct he hn, h1.frame.trans h2.frame⟩

/-- registry, forwarders, channels updated or appended -/
theorem Act.state (ht : n'.tcps = n.tcps) (hl : n.chans.length ≤ n'.chans.length) (hc : n'.cfg = n.cfg) :
    Act P t n n' [] [] :=
  ⟨fun _ hk => ⟨TCons.of_tcps_eq ht rfl, hk.of_tcps ht hl⟩, WStep.of_tcps ht hl, noInvoke_nil, hc, Quiet.nil.capAt⟩

theorem Own.state (hf : TcpFrame a fw ch n n') (ht : n'.tcps = n.tcps := by rfl) : Own a fw ch P t n n' [] [] :=
  ⟨.state ht hf.chanlen hf.cfg, hf⟩

/-- effects after a change of state that emits none -/
theorem Act.with_effs (h : Act P t n n' [] new) (hs : silent q)
    (hw : ResendOk n → ∀ c ∈ wireOf q, c < n'.chans.length) (hq : CapAt n.cfg.pcap t q) : Act P t n n' q new :=
  ⟨fun hp hc => ⟨((h.ids hp hc).1).congr_perm (.of_eq (effIds_silent hs)) (.refl _), (h.ids hp hc).2⟩,
    ⟨h.wire.len, h.wire.resend, hw⟩, silent_noInvoke hs, h.cfg, hq⟩

theorem Own.with_effs (h : Own a fw ch P t n n' [] new) (hs : silent q)
    (hw : ResendOk n → ∀ c ∈ wireOf q, c < n'.chans.length) (hq : CapAt n.cfg.pcap t q) :
    Own a fw ch P t n n' q new := ⟨h.toAct.with_effs hs hw hq, h.frame⟩

theorem Act.emit (n : NetSt) (hs : silent q) (hq : Quiet q) : Act P t n n q [] :=
  (Act.refl n).with_effs hs (fun _ c hc => by rw [hq.wireOf] at hc; cases hc) hq.capAt

theorem Own.emit (n : NetSt) (hs : silent q) (hq : Quiet q) : Own a fw ch P t n n q [] :=
  ⟨.emit n hs hq, .refl ..⟩

/-- a packet handed to `forward_packet` directly -/
theorem Act.direct (n : NetSt) (p : Pkt) (hd : directPkt p)
    (hc : ResendOk n → ∀ c, p.chan = some c → c < n.chans.length) : Act P t n n [.forward p] [] :=
  (Act.refl n).with_effs rfl (fun hr c hm => hc hr c (by simpa [wireOf] using hm))
    (.of_none fun _ _ => .one_direct _ _ p hd)

/-- `Act.direct` for a packet without channel id, with `hc` a term so that `rfl` proves it once `p`
    is known -/
theorem Act.direct0 (n : NetSt) (p : Pkt) (hd : directPkt p) (hc : p.chan = none) :
    Act P t n n [.forward p] [] := .direct n p hd (fun _ _ h => nomatch hc.symm.trans h)

theorem Own.direct0 (n : NetSt) (p : Pkt) (hd : directPkt p) (hc : p.chan = none) :
    Own a fw ch P t n n [.forward p] [] := ⟨.direct0 n p hd hc, .refl ..⟩

/-- a completion posted without any change of state: its id is brought in and goes out at once -/
theorem Act.post (n : NetSt) (c : Compl) : Act P t n n [.post c] [c.h] :=
  ⟨fun _ hc => ⟨⟨id, fun _ z => by simp [effIds]⟩, hc⟩, (WStep.refl n).congr rfl, by simp [NEff.isInvoke], rfl,
    Quiet.capAt ⟨rfl, rfl, rfl⟩⟩

theorem Own.post (n : NetSt) (c : Compl) : Own a fw ch P t n n [.post c] [c.h] := ⟨.post n c, .refl ..⟩

/-- a completion accounted for when its handler left the slot is emitted last -/
theorem Act.post_last {c : Compl} (h : Act P t n n' (.post c :: e) new)
    (hq : CapAt n.cfg.pcap t e') (he : e' = e ++ [.post c] := by rfl) : Act P t n n' e' new := by
  subst he
  refine ⟨fun hp hk => ⟨((h.ids hp hk).1).congr_perm ?_ (List.Perm.refl _), (h.ids hp hk).2⟩, h.wire.congr ?_, ?_,
    h.cfg, hq⟩
  · rw [effIds_append]; exact List.perm_append_comm
  · rw [wireOf_append]; exact List.append_nil _
  · have := h.noInvoke
    simp only [noInvoke_cons, noInvoke_append, noInvoke_nil, and_true] at this ⊢
    exact ⟨this.2, this.1⟩

/-- object `a` is replaced; `n1` is `n` up to what `Act.state` allows (by default `n` itself). The
    four hypotheses are the fields of a socket-level step `SStep s s' e new`, of which the id account
    and the accept queue may need `P` (a connection queued anew has a valid channel id under `P`) -/
theorem Act.setTcpIf (hs : n.tcp? a = some s)
    (hids : P → s.recvExcl → (s'.slotIds ++ effIds e).Perm (s.slotIds ++ new) ∧ s'.recvExcl)
    (hconns : P → ∀ c ∈ s'.conns, c ∈ s.conns ∨ c < n.chans.length)
    (hre : ∀ p ∈ s'.resend, p ∈ s.resend) (hp : Posts e)
    (ht : n1.tcps = n.tcps := by rfl) (hl : n.chans.length ≤ n1.chans.length := by exact Nat.le_refl _)
    (hc : n1.cfg = n.cfg := by rfl) : Act P t n (n1.setTcp a s') e new :=
  have hs1 : n1.tcp? a = some s := (tcp?_congr ht a).trans hs
  ⟨fun hP hk => ⟨(TCons.of_tcps_eq (effs := []) ht rfl).trans (TCons.setTcp_present hs1 (hids hP)),
      (hk.of_tcps ht hl).setTcp a s' fun c hcm =>
        Nat.lt_of_lt_of_le ((hconns hP c hcm).elim (hk.conns hs c) id) hl⟩,
    WStep.setTcp a s' (fun hk p hpm => hk.ok a s hs p (hre p hpm)) hp.postsOnly.wireOf ht hl, hp.noInvoke, hc,
    hp.quiet.capAt⟩

theorem Act.setTcp (hs : n.tcp? a = some s) (h : SStep s s' e new) (ht : n1.tcps = n.tcps := by rfl)
    (hl : n.chans.length ≤ n1.chans.length := by exact Nat.le_refl _) (hc : n1.cfg = n.cfg := by rfl) :
    Act P t n (n1.setTcp a s') e new :=
  Act.setTcpIf hs (fun _ => h.ids) (fun _ c hcm => .inl (h.conns c hcm)) h.resend h.posts ht hl hc

theorem Own.setTcpIf (hs : n.tcp? a = some s)
    (hids : P → s.recvExcl → (s'.slotIds ++ effIds e).Perm (s.slotIds ++ new) ∧ s'.recvExcl)
    (hconns : P → ∀ c ∈ s'.conns, c ∈ s.conns ∨ c < n.chans.length)
    (hre : ∀ p ∈ s'.resend, p ∈ s.resend) (hp : Posts e)
    (hf : TcpFrame a fw ch n n1 := by exact TcpFrame.refl ..) (ht : n1.tcps = n.tcps := by rfl) :
    Own a fw ch P t n (n1.setTcp a s') e new :=
  ⟨Act.setTcpIf hs hids hconns hre hp ht hf.chanlen hf.cfg, hf.setTcp s'⟩

theorem Own.setTcp (hs : n.tcp? a = some s) (h : SStep s s' e new)
    (hf : TcpFrame a fw ch n n1 := by exact TcpFrame.refl ..) (ht : n1.tcps = n.tcps := by rfl) :
    Own a fw ch P t n (n1.setTcp a s') e new :=
  ⟨Act.setTcp hs h ht hf.chanlen hf.cfg, hf.setTcp s'⟩

theorem Act.create (h : P → n.tcp? a = none) (hs : s'.slotIds = []) (hx : s'.recvExcl) (hc : s'.conns = [])
    (hr : s'.resend = []) : Act P t n (n.setTcp a s') [] [] :=
  ⟨fun hP hk => ⟨TCons.setTcp_absent (h hP) hs hx, hk.setTcp a s' (fun c hcm => by rw [hc] at hcm; cases hcm)⟩,
    WStep.setTcp a s' (fun _ p hp => by rw [hr] at hp; cases hp) rfl, noInvoke_nil, rfl, Quiet.nil.capAt⟩

theorem Own.countersOnly {cs : List Chan} (a : String) (fw : Option Nat) (hb : CountersOnly n ch cs) (hs : silent q)
    (hw : wireOf q = []) (hq : CapAt n.cfg.pcap t q) : Own a fw ch P t n { n with chans := cs } q [] :=
  (Own.state (.countersOnly a fw hb)).with_effs hs (fun _ d hd => by rw [hw] at hd; cases hd) hq

end

end SimVerif
