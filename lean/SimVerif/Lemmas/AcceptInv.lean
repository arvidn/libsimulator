/-
  SimVerif.Lemmas.AcceptInv — the invariant of the open handshake system (SimVerif/AcceptSys.lean:
  any number of acceptors, listening epochs, user cancel / close) and the generic update
  lemmas by which every label preserves it. Stated on views (Lemmas/TcpView.lean).
-/
import SimVerif.Lemmas.TcpView

namespace SimVerif
namespace Hs

/-- the route of a channel towards side 1, without its last hop (a forwarder) -/
def route1 (cfg : NetCfg) (cv : ChanV) : List String :=
  cfg.outRoute cv.ep0.addr ++ cfg.netRoute cv.ep0.addr cv.ep1.addr ++ cfg.inRoute cv.ep1.addr

/-- … towards side 0 -/
def route0 (cfg : NetCfg) (cv : ChanV) : List String :=
  cfg.outRoute cv.ep1.addr ++ cfg.netRoute cv.ep0.addr cv.ep1.addr ++ cfg.inRoute cv.ep0.addr

theorem nodup_map_concat {α β : Type} {g : α → β} {l : List α} {x : α} (h : (l.map g).Nodup)
    (hx : ∀ y ∈ l, g y ≠ g x) : ((l ++ [x]).map g).Nodup := by
  rw [List.map_append, List.nodup_append]
  refine ⟨h, by simp, ?_⟩
  intro a ha b hb
  obtain ⟨y, hy, rfl⟩ := List.mem_map.mp ha
  cases List.mem_singleton.mp hb
  exact hx y hy

theorem synAtL_append (l l' : List (Nat × Nat)) (f : Nat) : synAtL (l ++ l') f = synAtL l f ++ synAtL l' f := by
  simp [synAtL, List.filter_append]

theorem synAtL_single_same (f c : Nat) : synAtL [(f, c)] f = [c] := by simp [synAtL]

theorem synAtL_single_other (f g c : Nat) (h : f ≠ g) : synAtL [(f, c)] g = [] := by simp [synAtL, h]

theorem mem_synAtL {l : List (Nat × Nat)} {f c : Nat} : c ∈ synAtL l f ↔ (f, c) ∈ l := by
  simp only [synAtL, List.mem_map, List.mem_filter, beq_iff_eq]
  constructor
  · rintro ⟨x, ⟨hx, h1⟩, h2⟩
    obtain ⟨x1, x2⟩ := x
    simp only at h1 h2; subst h1; subst h2; exact hx
  · intro h; exact ⟨(f, c), ⟨h, rfl⟩, rfl⟩

theorem synAtL_nodup {l : List (Nat × Nat)} (h : (l.map (·.2)).Nodup) (f : Nat) : (synAtL l f).Nodup := by
  unfold synAtL
  exact h.sublist (List.Sublist.map _ List.filter_sublist)

theorem syn_epoch_unique {l : List (Nat × Nat)} (h : (l.map (·.2)).Nodup) {f g c : Nat}
    (h1 : (f, c) ∈ l) (h2 : (g, c) ∈ l) : f = g :=
  congrArg Prod.fst (eq_of_nodup_map (·.2) l h _ _ h1 h2 rfl)

theorem synAtL_eq_nil {l : List (Nat × Nat)} {f : Nat} (h : ∀ x ∈ l, x.1 < f) : synAtL l f = [] := by
  unfold synAtL
  rw [List.map_eq_nil_iff, List.filter_eq_nil_iff]
  intro x hx; simpa using Nat.ne_of_lt (h x hx)

theorem accAtL_eq_nil {l : List AccDone} {f : Nat} (h : ∀ e ∈ l, e.epoch < f) : accAtL l f = [] := by
  unfold accAtL
  rw [List.filter_eq_nil_iff]
  intro e he; simpa using Nat.ne_of_lt (h e he)

theorem accAtL_append (l l' : List AccDone) (f : Nat) : accAtL (l ++ l') f = accAtL l f ++ accAtL l' f := by
  simp [accAtL, List.filter_append]

theorem accAtL_single_same (e : AccDone) : accAtL [e] e.epoch = [e] := by simp [accAtL]

theorem accAtL_single_other (e : AccDone) (g : Nat) (h : e.epoch ≠ g) : accAtL [e] g = [] := by simp [accAtL, h]

theorem mem_accAtL {l : List AccDone} {f : Nat} {e : AccDone} : e ∈ accAtL l f ↔ e ∈ l ∧ e.epoch = f := by
  simp [accAtL]

/-- **The invariant of the open handshake system**, on the views `sv` / `cv` of sockets and channels
    and the ghost logs of `HS`. An epoch is a forwarder id: the one an acceptor got at `open`.
    * acceptors (`a_*`): no channel of their own; closed ⇒ not listening, no forwarder; listening ⇒ bound.
    * registry (`reg_own`, `bound_reg`, `np_pos`, `reg_nodef`): an entry of an acceptor is its bound endpoint (of
      acceptors only: with a node address `0.0.0.0` a connector can leave a stale entry); an unconnected
      socket is unbound or registered where it is bound; no entry is `0.0.0.0:0`.
    * channels: `dialLog[c]` is the dial that created channel `c` (`dial_len`, `chan_ok`: its endpoints,
      what side 1 sees of side 0 through the NAT hops crossed — `natView` —, the route towards side 0
      ending in the connector's forwarder). The route towards side 1 ends in the dialled epoch's forwarder
      while the channel is not accepted (`hops1_q`), then in the accepted socket's (`hops1_a`). `d_acc`: who
      holds the forwarder of a dialled epoch is the acceptor that was dialled, bound where it was dialled.
    * sockets: `idle` / `conn` (a socket on channel `c` is its connector — side 0 — or the socket an accept
      handed it to — side 1); `s_fwd` / `f_own` (forwarder table and sockets point at each other);
      `d_live` (who holds a connector's forwarder is still on that channel); `o_fwd` (open ⇒ forwarder).
    * packets in flight: a SYN's channel has not arrived and it travels `hops1` (`b_syn`), at most one SYN
      per channel (`b_syn1`); a SYN-ACK's channel was accepted and it travels `hops0` (`b_ack`).
    * arrivals and accepts: `synLog` within range, no channel twice, in the epoch dialled (`syn_*`); per
      epoch the arrivals are the accepted channels then the queue (`fifo`; `fifo_all` for epochs that are
      over); `a_log` — see `AccOk` —; `pend`, `ser_*`: an outstanding accept has a socket to accept into and a
      call number above all completed ones; `peer_b`: an accepted socket still on its channel is bound to
      the listening endpoint; `acc_nd`: no channel handed out twice.
    * connect completions (`con_*`): each for the channel that socket dialled, at most one per channel,
      none yet while the connect is pending; a successful one was accepted. `nat_lt`: NAT log in range. -/
structure HInv (s : HS) : Prop where
  -- acceptors (the sockets with `acc = some _`)
  a_chan   : ∀ a va ac, s.net.sv a = some va → va.acc = some ac → va.chan = none
  a_closed : ∀ a va ac, s.net.sv a = some va → va.acc = some ac → va.isOpen = false → ac.queueLimit ≤ 0 ∧ va.fwd = none
  a_lis    : ∀ a va ac, s.net.sv a = some va → va.acc = some ac → 0 < ac.queueLimit → va.bound.isDefault = false
  -- the registry
  reg_own  : ∀ e ∈ s.net.reg.tcp, ∀ v ac, s.net.sv e.2 = some v → v.acc = some ac → v.bound = e.1
  bound_reg : ∀ o v, s.net.sv o = some v → v.chan = none → v.bound = {} ∨ s.net.reg.tcp.lookup v.bound = some o
  -- channels
  dial_len : s.dialLog.length = s.net.chans.length
  chan_ok  : ∀ c cv d, s.net.cv c = some cv → s.dialLog[c]? = some d →
      d.cid = c ∧ cv.ep0 = d.ep0 ∧ cv.ep1 = d.target ∧ cv.vis1 = d.target ∧ cv.ep0 ≠ d.target
      ∧ d.target.isDefault = false
      ∧ cv.vis0 = natView s.natLog c cv.ep0
      ∧ d.epoch < s.net.fwds.length
      ∧ ∃ f0, d.fwd = some f0 ∧ f0 < s.net.fwds.length ∧ f0 ≠ d.epoch
          ∧ cv.hops0 = route0 s.net.cfg cv ++ [fwdHop f0]
  hops1_q  : ∀ c cv d, s.net.cv c = some cv → s.dialLog[c]? = some d → (∀ e ∈ s.accLog, e.cid ≠ some c) →
      cv.hops1 = route1 s.net.cfg cv ++ [fwdHop d.epoch]
  hops1_a  : ∀ c cv e, s.net.cv c = some cv → e ∈ s.accLog → e.cid = some c →
      ∃ g, e.fwd = some g ∧ cv.hops1 = route1 s.net.cfg cv ++ [fwdHop g]
  d_acc    : ∀ d ∈ s.dialLog, ∀ a va, s.net.sv a = some va → va.fwd = some d.epoch →
      a = d.lsock ∧ va.bound = d.target ∧ va.acc.isSome
  -- sockets
  idle     : ∀ o v, s.net.sv o = some v → v.chan = none → v.connectH = none
  conn     : ∀ o v c, s.net.sv o = some v → v.chan = some c →
      ∃ cv d, s.net.cv c = some cv ∧ s.dialLog[c]? = some d ∧
        ((v.bound = cv.ep0 ∧ d.sock = o ∧ v.fwd = d.fwd) ∨
         (v.bound = d.target ∧ v.connectH = none ∧
            ∃ e ∈ s.accLog, e.cid = some c ∧ e.op.map AcceptOp.peer = some o ∧ v.fwd = e.fwd))
  s_fwd    : ∀ o v f, s.net.sv o = some v → v.fwd = some f → f < s.net.fwds.length ∧ s.net.fwdTarget f = some o
  f_own    : ∀ f o, s.net.fwdTarget f = some o → ∃ v, s.net.sv o = some v ∧ v.fwd = some f
  d_live   : ∀ d ∈ s.dialLog, ∀ o v f, s.net.sv o = some v → v.fwd = some f → d.fwd = some f → v.chan = some d.cid
  o_fwd    : ∀ o v, s.net.sv o = some v → v.isOpen = true → v.fwd.isSome
  -- packets in flight
  b_syn    : ∀ pk ∈ s.bag, pk.ty = .syn →
      ∃ c cv, pk.chan = some c ∧ s.net.cv c = some cv ∧ c ∉ s.synLog.map (·.2) ∧ pk.hops = cv.hops1
  b_syn1   : s.bag.Pairwise (fun p q => p.ty = .syn → q.ty = .syn → p.chan ≠ q.chan)
  b_ack    : ∀ pk ∈ s.bag, pk.ty = .synack →
      ∃ c cv, pk.chan = some c ∧ s.net.cv c = some cv ∧ pk.hops = cv.hops0 ∧ ∃ e ∈ s.accLog, e.cid = some c
  -- arrivals and accepts
  syn_lt   : ∀ x ∈ s.synLog, x.2 < s.net.chans.length ∧ x.1 < s.net.fwds.length
  syn_nd   : (s.synLog.map (·.2)).Nodup
  syn_ep   : ∀ x ∈ s.synLog, ∀ d, s.dialLog[x.2]? = some d → d.epoch = x.1
  fifo     : ∀ a va ac f, s.net.sv a = some va → va.acc = some ac → va.fwd = some f →
      synAtL s.synLog f = (accAtL s.accLog f).filterMap (·.cid) ++ ac.conns
  fifo_all : ∀ f, ∃ dropped, synAtL s.synLog f = (accAtL s.accLog f).filterMap (·.cid) ++ dropped
  a_log    : ∀ e ∈ s.accLog, ∃ op c g d, e.op = some op ∧ e.cid = some c ∧ e.fwd = some g ∧ g ≠ e.epoch
      ∧ g < s.net.fwds.length ∧ e.epoch < s.net.fwds.length
      ∧ e.compl.h = op.h ∧ e.compl.ec = .ok
      ∧ s.dialLog[c]? = some d ∧ d.epoch = e.epoch ∧ d.lsock = e.acc ∧ d.target = e.lep
      ∧ ∀ cv, s.net.cv c = some cv → e.compl.extra = (if op.withEp then "ep=" ++ cv.vis0.toString else "")
  pend     : ∀ a va ac op, s.net.sv a = some va → va.acc = some ac → ac.acceptOp = some op →
      (∃ vp, s.net.sv op.peer = some vp ∧ vp.acc = none) ∧ 0 < s.accCalls a
      ∧ ∀ e ∈ s.accLog, e.acc = a → e.serial + 1 < s.accCalls a
  ser_lt   : ∀ e ∈ s.accLog, e.serial < s.accCalls e.acc
  ser_mono : s.accLog.Pairwise (fun e e' => e.acc = e'.acc → e.serial < e'.serial)
  peer_b   : ∀ e ∈ s.accLog, ∀ op c v, e.op = some op → e.cid = some c → s.net.sv op.peer = some v →
      v.chan = some c → v.bound = e.lep ∧ v.fwd = e.fwd
  -- connect completions
  con_ok   : ∀ k ∈ s.conLog, ∃ c d, k.cid = some c ∧ s.dialLog[c]? = some d ∧ d.sock = k.sock
      ∧ (k.ec = .ok → ∃ e ∈ s.accLog, e.cid = some c)
  con_nd   : (s.conLog.map (·.cid)).Nodup
  con_pend : ∀ o v c, s.net.sv o = some v → v.chan = some c → v.connectH.isSome → ∀ k ∈ s.conLog, k.cid ≠ some c
  nat_lt   : ∀ x ∈ s.natLog, x.1 < s.net.chans.length
  -- the registry never holds `0.0.0.0:0` (ephemeral ports start at a positive number)
  np_pos   : 0 < s.net.reg.nextPort
  reg_nodef : ∀ e ∈ s.net.reg.tcp, e.1.isDefault = false
  -- no channel is handed out twice (over all acceptors and epochs)
  acc_nd   : (s.accLog.map (·.cid)).Nodup

/-- work conservation: no connection waits while an accept is outstanding. Kept apart from `HInv`
    because it fails between an arrival / an accept call and the `check_accept_queue` that follows. -/
def HInv.work (s : HS) : Prop :=
  ∀ a va ac, s.net.sv a = some va → va.acc = some ac → va.isOpen = true → ac.acceptOp.isSome → ac.conns = []

/-- the clause `a_log` for one accept completion `e`, with names -/
structure AccOk (s : HS) (e : AccDone) (op : AcceptOp) (c g : Nat) (d : Dial) : Prop where
  op_eq    : e.op = some op
  cid_eq   : e.cid = some c
  fwd_eq   : e.fwd = some g
  fwd_ne   : g ≠ e.epoch
  fwd_lt   : g < s.net.fwds.length
  epoch_lt : e.epoch < s.net.fwds.length
  h_eq     : e.compl.h = op.h
  ec_ok    : e.compl.ec = .ok
  dial     : s.dialLog[c]? = some d
  epoch    : d.epoch = e.epoch
  lsock    : d.lsock = e.acc
  target   : d.target = e.lep
  extra    : ∀ cv, s.net.cv c = some cv → e.compl.extra = (if op.withEp then "ep=" ++ cv.vis0.toString else "")

theorem HInv.acc {s : HS} (h : HInv s) {e : AccDone} (he : e ∈ s.accLog) : ∃ op c g d, AccOk s e op c g d := by
  obtain ⟨op, c, g, d, r1, r2, r3, r4, r5, r6, r7, r8, r9, r10, r11, r12, r13⟩ := h.a_log e he
  exact ⟨op, c, g, d, r1, r2, r3, r4, r5, r6, r7, r8, r9, r10, r11, r12, r13⟩

/-- … and back to the clause, in a later state `s'` -/
theorem AccOk.clause {s s' : HS} {e : AccDone} {op : AcceptOp} {c g : Nat} {d : Dial} (a : AccOk s e op c g d)
    (hfl : s.net.fwds.length ≤ s'.net.fwds.length) (hd : s'.dialLog[c]? = some d)
    (hx : ∀ cv', s'.net.cv c = some cv' → ∃ cv, s.net.cv c = some cv ∧ cv'.vis0 = cv.vis0) :
    ∃ op c g d, e.op = some op ∧ e.cid = some c ∧ e.fwd = some g ∧ g ≠ e.epoch
      ∧ g < s'.net.fwds.length ∧ e.epoch < s'.net.fwds.length ∧ e.compl.h = op.h ∧ e.compl.ec = .ok
      ∧ s'.dialLog[c]? = some d ∧ d.epoch = e.epoch ∧ d.lsock = e.acc ∧ d.target = e.lep
      ∧ ∀ cv, s'.net.cv c = some cv → e.compl.extra = (if op.withEp then "ep=" ++ cv.vis0.toString else "") :=
  ⟨op, c, g, d, a.op_eq, a.cid_eq, a.fwd_eq, a.fwd_ne, Nat.lt_of_lt_of_le a.fwd_lt hfl, Nat.lt_of_lt_of_le a.epoch_lt hfl,
    a.h_eq, a.ec_ok, hd, a.epoch, a.lsock, a.target, fun cv' hc => by
      obtain ⟨cv, h1, h2⟩ := hx cv' hc; rw [h2]; exact a.extra cv h1⟩

/-- the clause `chan_ok` for channel `c` and its dial `d`, with names; `f0` is the connector's forwarder -/
structure DialOk (s : HS) (c : Nat) (cv : ChanV) (d : Dial) (f0 : Nat) : Prop where
  cid      : d.cid = c
  ep0      : cv.ep0 = d.ep0
  ep1      : cv.ep1 = d.target
  vis1     : cv.vis1 = d.target
  ep_ne    : cv.ep0 ≠ d.target
  nodef    : d.target.isDefault = false
  vis0     : cv.vis0 = natView s.natLog c cv.ep0
  epoch_lt : d.epoch < s.net.fwds.length
  fwd      : d.fwd = some f0
  fwd_lt   : f0 < s.net.fwds.length
  fwd_ne   : f0 ≠ d.epoch
  hops0    : cv.hops0 = route0 s.net.cfg cv ++ [fwdHop f0]

theorem HInv.chan {s : HS} (h : HInv s) {c : Nat} {cv : ChanV} {d : Dial} (hc : s.net.cv c = some cv)
    (hd : s.dialLog[c]? = some d) : ∃ f0, DialOk s c cv d f0 := by
  obtain ⟨q1, q2, q3, q4, q5, q6, q7, q8, f0, r1, r2, r3, r4⟩ := h.chan_ok c cv d hc hd
  exact ⟨f0, q1, q2, q3, q4, q5, q6, q7, q8, r1, r2, r3, r4⟩

theorem HInv.acc_syn {s : HS} (h : HInv s) (e : AccDone) (he : e ∈ s.accLog) (c : Nat) (hc : e.cid = some c) :
    (e.epoch, c) ∈ s.synLog := by
  obtain ⟨dropped, hf⟩ := h.fifo_all e.epoch
  apply mem_synAtL.mp
  rw [hf]
  have : c ∈ (accAtL s.accLog e.epoch).filterMap (·.cid) :=
    List.mem_filterMap.mpr ⟨e, mem_accAtL.mpr ⟨he, rfl⟩, hc⟩
  simp [this]

theorem HInv.acc_cid_lt {s : HS} (h : HInv s) (e : AccDone) (he : e ∈ s.accLog)
    (c : Nat) (hc : e.cid = some c) : c < s.net.chans.length :=
  (h.syn_lt _ (h.acc_syn e he c hc)).1

theorem HInv.acc_chan {s : HS} (h : HInv s) {e : AccDone} (he : e ∈ s.accLog) {c : Nat} (hc : e.cid = some c) :
    ∃ ch, s.net.chans[c]? = some ch ∧ s.net.cv c = some ch.hview :=
  have hch := List.getElem?_eq_getElem (h.acc_cid_lt e he c hc)
  ⟨_, hch, cv_of_chan hch⟩

theorem HInv.not_acc_of_not_syn {s : HS} (h : HInv s) (c : Nat) (hc : c ∉ s.synLog.map (·.2)) :
    ∀ e ∈ s.accLog, e.cid ≠ some c := by
  intro e he hec
  exact hc (List.mem_map.mpr ⟨_, h.acc_syn e he c hec, rfl⟩)

theorem HInv.not_acc_of_queued {s : HS} (h : HInv s) (a : String) (va : SockV) (ac : AccState) (f c : Nat)
    (hva : s.net.sv a = some va) (hac : va.acc = some ac) (hf : va.fwd = some f) (hc : c ∈ ac.conns) :
    ∀ e ∈ s.accLog, e.cid ≠ some c := by
  intro e he hec
  have hfifo := h.fifo a va ac f hva hac hf
  have h1 : (e.epoch, c) ∈ s.synLog := h.acc_syn e he c hec
  have h2 : (f, c) ∈ s.synLog := by
    apply mem_synAtL.mp; rw [hfifo]; simp [hc]
  have hef : e.epoch = f := syn_epoch_unique h.syn_nd h1 h2
  have hnd := synAtL_nodup h.syn_nd f
  rw [hfifo] at hnd
  have : c ∈ (accAtL s.accLog f).filterMap (·.cid) :=
    List.mem_filterMap.mpr ⟨e, mem_accAtL.mpr ⟨he, hef⟩, hec⟩
  exact (List.nodup_append.mp hnd).2.2 c this c hc rfl

theorem HInv.queued_syn {s : HS} (h : HInv s) (a : String) (va : SockV) (ac : AccState) (f c : Nat)
    (hva : s.net.sv a = some va) (hac : va.acc = some ac) (hf : va.fwd = some f) (hc : c ∈ ac.conns) :
    (f, c) ∈ s.synLog := by
  apply mem_synAtL.mp; rw [h.fifo a va ac f hva hac hf]; simp [hc]

theorem HInv.dial_lt {s : HS} (h : HInv s) (d : Dial) (hd : d ∈ s.dialLog) :
    d.epoch < s.net.fwds.length ∧ d.target.isDefault = false
    ∧ ∃ f0, d.fwd = some f0 ∧ f0 < s.net.fwds.length ∧ f0 ≠ d.epoch := by
  obtain ⟨i, hi, hdi⟩ := List.getElem_of_mem hd
  have hi' : i < s.net.chans.length := by rw [← h.dial_len]; exact hi
  obtain ⟨cv, hcvi⟩ := cv_of_lt hi'
  have hdi' : s.dialLog[i]? = some d := by rw [List.getElem?_eq_getElem hi, hdi]
  obtain ⟨f0, k⟩ := h.chan hcvi hdi'
  exact ⟨k.epoch_lt, k.nodef, f0, k.fwd, k.fwd_lt, k.fwd_ne⟩

theorem HInv.open_of_fwd {s : HS} (h : HInv s) {a : String} {va : SockV} {ac : AccState} {f : Nat}
    (hva : s.net.sv a = some va) (hac : va.acc = some ac) (hvf : va.fwd = some f) : va.isOpen = true := by
  cases ho : va.isOpen with
  | true => rfl
  | false => have := (h.a_closed a va ac hva hac ho).2; rw [hvf] at this; cases this

/-- a SYN in flight whose route ends at `a`: `a` is the acceptor that was dialled, still in the
    epoch (forwarder) and at the endpoint that were dialled — the last hop names the epoch -/
theorem HInv.syn_routed {s : HS} (h : HInv s) (pk : Pkt) (hpk : pk ∈ s.bag) (hty : pk.ty = .syn)
    (a : String) (hrt : s.net.routedTo pk a) :
    ∃ c d va, pk.chan = some c ∧ c < s.net.chans.length ∧ c ∉ s.synLog.map (·.2) ∧ s.dialLog[c]? = some d
      ∧ s.net.sv a = some va ∧ va.fwd = some d.epoch ∧ a = d.lsock ∧ va.bound = d.target ∧ va.acc.isSome := by
  obtain ⟨f, hlast, hft0⟩ := hrt
  obtain ⟨c, cv, q1, q2, q3, q4⟩ := h.b_syn pk hpk hty
  obtain ⟨va, hva, hvf⟩ := h.f_own f a hft0
  have hlt : c < s.dialLog.length := by rw [h.dial_len]; exact cv_lt q2
  have hd : s.dialLog[c]? = some s.dialLog[c] := List.getElem?_eq_getElem hlt
  have hfe : s.dialLog[c].epoch = f := by
    rw [q4, h.hops1_q c cv _ q2 hd (h.not_acc_of_not_syn c q3), List.getLast?_append, List.getLast?_singleton] at hlast
    simp at hlast; exact fwdHop_inj hlast
  rw [← hfe] at hvf
  exact ⟨c, _, va, q1, cv_lt q2, q3, hd, hva, hvf, h.d_acc _ (List.getElem_mem hlt) a va hva hvf⟩

theorem isDefault_default : ({} : Ep).isDefault = true := by decide

/-- **One socket changes but for its acceptor state** (close, open, bind, implicit bind,
    SYN-ACK delivery, cancel, a fresh socket object; an acceptor being opened or bound):
    channels and logs stay — but for the connect completion `extra` this socket may get —, the
    socket keeps whatever connection it is part of or becomes idle, its forwarder is kept,
    dropped or fresh. -/
theorem HInv.upd1 {s : HS} (h : HInv s) (o : String)
    (v' : SockV) (n' : NetSt) (bag' : List Pkt) (extra : List ConDone)
    (hcfg : n'.cfg = s.net.cfg)
    (hlen : s.net.fwds.length ≤ n'.fwds.length)
    (hcl : n'.chans.length = s.net.chans.length) (hcv : ∀ c, n'.cv c = s.net.cv c)
    (hsv : ∀ o', n'.sv o' = if o' = o then some v' else s.net.sv o')
    (hreg1 : ∀ e ∈ n'.reg.tcp, e ∈ s.net.reg.tcp ∨ e.2 = o)
    (hreg3 : ∀ e ∈ n'.reg.tcp, e.2 = o → ∀ ac, v'.acc = some ac → e.1 = v'.bound)
    (hreg2 : ∀ k o', o' ≠ o → s.net.reg.tcp.lookup k = some o' → n'.reg.tcp.lookup k = some o')
    (hnp : 0 < n'.reg.nextPort) (hnd : ∀ e ∈ n'.reg.tcp, e.1.isDefault = false)
    (hft : ∀ g, n'.fwdTarget g = if v'.fwd = some g then some o
                                 else if (s.net.sv o).bind (·.fwd) = some g then none else s.net.fwdTarget g)
    (p1 : v'.acc = (s.net.sv o).bind (·.acc))
    (p2 : v'.chan = none → v'.connectH = none)
    (p3 : v'.chan = none → v'.bound = {} ∨ n'.reg.tcp.lookup v'.bound = some o)
    (p4 : ∀ c, v'.chan = some c → ∃ v, s.net.sv o = some v ∧ v.chan = some c ∧ v'.bound = v.bound ∧ v'.fwd = v.fwd
              ∧ (v'.connectH = v.connectH ∨ v'.connectH = none))
    (p5 : v'.fwd = (s.net.sv o).bind (·.fwd) ∨ v'.fwd = none
          ∨ (v'.fwd = some s.net.fwds.length ∧ s.net.fwds.length < n'.fwds.length))
    (p6 : v'.fwd = (s.net.sv o).bind (·.fwd) → v'.fwd.isSome → v'.chan = (s.net.sv o).bind (·.chan))
    (p7 : v'.isOpen = true → v'.fwd.isSome)
    (q1 : ∀ ac, v'.acc = some ac → v'.chan = none)
    (q2 : ∀ ac, v'.acc = some ac → v'.isOpen = false → ac.queueLimit ≤ 0 ∧ v'.fwd = none)
    (q3 : ∀ ac, v'.acc = some ac → 0 < ac.queueLimit → v'.bound.isDefault = false)
    (q4 : ∀ ac, v'.acc = some ac → v'.fwd = some s.net.fwds.length → ac.conns = [])
    (q5 : ∀ v, s.net.sv o = some v → v'.fwd = v.fwd → v'.bound = v.bound ∨ ∀ d ∈ s.dialLog, v'.fwd ≠ some d.epoch)
    (hbag : ∀ pk ∈ bag', pk ∈ s.bag ∨ (pk.ty ≠ .syn ∧ pk.ty ≠ .synack))
    (hbag1 : bag'.Pairwise (fun p q => p.ty = .syn → q.ty = .syn → p.chan ≠ q.chan))
    (hx : extra = [] ∨ ∃ v c hh k, s.net.sv o = some v ∧ v.chan = some c ∧ v.connectH = some hh ∧ extra = [k]
            ∧ k.cid = some c ∧ k.sock = o ∧ (k.ec = .ok → ∃ e ∈ s.accLog, e.cid = some c)
            ∧ (v'.chan = some c → v'.connectH = none)) :
    HInv { s with net := n', bag := bag', conLog := s.conLog ++ extra } := by
  have hso : ∀ o', o' ≠ o → n'.sv o' = s.net.sv o' := fun o' ho' => by rw [hsv, if_neg ho']
  have hso' : n'.sv o = some v' := by rw [hsv, if_pos rfl]
  have hlt : ∀ {k}, k < s.net.fwds.length → k < n'.fwds.length := fun hk => Nat.lt_of_lt_of_le hk hlen
  -- the forwarder of `o`, if any, is the one it had (and then an old one) or the fresh one
  have hfw : ∀ f, v'.fwd = some f →
      (f < s.net.fwds.length ∧ ∃ v, s.net.sv o = some v ∧ v.fwd = some f)
      ∨ (f = s.net.fwds.length ∧ f < n'.fwds.length) := by
    intro f hf
    rcases p5 with p | p | p
    · rw [hf] at p
      cases hov : s.net.sv o with
      | none => simp [hov] at p
      | some v => simp [hov] at p; exact Or.inl ⟨(h.s_fwd o v f hov p.symm).1, v, rfl, p.symm⟩
    · rw [hf] at p; cases p
    · rw [hf] at p; cases p.1; exact Or.inr ⟨rfl, p.2⟩
  have hkept : ∀ f, v'.fwd = some f → f < s.net.fwds.length → ∃ v, s.net.sv o = some v ∧ v.fwd = some f := by
    intro f hf hlt
    rcases hfw f hf with ⟨_, hv⟩ | ⟨hfr, _⟩
    · exact hv
    · exact absurd (hfr ▸ hlt) (Nat.lt_irrefl _)
  have hnotmine : ∀ o1 v1 f, o1 ≠ o → s.net.sv o1 = some v1 → v1.fwd = some f →
      v'.fwd ≠ some f ∧ (s.net.sv o).bind (·.fwd) ≠ some f := by
    intro o1 v1 f ho1 hv1 hf1
    obtain ⟨q1', q2'⟩ := h.s_fwd o1 v1 f hv1 hf1
    constructor
    · intro h0
      obtain ⟨v, hv, hvf⟩ := hkept f h0 q1'
      have := (h.s_fwd o v f hv hvf).2
      rw [q2'] at this; exact ho1 (Option.some.inj this)
    · intro h0
      cases hov : s.net.sv o with
      | none => simp [hov] at h0
      | some v0 =>
        simp [hov] at h0
        have := (h.s_fwd o v0 f hov h0).2
        rw [q2'] at this; exact ho1 (Option.some.inj this)
  constructor
  case a_chan =>
    intro a va ac hva hac
    rcases sv_upd_cases hsv hva with ⟨rfl, rfl⟩ | ⟨ho, hva⟩
    · exact q1 ac hac
    · exact h.a_chan a va ac hva hac
  case a_closed =>
    intro a va ac hva hac hcl'
    rcases sv_upd_cases hsv hva with ⟨rfl, rfl⟩ | ⟨ho, hva⟩
    · exact q2 ac hac hcl'
    · exact h.a_closed a va ac hva hac hcl'
  case a_lis =>
    intro a va ac hva hac hql
    rcases sv_upd_cases hsv hva with ⟨rfl, rfl⟩ | ⟨ho, hva⟩
    · exact q3 ac hac hql
    · exact h.a_lis a va ac hva hac hql
  case reg_own =>
    intro e he v ac hv hac
    by_cases ho : e.2 = o
    · rw [ho, hso'] at hv; cases hv; exact (hreg3 e he ho ac hac).symm
    · rw [hso _ ho] at hv
      rcases hreg1 e he with h1 | h1
      · exact h.reg_own e h1 v ac hv hac
      · exact absurd h1 ho
  case bound_reg =>
    intro o' v hv hch
    rcases sv_upd_cases hsv hv with ⟨rfl, rfl⟩ | ⟨ho, hv⟩
    · exact p3 hch
    · rcases h.bound_reg o' v hv hch with hb | hb
      · exact Or.inl hb
      · exact Or.inr (hreg2 _ _ ho hb)
  case dial_len =>
    show s.dialLog.length = n'.chans.length
    rw [hcl]; exact h.dial_len
  case chan_ok =>
    intro c cv d hc hd
    simp only [hcv] at hc
    obtain ⟨f0, k⟩ := h.chan hc hd
    refine ⟨k.cid, k.ep0, k.ep1, k.vis1, k.ep_ne, k.nodef, k.vis0, hlt k.epoch_lt, f0, k.fwd, hlt k.fwd_lt, k.fwd_ne, ?_⟩
    show cv.hops0 = route0 n'.cfg cv ++ [fwdHop f0]
    rw [hcfg]; exact k.hops0
  case hops1_q =>
    intro c cv d hc hd hq
    simp only [hcv] at hc
    show cv.hops1 = route1 n'.cfg cv ++ [fwdHop d.epoch]
    rw [hcfg]; exact h.hops1_q c cv d hc hd hq
  case hops1_a =>
    intro c cv e hc he hec
    simp only [hcv] at hc
    show ∃ g, e.fwd = some g ∧ cv.hops1 = route1 n'.cfg cv ++ [fwdHop g]
    rw [hcfg]; exact h.hops1_a c cv e hc he hec
  case d_acc =>
    intro d hd a va hva hvf
    rcases sv_upd_cases hsv hva with ⟨rfl, rfl⟩ | ⟨ho, hva⟩
    · obtain ⟨hdl, _⟩ := h.dial_lt d hd
      obtain ⟨v, hv, hvf0⟩ := hkept d.epoch hvf hdl
      obtain ⟨r1, r2, r3⟩ := h.d_acc d hd a v hv hvf0
      refine ⟨r1, ?_, ?_⟩
      · rcases q5 v hv (hvf.trans hvf0.symm) with hb | hb
        · rw [hb]; exact r2
        · exact absurd hvf (hb d hd)
      · rw [p1, hv]; exact r3
    · exact h.d_acc d hd a va hva hvf
  case idle =>
    intro o' v hv hch
    rcases sv_upd_cases hsv hv with ⟨rfl, rfl⟩ | ⟨ho, hv⟩
    · exact p2 hch
    · exact h.idle o' v hv hch
  case conn =>
    intro o' v c hv hch
    simp only [hcv]
    rcases sv_upd_cases hsv hv with ⟨rfl, rfl⟩ | ⟨ho, hv⟩
    · obtain ⟨v0, hv0, hc0, hb0, hf0', hk0⟩ := p4 c hch
      obtain ⟨cv, d, r1, r2, r3⟩ := h.conn o' v0 c hv0 hc0
      refine ⟨cv, d, r1, r2, ?_⟩
      rcases r3 with ⟨t1, t2, t3⟩ | ⟨t1, t2, t3⟩
      · left; exact ⟨hb0.trans t1, t2, hf0'.trans t3⟩
      · right
        refine ⟨hb0.trans t1, ?_, ?_⟩
        · rcases hk0 with k | k
          · exact k.trans t2
          · exact k
        · obtain ⟨e, he, r4, r5, r6⟩ := t3
          exact ⟨e, he, r4, r5, hf0'.trans r6⟩
    · exact h.conn o' v c hv hch
  case s_fwd =>
    intro o' v f hv hf
    rcases sv_upd_cases hsv hv with ⟨rfl, rfl⟩ | ⟨ho, hv⟩
    · exact ⟨(hfw f hf).elim (fun p => hlt p.1) (fun p => p.2), by rw [hft, if_pos hf]⟩
    · obtain ⟨r1, r2⟩ := h.s_fwd o' v f hv hf
      obtain ⟨h1, h2⟩ := hnotmine o' v f ho hv hf
      refine ⟨hlt r1, ?_⟩
      rw [hft]
      simp [h1, h2, r2]
  case f_own =>
    intro f o' hfo
    rw [hft] at hfo
    split at hfo
    · rename_i hvf
      cases hfo
      exact ⟨v', hso', hvf⟩
    · split at hfo
      · cases hfo
      · obtain ⟨v, r1, r2⟩ := h.f_own f o' hfo
        by_cases ho : o' = o
        · subst ho
          rename_i hn1 hn2
          simp [r1, r2] at hn2
        · exact ⟨v, by rw [hso o' ho]; exact r1, r2⟩
  case d_live =>
    intro d hd o' v f hv hf hdf
    rcases sv_upd_cases hsv hv with ⟨rfl, rfl⟩ | ⟨ho, hv⟩
    · obtain ⟨_, _, f0, r1, r2, _⟩ := h.dial_lt d hd
      rw [hdf] at r1; cases r1
      rcases hfw f hf with ⟨_, v0, hov, hf0⟩ | ⟨hfr, _⟩
      · rw [p6 (by rw [hf, hov]; exact hf0.symm) (by simp [hf]), hov]
        exact h.d_live d hd o' v0 f hov hf0 hdf
      · exact absurd (hfr ▸ r2) (Nat.lt_irrefl _)
    · exact h.d_live d hd o' v f hv hf hdf
  case o_fwd =>
    intro o' v hv hop
    rcases sv_upd_cases hsv hv with ⟨rfl, rfl⟩ | ⟨ho, hv⟩
    · exact p7 hop
    · exact h.o_fwd o' v hv hop
  case b_syn =>
    intro pk hpk hty
    simp only [hcv]
    rcases hbag pk hpk with hb | hb
    · exact h.b_syn pk hb hty
    · exact absurd hty hb.1
  case b_syn1 => exact hbag1
  case b_ack =>
    intro pk hpk hty
    simp only [hcv]
    rcases hbag pk hpk with hb | hb
    · exact h.b_ack pk hb hty
    · exact absurd hty hb.2
  case syn_lt =>
    intro x hx
    obtain ⟨r1, r2⟩ := h.syn_lt x hx
    exact ⟨by show x.2 < n'.chans.length; rw [hcl]; exact r1, hlt r2⟩
  case syn_nd => exact h.syn_nd
  case syn_ep => exact h.syn_ep
  case fifo =>
    intro a va ac f hva hac hvf
    rcases sv_upd_cases hsv hva with ⟨rfl, rfl⟩ | ⟨ho, hva⟩
    · rcases hfw f hvf with ⟨_, v, hv, hvf0⟩ | ⟨hfr, _⟩
      · have hacc : v.acc = some ac := by
          have := p1; rw [hv] at this; simp only [Option.bind_some] at this; rw [← this]; exact hac
        exact h.fifo a v ac f hv hacc hvf0
      · -- a fresh forwarder: nothing arrived, nothing accepted, nothing queued
        have h1 : synAtL s.synLog f = [] := synAtL_eq_nil fun x hx => hfr ▸ (h.syn_lt x hx).2
        have h2 : accAtL s.accLog f = [] := accAtL_eq_nil fun e he => by
          obtain ⟨_, _, _, _, a⟩ := h.acc he; exact hfr ▸ a.epoch_lt
        show synAtL s.synLog f = (accAtL s.accLog f).filterMap (·.cid) ++ ac.conns
        rw [h1, h2, q4 ac hac (by rw [hvf, hfr])]; rfl
    · exact h.fifo a va ac f hva hac hvf
  case fifo_all => exact h.fifo_all
  case a_log =>
    intro e he
    obtain ⟨op, c, g, d, a⟩ := h.acc he
    exact a.clause hlen a.dial fun cv hc => ⟨cv, (hcv c).symm.trans hc, rfl⟩
  case pend =>
    intro a va ac op hva hac hop
    have hold : ∃ va0, s.net.sv a = some va0 ∧ va0.acc = some ac := by
      by_cases ho : a = o
      · subst ho; rw [hso'] at hva; cases hva
        cases hov : s.net.sv a with
        | none => rw [p1, hov] at hac; cases hac
        | some v0 => rw [p1, hov] at hac; exact ⟨v0, rfl, hac⟩
      · rw [hso a ho] at hva; exact ⟨va, hva, hac⟩
    obtain ⟨va0, hva0, hac0⟩ := hold
    obtain ⟨⟨vp, hvp, hvpa⟩, r2, r3⟩ := h.pend a va0 ac op hva0 hac0 hop
    refine ⟨?_, r2, r3⟩
    by_cases hp : op.peer = o
    · refine ⟨v', by rw [hp]; exact hso', ?_⟩
      rw [p1, ← hp, hvp]; exact hvpa
    · exact ⟨vp, by rw [hso _ hp]; exact hvp, hvpa⟩
  case ser_lt => exact h.ser_lt
  case ser_mono => exact h.ser_mono
  case peer_b =>
    intro e he op c v heo hec hv hch
    by_cases ho : op.peer = o
    · rw [ho, hso'] at hv; cases hv
      obtain ⟨v0, hv0, hc0, hb0, hf0', _⟩ := p4 c hch
      obtain ⟨r1, r2⟩ := h.peer_b e he op c v0 heo hec (by rw [ho]; exact hv0) hc0
      exact ⟨hb0.trans r1, hf0'.trans r2⟩
    · rw [hso _ ho] at hv; exact h.peer_b e he op c v heo hec hv hch
  case con_ok =>
    intro k hk
    rcases List.mem_append.mp hk with hk' | hk'
    · exact h.con_ok k hk'
    · rcases hx with hx | ⟨v, c, hh, k0, x1, x2, x3, x4, x5, x6, x7, _⟩
      · rw [hx] at hk'; cases hk'
      · rw [x4, List.mem_singleton] at hk'; subst hk'
        obtain ⟨cv, d, r1, r2, r3⟩ := h.conn o v c x1 x2
        refine ⟨c, d, x5, r2, ?_, x7⟩
        rcases r3 with ⟨_, t2, _⟩ | ⟨_, t2, _⟩
        · rw [x6]; exact t2
        · rw [x3] at t2; cases t2
  case con_nd =>
    show ((s.conLog ++ extra).map (·.cid)).Nodup
    rcases hx with hx | ⟨v, c, hh, k0, x1, x2, x3, x4, x5, _⟩
    · rw [hx, List.append_nil]; exact h.con_nd
    · rw [x4]
      exact nodup_map_concat h.con_nd (fun k hk hkc => h.con_pend o v c x1 x2 (by rw [x3]; rfl) k hk (by rw [hkc, x5]))
  case con_pend =>
    intro o' v c hv hch hpe k hk
    -- the pending socket was pending on the same channel before
    have hold : ∃ v0, s.net.sv o' = some v0 ∧ v0.chan = some c ∧ v0.connectH.isSome := by
      by_cases ho : o' = o
      · subst ho; rw [hso'] at hv; cases hv
        obtain ⟨v0, hv0, hc0, _, _, hk0⟩ := p4 c hch
        rcases hk0 with k1 | k1
        · exact ⟨v0, hv0, hc0, by rw [← k1]; exact hpe⟩
        · rw [k1] at hpe; cases hpe
      · rw [hso o' ho] at hv; exact ⟨v, hv, hch, hpe⟩
    obtain ⟨v0, hv0, hc0, hpe0⟩ := hold
    rcases List.mem_append.mp hk with hk' | hk'
    · exact h.con_pend o' v0 c hv0 hc0 hpe0 k hk'
    · rcases hx with hx | ⟨v1, c1, hh, k0, x1, x2, x3, x4, x5, x6, x7, x8⟩
      · rw [hx] at hk'; cases hk'
      · rw [x4, List.mem_singleton] at hk'; subst hk'
        intro hkc
        rw [x5] at hkc; cases hkc
        -- both pending on `c`: the same socket (the one that dialled), which is no longer pending
        have ho : o' = o := by
          obtain ⟨cv, d, _, r2, r3⟩ := h.conn o' v0 c hv0 hc0
          obtain ⟨cv', d', _, r2', r3'⟩ := h.conn o v1 c x1 x2
          rw [r2] at r2'; cases r2'
          rcases r3 with ⟨_, t2, _⟩ | ⟨_, t2, _⟩
          · rcases r3' with ⟨_, t2', _⟩ | ⟨_, t2', _⟩
            · rw [← t2, ← t2']
            · rw [x3] at t2'; cases t2'
          · rw [t2] at hpe0; cases hpe0
        subst ho
        rw [hso'] at hv; cases hv
        rw [x8 hch] at hpe; cases hpe
  case nat_lt => intro x hx'; show x.1 < n'.chans.length; rw [hcl]; exact h.nat_lt x hx'
  case np_pos => exact hnp
  case reg_nodef => exact hnd
  case acc_nd => exact h.acc_nd

/-- **Only an acceptor's own state changes** (listen, a SYN queued, an accept stored or
    aborted, the queue of a closed acceptor reset): `m_queue_size_limit`, `m_incoming_conns`,
    the accept slot. The state is `setTcp` of the old one: channels, registry and forwarders are
    the old ones by computation, so the clauses that read only those carry over as they are. -/
theorem HInv.updA {s : HS} (h : HInv s) (a : String)
    (va : SockV) (ac ac' : AccState) (hva : s.net.sv a = some va) (hac : va.acc = some ac)
    (t : TcpSock) (ht : t.hview = { va with acc := some ac' })
    (bag' : List Pkt) (synLog' : List (Nat × Nat)) (accCalls' : String → Nat)
    (hql : va.isOpen = false → ac'.queueLimit ≤ 0)
    (hlis : 0 < ac'.queueLimit → va.bound.isDefault = false)
    (hfifo : ∀ f, va.fwd = some f → synAtL synLog' f = (accAtL s.accLog f).filterMap (·.cid) ++ ac'.conns)
    (hfifo2 : ∀ f, va.fwd ≠ some f → synAtL synLog' f = synAtL s.synLog f)
    (hpend : ∀ op, ac'.acceptOp = some op → (∃ vp, s.net.sv op.peer = some vp ∧ vp.acc = none) ∧ 0 < accCalls' a
               ∧ ∀ e ∈ s.accLog, e.acc = a → e.serial + 1 < accCalls' a)
    (hcalls : ∀ x, s.accCalls x ≤ accCalls' x) (hcalls2 : ∀ x, x ≠ a → accCalls' x = s.accCalls x)
    (hsyn1 : ∀ x ∈ synLog', x.2 < s.net.chans.length ∧ x.1 < s.net.fwds.length)
    (hsyn2 : (synLog'.map (·.2)).Nodup)
    (hsyn3 : ∀ x ∈ synLog', ∀ d, s.dialLog[x.2]? = some d → d.epoch = x.1)
    (hbag : ∀ pk ∈ bag', pk ∈ s.bag ∨ (pk.ty ≠ .syn ∧ pk.ty ≠ .synack))
    (hbag1 : bag'.Pairwise (fun p q => p.ty = .syn → q.ty = .syn → p.chan ≠ q.chan))
    (hbag2 : ∀ pk ∈ bag', pk.ty = .syn → ∀ c, pk.chan = some c → c ∉ synLog'.map (·.2)) :
    HInv { s with net := s.net.setTcp a t, bag := bag', synLog := synLog', accCalls := accCalls' } := by
  have hsv : ∀ o, (s.net.setTcp a t).sv o = if o = a then some { va with acc := some ac' } else s.net.sv o :=
    fun o => by rw [sv_setTcp, ht]
  have hsa : (s.net.setTcp a t).sv a = some { va with acc := some ac' } := by rw [hsv, if_pos rfl]
  have hso : ∀ o, o ≠ a → (s.net.setTcp a t).sv o = s.net.sv o := fun o ho => by rw [hsv, if_neg ho]
  have hvch : va.chan = none := h.a_chan a va ac hva hac
  have hna : ∀ o v, s.net.sv o = some v → v.acc = none → o ≠ a := by
    intro o v hv hvn hoa; subst hoa; rw [hva] at hv; cases hv; rw [hac] at hvn; cases hvn
  exact { h with
    a_chan := by
      intro a1 va1 ac1 hva1 hac1
      rcases sv_upd_cases hsv hva1 with ⟨rfl, rfl⟩ | ⟨ho, hva1⟩
      · exact hvch
      · exact h.a_chan a1 va1 ac1 hva1 hac1
    a_closed := by
      intro a1 va1 ac1 hva1 hac1 hcl'
      rcases sv_upd_cases hsv hva1 with ⟨rfl, rfl⟩ | ⟨ho, hva1⟩
      · cases hac1
        exact ⟨hql hcl', (h.a_closed a1 va ac hva hac hcl').2⟩
      · exact h.a_closed a1 va1 ac1 hva1 hac1 hcl'
    a_lis := by
      intro a1 va1 ac1 hva1 hac1 hq
      rcases sv_upd_cases hsv hva1 with ⟨rfl, rfl⟩ | ⟨ho, hva1⟩
      · cases hac1; exact hlis hq
      · exact h.a_lis a1 va1 ac1 hva1 hac1 hq
    reg_own := by
      intro e he v ac1 hv hac1
      by_cases ho : e.2 = a
      · rw [ho, hsa] at hv; cases hv
        exact h.reg_own e he va ac (by rw [ho]; exact hva) hac
      · rw [hso _ ho] at hv; exact h.reg_own e he v ac1 hv hac1
    bound_reg := by
      intro o v hv hch
      rcases sv_upd_cases hsv hv with ⟨rfl, rfl⟩ | ⟨ho, hv⟩
      · exact h.bound_reg o va hva hvch
      · exact h.bound_reg o v hv hch
    d_acc := by
      intro d hd a1 va1 hva1 hvf
      rcases sv_upd_cases hsv hva1 with ⟨rfl, rfl⟩ | ⟨ho, hva1⟩
      · obtain ⟨r1, r2, _⟩ := h.d_acc d hd a1 va hva hvf
        exact ⟨r1, r2, rfl⟩
      · exact h.d_acc d hd a1 va1 hva1 hvf
    idle := by
      intro o v hv hch
      rcases sv_upd_cases hsv hv with ⟨rfl, rfl⟩ | ⟨ho, hv⟩
      · exact h.idle o va hva hvch
      · exact h.idle o v hv hch
    conn := by
      intro o v c hv hch
      rcases sv_upd_cases hsv hv with ⟨rfl, rfl⟩ | ⟨ho, hv⟩
      · exact absurd (hvch.symm.trans hch) (by simp)
      · exact h.conn o v c hv hch
    s_fwd := by
      intro o v f hv hf
      rcases sv_upd_cases hsv hv with ⟨rfl, rfl⟩ | ⟨ho, hv⟩
      · exact h.s_fwd o va f hva hf
      · exact h.s_fwd o v f hv hf
    f_own := by
      intro f o hfo
      obtain ⟨v, q1, q2⟩ := h.f_own f o hfo
      by_cases ho : o = a
      · subst ho; rw [hva] at q1; cases q1; exact ⟨_, hsa, q2⟩
      · exact ⟨v, by rw [hso o ho]; exact q1, q2⟩
    d_live := by
      intro d hd o v f hv hf hdf
      rcases sv_upd_cases hsv hv with ⟨rfl, rfl⟩ | ⟨ho, hv⟩
      · exact absurd (hvch.symm.trans (h.d_live d hd o va f hva hf hdf)) (by simp)
      · exact h.d_live d hd o v f hv hf hdf
    o_fwd := by
      intro o v hv hop
      rcases sv_upd_cases hsv hv with ⟨rfl, rfl⟩ | ⟨ho, hv⟩
      · exact h.o_fwd o va hva hop
      · exact h.o_fwd o v hv hop
    b_syn := by
      intro pk hpk hty
      rcases hbag pk hpk with hb | hb
      · obtain ⟨c, cv, q1, q2, _, q4⟩ := h.b_syn pk hb hty
        exact ⟨c, cv, q1, q2, hbag2 pk hpk hty c q1, q4⟩
      · exact absurd hty hb.1
    b_syn1 := hbag1
    b_ack := by
      intro pk hpk hty
      rcases hbag pk hpk with hb | hb
      · exact h.b_ack pk hb hty
      · exact absurd hty hb.2
    syn_lt := hsyn1
    syn_nd := hsyn2
    syn_ep := hsyn3
    fifo := by
      intro a1 va1 ac1 f hva1 hac1 hvf
      rcases sv_upd_cases hsv hva1 with ⟨rfl, rfl⟩ | ⟨ho, hva1⟩
      · cases hac1; exact hfifo f hvf
      · have hne : va.fwd ≠ some f := by
          intro hvf'
          have h1 := (h.s_fwd a1 va1 f hva1 hvf).2
          rw [(h.s_fwd a va f hva hvf').2] at h1; exact ho (Option.some.inj h1).symm
        exact (hfifo2 f hne).trans (h.fifo a1 va1 ac1 f hva1 hac1 hvf)
    fifo_all := by
      intro f
      by_cases hvf : va.fwd = some f
      · exact ⟨ac'.conns, hfifo f hvf⟩
      · obtain ⟨dr, hdr⟩ := h.fifo_all f
        exact ⟨dr, (hfifo2 f hvf).trans hdr⟩
    pend := by
      intro a1 va1 ac1 op hva1 hac1 hop
      rcases sv_upd_cases hsv hva1 with ⟨rfl, rfl⟩ | ⟨ho, hva1⟩
      · cases hac1
        obtain ⟨⟨vp, hvp, hvpa⟩, r2, r3⟩ := hpend op hop
        exact ⟨⟨vp, by rw [hso _ (hna _ vp hvp hvpa)]; exact hvp, hvpa⟩, r2, r3⟩
      · obtain ⟨⟨vp, hvp, hvpa⟩, r2, r3⟩ := h.pend a1 va1 ac1 op hva1 hac1 hop
        refine ⟨⟨vp, by rw [hso _ (hna _ vp hvp hvpa)]; exact hvp, hvpa⟩, ?_, ?_⟩
        · show 0 < accCalls' a1; rw [hcalls2 a1 ho]; exact r2
        · intro e he hea; show e.serial + 1 < accCalls' a1; rw [hcalls2 a1 ho]; exact r3 e he hea
    ser_lt := fun e he => Nat.lt_of_lt_of_le (h.ser_lt e he) (hcalls e.acc)
    peer_b := by
      intro e he op c v heo hec hv hch
      by_cases ho : op.peer = a
      · rw [ho, hsa] at hv; cases hv
        exact absurd (hvch.symm.trans hch) (by simp)
      · rw [hso _ ho] at hv; exact h.peer_b e he op c v heo hec hv hch
    con_pend := by
      intro o v c hv hch hpe
      rcases sv_upd_cases hsv hv with ⟨rfl, rfl⟩ | ⟨ho, hv⟩
      · exact absurd (hvch.symm.trans hch) (by simp)
      · exact h.con_pend o v c hv hch hpe }

theorem reg_after_unbind {tbl tbl' : List (Ep × String)} {p : String} {b : Ep}
    (hreg : tbl' = (if b.isDefault then tbl else simUnbind tbl p b)) :
    (∀ e ∈ tbl', e ∈ tbl) ∧ (∀ k o', o' ≠ p → tbl.lookup k = some o' → tbl'.lookup k = some o') := by
  subst hreg
  constructor
  · intro e he; split at he
    · exact he
    · exact ((mem_simUnbind _ _ _ _).mp he).1
  · intro k o' ho' hl; split
    · exact hl
    · exact lookup_simUnbind _ _ _ _ _ (Ne.symm ho') hl

theorem pairwise_append_nonsyn {bag fw : List Pkt}
    (h : bag.Pairwise (fun (p q : Pkt) => p.ty = PType.syn → q.ty = PType.syn → p.chan ≠ q.chan))
    (hfw : ∀ q ∈ fw, q.ty ≠ .syn) :
    (bag ++ fw).Pairwise (fun (p q : Pkt) => p.ty = PType.syn → q.ty = PType.syn → p.chan ≠ q.chan) := by
  rw [List.pairwise_append]
  refine ⟨h, ?_, ?_⟩
  · apply List.Pairwise.imp_of_mem (R := fun _ _ => True)
    · intro p q hp _ _ hpt _; exact absurd hpt (hfw p hp)
    · exact List.pairwise_of_forall (fun _ _ => trivial)
  · intro p _ q hq _ hqt; exact absurd hqt (hfw q hq)

theorem errs_not_syn {fw : List Pkt} (h : ∀ q ∈ fw, q.ty = .err) :
    ∀ q ∈ fw, q.ty ≠ .syn ∧ q.ty ≠ .synack := by
  intro q hq; rw [h q hq]; constructor <;> (intro h1; cases h1)

/-- the two bag hypotheses of the update lemmas, for error packets -/
theorem HInv.bag_errs {s : HS} (h : HInv s) {fw : List Pkt} (hfw : ∀ q ∈ fw, q.ty = .err) :
    (∀ pk ∈ s.bag ++ fw, pk ∈ s.bag ∨ (pk.ty ≠ .syn ∧ pk.ty ≠ .synack))
    ∧ (s.bag ++ fw).Pairwise (fun p q => p.ty = .syn → q.ty = .syn → p.chan ≠ q.chan) :=
  ⟨fun pk hpk => (List.mem_append.mp hpk).imp id (errs_not_syn hfw pk),
   pairwise_append_nonsyn h.b_syn1 fun q hq => (errs_not_syn hfw q hq).1⟩

theorem HInv.syn_fresh {s : HS} (h : HInv s) {bag' : List Pkt}
    (hbag : ∀ pk ∈ bag', pk ∈ s.bag ∨ (pk.ty ≠ .syn ∧ pk.ty ≠ .synack)) :
    ∀ pk ∈ bag', pk.ty = .syn → ∀ c, pk.chan = some c → c ∉ s.synLog.map (·.2) := by
  intro pk hpk hty c hc
  obtain ⟨c', _, q1, _, q3, _⟩ := h.b_syn pk ((hbag pk hpk).resolve_right fun hn => hn.1 hty) hty
  cases hc.symm.trans q1
  exact q3

/-- **The hand-over** (`check_accept_queue` with an accept outstanding and a connection
    queued): the oldest queued channel goes to the accept's socket. -/
theorem HInv.attach {s : HS} (h : HInv s) (a : String)
    (va : SockV) (ac : AccState) (op : AcceptOp) (c : Nat) (rest : List Nat) (vp : SockV) (cv0 : ChanV) (f : Nat)
    (hva : s.net.sv a = some va) (hac : va.acc = some ac) (hopen : va.isOpen = true) (hvf : va.fwd = some f)
    (hop : ac.acceptOp = some op) (hconns : ac.conns = c :: rest)
    (hvp : s.net.sv op.peer = some vp) (hvpa : vp.acc = none) (hcv0 : s.net.cv c = some cv0)
    (n' : NetSt) (fw : List Pkt) (extra : String)
    (hcfg : n'.cfg = s.net.cfg) (hfw : n'.fwds.length = s.net.fwds.length + 1)
    (hcl : n'.chans.length = s.net.chans.length)
    (hreg : n'.reg.tcp = (if vp.bound.isDefault then s.net.reg.tcp else simUnbind s.net.reg.tcp op.peer vp.bound))
    (hnp : 0 < n'.reg.nextPort)
    (hsv : ∀ o, n'.sv o = if o = op.peer then some ⟨true, va.bound, some s.net.fwds.length, some c, none, vp.acc⟩
                      else if o = a then some { va with acc := some { ac with conns := rest, acceptOp := none } }
                      else s.net.sv o)
    (hcv : ∀ d, n'.cv d = if d = c then some { cv0 with hops1 := cv0.hops1.dropLast ++ [fwdHop s.net.fwds.length] } else s.net.cv d)
    (hft : ∀ g, n'.fwdTarget g = if g = s.net.fwds.length then some op.peer else if vp.fwd = some g then none else s.net.fwdTarget g)
    (hextra : extra = if op.withEp then "ep=" ++ cv0.vis0.toString else "")
    (hfwd : ∀ q ∈ fw, q.ty = .err ∨ (q.ty = .synack ∧ q.chan = some c ∧ q.hops = cv0.hops0)) :
    HInv { s with net := n', bag := s.bag ++ fw,
                  accLog := s.accLog ++ [{ acc := a, epoch := f, lep := va.bound, serial := s.accCalls a - 1, op := some op,
                                           compl := { h := op.h, ec := .ok, extra := extra },
                                           cid := some c, fwd := some s.net.fwds.length }] } := by
  obtain ⟨_, hcalls, hser⟩ := h.pend a va ac op hva hac hop
  have hpa : op.peer ≠ a := by
    intro hpa; rw [hpa, hva] at hvp; cases hvp; rw [hac] at hvpa; cases hvpa
  obtain ⟨hfl, hvt⟩ := h.s_fwd a va f hva hvf
  have hvch : va.chan = none := h.a_chan a va ac hva hac
  have hlt : ∀ {k}, k < s.net.fwds.length → k < n'.fwds.length := fun hk => by rw [hfw]; exact Nat.lt_succ_of_lt hk
  have hfifo : synAtL s.synLog f = (accAtL s.accLog f).filterMap (·.cid) ++ c :: rest :=
    hconns ▸ h.fifo a va ac f hva hac hvf
  -- the channel handed over has not been accepted before
  have hcnew : ∀ e ∈ s.accLog, e.cid ≠ some c :=
    h.not_acc_of_queued a va ac f c hva hac hvf (by rw [hconns]; simp)
  have hcsyn : (f, c) ∈ s.synLog := h.queued_syn a va ac f c hva hac hvf (by rw [hconns]; simp)
  have hcsyn' : c ∈ s.synLog.map (·.2) := List.mem_map.mpr ⟨_, hcsyn, rfl⟩
  have hsa : n'.sv a = some { va with acc := some { ac with conns := rest, acceptOp := none } } := by
    rw [hsv, if_neg (Ne.symm hpa), if_pos rfl]
  have hsp : n'.sv op.peer = some ⟨true, va.bound, some s.net.fwds.length, some c, none, vp.acc⟩ := by
    rw [hsv, if_pos rfl]
  have hso : ∀ o, o ≠ a → o ≠ op.peer → n'.sv o = s.net.sv o := fun o h1 h2 => by rw [hsv, if_neg h2, if_neg h1]
  -- views of channels: only `hops1` of `c` changes
  have hcvx : ∀ d cv, n'.cv d = some cv → ∃ cv1, s.net.cv d = some cv1 ∧ cv.ep0 = cv1.ep0 ∧ cv.ep1 = cv1.ep1
      ∧ cv.vis0 = cv1.vis0 ∧ cv.vis1 = cv1.vis1 ∧ cv.hops0 = cv1.hops0 ∧ (d ≠ c → cv = cv1) := by
    intro d cv hd
    rw [hcv] at hd
    split at hd
    · rename_i hdc; subst hdc; cases hd
      exact ⟨cv0, hcv0, rfl, rfl, rfl, rfl, rfl, fun hn => absurd rfl hn⟩
    · exact ⟨cv, hd, rfl, rfl, rfl, rfl, rfl, fun _ => rfl⟩
  have hcvold : ∀ d cv1, s.net.cv d = some cv1 → ∃ cv, n'.cv d = some cv ∧ cv.ep0 = cv1.ep0 ∧ cv.hops0 = cv1.hops0
      ∧ cv.vis0 = cv1.vis0 ∧ (d ≠ c → cv = cv1) := by
    intro d cv1 hd
    rw [hcv]
    split
    · rename_i hdc; subst hdc; rw [hcv0] at hd; cases hd
      exact ⟨_, rfl, rfl, rfl, rfl, fun hn => absurd rfl hn⟩
    · exact ⟨cv1, hd, rfl, rfl, rfl, fun _ => rfl⟩
  have hdl : c < s.dialLog.length := by rw [h.dial_len]; exact cv_lt hcv0
  have hdc : s.dialLog[c]? = some s.dialLog[c] := List.getElem?_eq_getElem hdl
  have hdep : s.dialLog[c].epoch = f := h.syn_ep (f, c) hcsyn _ hdc
  obtain ⟨hdls, hdtg, _⟩ := h.d_acc _ (List.getElem_mem hdl) a va hva (by rw [hdep]; exact hvf)
  have hq0 : cv0.hops1 = route1 s.net.cfg cv0 ++ [fwdHop s.dialLog[c].epoch] :=
    h.hops1_q c cv0 _ hcv0 hdc hcnew
  obtain ⟨hregm, hregl⟩ := reg_after_unbind hreg
  constructor
  case a_chan =>
    intro a1 va1 ac1 hva1 hac1
    rcases sv_upd_cases2 hsv hva1 with ⟨rfl, rfl⟩ | ⟨ho, rfl, rfl⟩ | ⟨ho, hoa, hva1⟩
    · simp only at hac1; rw [hvpa] at hac1; cases hac1
    · exact hvch
    · exact h.a_chan a1 va1 ac1 hva1 hac1
  case a_closed =>
    intro a1 va1 ac1 hva1 hac1 hcl'
    rcases sv_upd_cases2 hsv hva1 with ⟨rfl, rfl⟩ | ⟨ho, rfl, rfl⟩ | ⟨ho, hoa, hva1⟩
    · cases hcl'
    · simp only at hcl'; rw [hopen] at hcl'; cases hcl'
    · exact h.a_closed a1 va1 ac1 hva1 hac1 hcl'
  case a_lis =>
    intro a1 va1 ac1 hva1 hac1 hq
    rcases sv_upd_cases2 hsv hva1 with ⟨rfl, rfl⟩ | ⟨ho, rfl, rfl⟩ | ⟨ho, hoa, hva1⟩
    · simp only at hac1; rw [hvpa] at hac1; cases hac1
    · simp only [Option.some.injEq] at hac1; subst hac1
      exact h.a_lis a1 va ac hva hac hq
    · exact h.a_lis a1 va1 ac1 hva1 hac1 hq
  case reg_own =>
    intro e he v ac1 hv hac1
    have he' := hregm e he
    by_cases ho : e.2 = op.peer
    · rw [ho, hsp] at hv; cases hv; simp only at hac1; rw [hvpa] at hac1; cases hac1
    · by_cases hoa : e.2 = a
      · rw [hoa, hsa] at hv; cases hv
        exact h.reg_own e he' va ac (by rw [hoa]; exact hva) hac
      · rw [hso _ hoa ho] at hv; exact h.reg_own e he' v ac1 hv hac1
  case bound_reg =>
    intro o v hv hch
    by_cases ho : o = op.peer
    · subst ho; rw [hsp] at hv; cases hv; cases hch
    · have hv1 : ∃ v1, s.net.sv o = some v1 ∧ v1.bound = v.bound ∧ v1.chan = none := by
        by_cases hoa : o = a
        · subst hoa; rw [hsa] at hv; cases hv; exact ⟨va, hva, rfl, hvch⟩
        · rw [hso o hoa ho] at hv; exact ⟨v, hv, rfl, hch⟩
      obtain ⟨v1, hv1, hb1, hc1⟩ := hv1
      rcases h.bound_reg o v1 hv1 hc1 with hb | hb
      · left; rw [← hb1]; exact hb
      · right; rw [← hb1]; exact hregl _ _ ho hb
  case dial_len => show s.dialLog.length = n'.chans.length; rw [hcl]; exact h.dial_len
  case chan_ok =>
    intro d cv dd hc hd
    obtain ⟨cv1, hc1, e0, e1, e2, e3, e4, _⟩ := hcvx d cv hc
    obtain ⟨f0, k⟩ := h.chan hc1 hd
    refine ⟨k.cid, e0 ▸ k.ep0, e1 ▸ k.ep1, e3 ▸ k.vis1, e0 ▸ k.ep_ne, k.nodef, by rw [e2, e0]; exact k.vis0, hlt k.epoch_lt,
      f0, k.fwd, hlt k.fwd_lt, k.fwd_ne, ?_⟩
    show cv.hops0 = route0 n'.cfg cv ++ [fwdHop f0]
    rw [hcfg, e4, k.hops0]; simp [route0, e0, e1]
  case hops1_q =>
    intro d cv dd hc hd hq
    have hdc' : d ≠ c := by
      intro hdc'; subst hdc'
      exact hq _ (List.mem_append_right _ (List.mem_singleton.mpr rfl)) rfl
    obtain ⟨cv1, hc1, _, _, _, _, _, e5⟩ := hcvx d cv hc
    rw [e5 hdc']
    show cv1.hops1 = route1 n'.cfg cv1 ++ [fwdHop dd.epoch]
    rw [hcfg]
    exact h.hops1_q d cv1 dd hc1 hd (fun e he => hq e (List.mem_append_left _ he))
  case hops1_a =>
    intro d cv e hc he hec
    show ∃ g, e.fwd = some g ∧ cv.hops1 = route1 n'.cfg cv ++ [fwdHop g]
    rw [hcfg]
    rcases List.mem_append.mp he with he | he
    · have hdc' : d ≠ c := by intro hdc'; rw [hdc'] at hec; exact hcnew e he hec
      obtain ⟨cv1, hc1, _, _, _, _, _, e5⟩ := hcvx d cv hc
      rw [e5 hdc']; exact h.hops1_a d cv1 e hc1 he hec
    · rw [List.mem_singleton] at he; subst he
      simp only [Option.some.injEq] at hec; subst hec
      rw [hcv, if_pos rfl] at hc; cases hc
      refine ⟨_, rfl, ?_⟩
      simp only [route1]
      rw [hq0, List.dropLast_concat]; rfl
  case d_acc =>
    intro d hd a1 va1 hva1 hvf1
    obtain ⟨hdlt, _⟩ := h.dial_lt d hd
    rcases sv_upd_cases2 hsv hva1 with ⟨rfl, rfl⟩ | ⟨ho, rfl, rfl⟩ | ⟨ho, hoa, hva1⟩
    · rw [← Option.some.inj hvf1] at hdlt; exact absurd hdlt (Nat.lt_irrefl _)
    · obtain ⟨r1, r2, _⟩ := h.d_acc d hd a1 va hva hvf1
      exact ⟨r1, r2, rfl⟩
    · exact h.d_acc d hd a1 va1 hva1 hvf1
  case idle =>
    intro o v hv hch
    rcases sv_upd_cases2 hsv hv with ⟨rfl, rfl⟩ | ⟨ho, rfl, rfl⟩ | ⟨ho, hoa, hv⟩
    · cases hch
    · exact h.idle o va hva hvch
    · exact h.idle o v hv hch
  case conn =>
    intro o v c' hv hch
    rcases sv_upd_cases2 hsv hv with ⟨rfl, rfl⟩ | ⟨ho, rfl, rfl⟩ | ⟨ho, hoa, hv⟩
    · simp only [Option.some.injEq] at hch; subst hch
      obtain ⟨cv, hcvn, _⟩ := hcvold c cv0 hcv0
      refine ⟨cv, s.dialLog[c], hcvn, hdc, Or.inr ⟨hdtg, rfl, _, List.mem_append_right _ (List.mem_singleton.mpr rfl), rfl, rfl, rfl⟩⟩
    · simp only at hch; rw [hvch] at hch; cases hch
    · obtain ⟨cv1, d, q1, q2, q3⟩ := h.conn o v c' hv hch
      obtain ⟨cv, hcvn, e0, _⟩ := hcvold c' cv1 q1
      refine ⟨cv, d, hcvn, q2, ?_⟩
      rcases q3 with ⟨r1, r2, r3⟩ | ⟨r1, r2, e, he, r3⟩
      · left; exact ⟨by rw [e0]; exact r1, r2, r3⟩
      · right; exact ⟨r1, r2, e, List.mem_append_left _ he, r3⟩
  case s_fwd =>
    intro o v f1 hv hf
    show f1 < n'.fwds.length ∧ n'.fwdTarget f1 = some o
    by_cases ho : o = op.peer
    · subst ho; rw [hsp] at hv; cases hv
      simp only [Option.some.injEq] at hf; subst hf
      exact ⟨by rw [hfw]; exact Nat.lt_succ_self _, by rw [hft, if_pos rfl]⟩
    · have hv1 : ∃ v1, s.net.sv o = some v1 ∧ v1.fwd = some f1 := by
        by_cases hoa : o = a
        · subst hoa; rw [hsa] at hv; cases hv; exact ⟨va, hva, hf⟩
        · rw [hso o hoa ho] at hv; exact ⟨v, hv, hf⟩
      obtain ⟨v1, hv1, hf1⟩ := hv1
      obtain ⟨q1, q2⟩ := h.s_fwd o v1 f1 hv1 hf1
      refine ⟨hlt q1, ?_⟩
      rw [hft, if_neg (Nat.ne_of_lt q1), if_neg ?_]; exact q2
      intro hvf'
      have := (h.s_fwd op.peer vp f1 hvp hvf').2
      rw [q2] at this; exact ho (Option.some.inj this)
  case f_own =>
    intro f1 o hfo
    rw [hft] at hfo
    split at hfo
    · rename_i hfL; cases hfo; exact ⟨_, hsp, by rw [hfL]⟩
    · split at hfo
      · cases hfo
      · rename_i hn1 hn2
        obtain ⟨v, q1, q2⟩ := h.f_own f1 o hfo
        by_cases ho : o = op.peer
        · subst ho; rw [hvp] at q1; cases q1; exact absurd q2 hn2
        · by_cases hoa : o = a
          · subst hoa; rw [hva] at q1; cases q1; exact ⟨_, hsa, q2⟩
          · exact ⟨v, by rw [hso o hoa ho]; exact q1, q2⟩
  case d_live =>
    intro d hd o v f1 hv hf hdf
    obtain ⟨_, _, f0, r1, r2, _⟩ := h.dial_lt d hd
    rw [hdf] at r1; cases r1
    rcases sv_upd_cases2 hsv hv with ⟨rfl, rfl⟩ | ⟨ho, rfl, rfl⟩ | ⟨ho, hoa, hv⟩
    · cases hf; exact absurd r2 (Nat.lt_irrefl _)
    · have := h.d_live d hd o va f1 hva hf hdf
      rw [hvch] at this; cases this
    · exact h.d_live d hd o v f1 hv hf hdf
  case o_fwd =>
    intro o v hv hop'
    rcases sv_upd_cases2 hsv hv with ⟨rfl, rfl⟩ | ⟨ho, rfl, rfl⟩ | ⟨ho, hoa, hv⟩
    · rfl
    · exact h.o_fwd o va hva hop'
    · exact h.o_fwd o v hv hop'
  case b_syn =>
    intro pk hpk hty
    rcases List.mem_append.mp hpk with hpk | hpk
    · obtain ⟨c', cv1, q1, q2, q3, q4⟩ := h.b_syn pk hpk hty
      have hcc : c' ≠ c := by intro hcc; subst hcc; exact q3 hcsyn'
      obtain ⟨cv, hcvn, _, _, _, e5⟩ := hcvold c' cv1 q2
      exact ⟨c', cv, q1, hcvn, q3, by rw [e5 hcc]; exact q4⟩
    · rcases hfwd pk hpk with hq | hq
      · rw [hq] at hty; cases hty
      · rw [hq.1] at hty; cases hty
  case b_syn1 =>
    refine pairwise_append_nonsyn h.b_syn1 (fun q hq hqt => ?_)
    rcases hfwd q hq with hq | hq
    · rw [hq] at hqt; cases hqt
    · rw [hq.1] at hqt; cases hqt
  case b_ack =>
    intro pk hpk hty
    rcases List.mem_append.mp hpk with hpk | hpk
    · obtain ⟨c', cv1, q1, q2, q3, e, he, q4⟩ := h.b_ack pk hpk hty
      obtain ⟨cv, hcvn, _, e4, _⟩ := hcvold c' cv1 q2
      exact ⟨c', cv, q1, hcvn, by rw [e4]; exact q3, e, List.mem_append_left _ he, q4⟩
    · rcases hfwd pk hpk with hq | hq
      · rw [hq] at hty; cases hty
      · obtain ⟨cv, hcvn, _, e4, _⟩ := hcvold c cv0 hcv0
        exact ⟨c, cv, hq.2.1, hcvn, by rw [e4]; exact hq.2.2, _, List.mem_append_right _ (List.mem_singleton.mpr rfl), rfl⟩
  case syn_lt =>
    intro x hx
    obtain ⟨r1, r2⟩ := h.syn_lt x hx
    exact ⟨by show x.2 < n'.chans.length; rw [hcl]; exact r1, hlt r2⟩
  case syn_nd => exact h.syn_nd
  case syn_ep => exact h.syn_ep
  case fifo =>
    intro a1 va1 ac1 f1 hva1 hac1 hvf1
    show synAtL s.synLog f1 = (accAtL (s.accLog ++ [_]) f1).filterMap (·.cid) ++ ac1.conns
    rw [accAtL_append]
    rcases sv_upd_cases2 hsv hva1 with ⟨rfl, rfl⟩ | ⟨ho, rfl, rfl⟩ | ⟨ho, hoa, hva1⟩
    · simp only at hac1; rw [hvpa] at hac1; cases hac1
    · simp only [Option.some.injEq] at hac1; subst hac1
      simp only at hvf1; rw [hvf] at hvf1; cases hvf1
      rw [accAtL_single_same ⟨a1, f, _, _, _, _, _, _⟩, hfifo]
      simp [List.filterMap_append]
    · have hne : f ≠ f1 := by
        intro hff; subst hff
        have h1 := (h.s_fwd a1 va1 f hva1 hvf1).2
        rw [hvt] at h1; exact hoa (Option.some.inj h1).symm
      rw [accAtL_single_other _ _ (by exact hne), List.append_nil]
      exact h.fifo a1 va1 ac1 f1 hva1 hac1 hvf1
  case fifo_all =>
    intro f1
    show ∃ dropped, synAtL s.synLog f1 = (accAtL (s.accLog ++ [_]) f1).filterMap (·.cid) ++ dropped
    rw [accAtL_append]
    by_cases hff : f = f1
    · subst hff
      refine ⟨rest, ?_⟩
      rw [accAtL_single_same ⟨a, f, _, _, _, _, _, _⟩, hfifo]
      simp [List.filterMap_append]
    · rw [accAtL_single_other _ _ (by exact hff), List.append_nil]
      exact h.fifo_all f1
  case a_log =>
    intro e he
    rcases List.mem_append.mp he with he | he
    · obtain ⟨op', c', g, d, k⟩ := h.acc he
      refine k.clause (hfw ▸ Nat.le_succ _) k.dial fun cv hc => ?_
      obtain ⟨cv1, hc1, _, _, e2, _⟩ := hcvx c' cv hc
      exact ⟨cv1, hc1, e2⟩
    · rw [List.mem_singleton] at he; subst he
      refine ⟨op, c, s.net.fwds.length, s.dialLog[c], rfl, rfl, rfl, Nat.ne_of_gt hfl,
        by rw [hfw]; exact Nat.lt_succ_self _, hlt hfl, rfl, rfl, hdc, hdep, hdls.symm, hdtg.symm, ?_⟩
      intro cv hc
      rw [hcv, if_pos rfl] at hc; cases hc
      exact hextra
  case pend =>
    intro a1 va1 ac1 op1 hva1 hac1 hop1
    rcases sv_upd_cases2 hsv hva1 with ⟨rfl, rfl⟩ | ⟨ho, rfl, rfl⟩ | ⟨ho, hoa, hva1⟩
    · simp only at hac1; rw [hvpa] at hac1; cases hac1
    · simp only [Option.some.injEq] at hac1; subst hac1
      cases hop1
    · obtain ⟨⟨vp1, hvp1, hvpa1⟩, r2, r3⟩ := h.pend a1 va1 ac1 op1 hva1 hac1 hop1
      refine ⟨?_, r2, ?_⟩
      · by_cases hp : op1.peer = op.peer
        · exact ⟨⟨true, va.bound, some s.net.fwds.length, some c, none, vp.acc⟩, by rw [hp]; exact hsp, hvpa⟩
        · have hpa1 : op1.peer ≠ a := by
            intro hh; rw [hh, hva] at hvp1; cases hvp1; rw [hac] at hvpa1; cases hvpa1
          exact ⟨vp1, by rw [hso _ hpa1 hp]; exact hvp1, hvpa1⟩
      · intro e he hea
        rcases List.mem_append.mp he with he | he
        · exact r3 e he hea
        · rw [List.mem_singleton] at he; subst he; exact absurd hea.symm hoa
  case ser_lt =>
    intro e he
    rcases List.mem_append.mp he with he | he
    · exact h.ser_lt e he
    · rw [List.mem_singleton] at he; subst he; exact Nat.sub_lt hcalls Nat.one_pos
  case ser_mono =>
    show (s.accLog ++ [_]).Pairwise _
    rw [List.pairwise_append]
    refine ⟨h.ser_mono, List.pairwise_singleton _ _, ?_⟩
    intro e he e' he' hea
    rw [List.mem_singleton] at he'; subst he'
    exact Nat.lt_sub_of_add_lt (hser e he hea)
  case peer_b =>
    intro e he op' c' v heo hec hv hch
    rcases List.mem_append.mp he with he | he
    · by_cases ho : op'.peer = op.peer
      · rw [ho, hsp] at hv; cases hv
        simp only [Option.some.injEq] at hch; subst hch
        exact absurd hec (hcnew e he)
      · have hpa' : op'.peer ≠ a := by
          intro hh; rw [hh, hsa] at hv; cases hv
          simp only at hch; rw [hvch] at hch; cases hch
        rw [hso _ hpa' ho] at hv; exact h.peer_b e he op' c' v heo hec hv hch
    · rw [List.mem_singleton] at he; subst he
      simp only [Option.some.injEq] at heo hec; subst heo; subst hec
      rw [hsp] at hv; cases hv
      exact ⟨rfl, rfl⟩
  case con_ok =>
    intro k hk
    obtain ⟨c', d, q1, q2, q3, q4⟩ := h.con_ok k hk
    refine ⟨c', d, q1, q2, q3, ?_⟩
    intro hke
    obtain ⟨e, he, q5⟩ := q4 hke
    exact ⟨e, List.mem_append_left _ he, q5⟩
  case con_nd => exact h.con_nd
  case con_pend =>
    intro o v c' hv hch hpe
    rcases sv_upd_cases2 hsv hv with ⟨rfl, rfl⟩ | ⟨ho, rfl, rfl⟩ | ⟨ho, hoa, hv⟩
    · cases hpe
    · simp only at hch; rw [hvch] at hch; cases hch
    · exact h.con_pend o v c' hv hch hpe
  case nat_lt => intro x hx; show x.1 < n'.chans.length; rw [hcl]; exact h.nat_lt x hx
  case np_pos => exact hnp
  case reg_nodef => intro e he; exact h.reg_nodef e (hregm e he)
  case acc_nd =>
    exact nodup_map_concat h.acc_nd (fun e he => hcnew e he)

theorem ep_ne_default {e : Ep} (h : e.isDefault = false) : e ≠ {} := by
  intro he; subst he; simp [Ep.isDefault] at h

/-- **A connect that finds an acceptor listening**: a new channel, a SYN, the dial record. The
    state is the old one with a channel appended and one socket set: registry and forwarders are
    the old ones by computation. -/
theorem HInv.dial {s : HS} (h : HInv s) (o a : String)
    (v va : SockV) (ac : AccState) (target : Ep) (f : Nat)
    (hv : s.net.sv o = some v) (hvacc : v.acc = none) (hch : v.chan = none) (hopn : v.isOpen = true)
    (hva : s.net.sv a = some va) (hac : va.acc = some ac) (hql : 0 < ac.queueLimit) (hvf : va.fwd = some f)
    (hlook : s.net.reg.tcp.lookup target = some a)
    (hh : Nat) (ch : Chan) (t : TcpSock) (syn : Pkt)
    (hchv : ch.hview =
      ⟨s.net.cfg.outRoute target.addr ++ s.net.cfg.netRoute v.bound.addr target.addr ++ s.net.incomingRoute v.bound v.fwd,
       s.net.cfg.outRoute v.bound.addr ++ s.net.cfg.netRoute v.bound.addr target.addr ++ s.net.incomingRoute target (some f),
       v.bound, target, v.bound, target⟩)
    (ht : t.hview = { v with chan := some s.net.chans.length, connectH := some hh })
    (hsyn : syn.ty = .syn ∧ syn.chan = some s.net.chans.length
              ∧ syn.hops = s.net.cfg.outRoute v.bound.addr ++ s.net.cfg.netRoute v.bound.addr target.addr ++ s.net.incomingRoute target (some f)) :
    HInv { s with net := ({ s.net with chans := s.net.chans ++ [ch] } : NetSt).setTcp o t, bag := s.bag ++ [syn],
                  dialLog := s.dialLog ++ [⟨s.net.chans.length, o, target, v.bound, v.fwd, a, f⟩] } := by
  -- the new state gets a name while its views are worked out; `subst` puts the term back
  generalize hn' : ({ s.net with chans := s.net.chans ++ [ch] } : NetSt).setTcp o t = n'
  have hsv : ∀ o', n'.sv o' = if o' = o then some { v with chan := some s.net.chans.length, connectH := some hh } else s.net.sv o' :=
    fun o' => by rw [← hn', sv_setTcp, ht]; rfl
  have hcv : ∀ d, n'.cv d = if d = s.net.chans.length then some ch.hview else s.net.cv d :=
    fun d => by rw [← hn', cv_setTcp, cv_append]
  have hcl : n'.chans.length = s.net.chans.length + 1 := by rw [← hn']; simp
  have hoa : o ≠ a := by
    intro hoa; subst hoa; rw [hva] at hv; cases hv; rw [hac] at hvacc; cases hvacc
  have hvb : va.bound = target := h.reg_own (target, a) (mem_of_lookup hlook) va ac hva hac
  have htd : target.isDefault = false := by rw [← hvb]; exact h.a_lis a va ac hva hac hql
  obtain ⟨hfal, hvt⟩ := h.s_fwd a va f hva hvf
  obtain ⟨f0, hf⟩ := Option.isSome_iff_exists.mp (h.o_fwd o v hv hopn)
  obtain ⟨hfl, hftg⟩ := h.s_fwd o v f0 hv hf
  have hf0 : f0 ≠ f := by
    intro h0; subst h0; rw [hvt] at hftg; exact hoa (Option.some.inj hftg).symm
  have hvba : v.bound ≠ target := by
    rcases h.bound_reg o v hv hch with hb | hb
    · rw [hb]; exact (ep_ne_default htd).symm
    · intro hbt; rw [hbt, hlook] at hb; exact hoa (Option.some.inj hb).symm
  have hso : ∀ o', o' ≠ o → n'.sv o' = s.net.sv o' := fun o' ho' => by rw [hsv, if_neg ho']
  have hso' : n'.sv o = some { v with chan := some s.net.chans.length, connectH := some hh } := by rw [hsv, if_pos rfl]
  have hcvold : ∀ d cv, s.net.cv d = some cv → n'.cv d = some cv := by
    intro d cv hd
    rw [hcv, if_neg (Nat.ne_of_lt (cv_lt hd))]; exact hd
  have hcvnew : ∀ d cv, n'.cv d = some cv → d ≠ s.net.chans.length → s.net.cv d = some cv := by
    intro d cv hd hne; rw [hcv, if_neg hne] at hd; exact hd
  have hdlen := h.dial_len
  have hdold : ∀ (d : Nat) (dd : Dial), d ≠ s.net.chans.length → (s.dialLog ++ [(⟨s.net.chans.length, o, target, v.bound, v.fwd, a, f⟩ : Dial)])[d]? = some dd →
      s.dialLog[d]? = some dd := by
    intro d dd hne hd
    have hd1 := (List.getElem?_eq_some_iff.mp hd).1
    rw [List.length_append, List.length_singleton, hdlen] at hd1
    rwa [List.getElem?_append_left (hdlen ▸ Nat.lt_of_le_of_ne (Nat.le_of_lt_succ hd1) hne)] at hd
  have hdkeep : ∀ (d : Nat) (dd : Dial), s.dialLog[d]? = some dd →
      (s.dialLog ++ [(⟨s.net.chans.length, o, target, v.bound, v.fwd, a, f⟩ : Dial)])[d]? = some dd := by
    intro d dd hd
    have : d < s.dialLog.length := (List.getElem?_eq_some_iff.mp hd).1
    rw [List.getElem?_append_left this]; exact hd
  have hnocid : ∀ e ∈ s.accLog, e.cid ≠ some s.net.chans.length := by
    intro e he hec
    exact Nat.lt_irrefl _ (h.acc_cid_lt e he _ hec)
  have hdnew : (s.dialLog ++ [(⟨s.net.chans.length, o, target, v.bound, v.fwd, a, f⟩ : Dial)])[s.net.chans.length]?
      = some ⟨s.net.chans.length, o, target, v.bound, v.fwd, a, f⟩ := by
    rw [← hdlen, List.getElem?_concat_length]
  subst hn'
  exact { h with
    a_chan := by
      intro a1 va1 ac1 hva1 hac1
      rcases sv_upd_cases hsv hva1 with ⟨rfl, rfl⟩ | ⟨ho, hva1⟩
      · simp only at hac1; rw [hvacc] at hac1; cases hac1
      · exact h.a_chan a1 va1 ac1 hva1 hac1
    a_closed := by
      intro a1 va1 ac1 hva1 hac1 hcl1
      rcases sv_upd_cases hsv hva1 with ⟨rfl, rfl⟩ | ⟨ho, hva1⟩
      · simp only at hac1; rw [hvacc] at hac1; cases hac1
      · exact h.a_closed a1 va1 ac1 hva1 hac1 hcl1
    a_lis := by
      intro a1 va1 ac1 hva1 hac1 hq1
      rcases sv_upd_cases hsv hva1 with ⟨rfl, rfl⟩ | ⟨ho, hva1⟩
      · simp only at hac1; rw [hvacc] at hac1; cases hac1
      · exact h.a_lis a1 va1 ac1 hva1 hac1 hq1
    reg_own := by
      intro e he v1 ac1 hv1 hac1
      by_cases ho : e.2 = o
      · rw [ho, hso'] at hv1; cases hv1; simp only at hac1; rw [hvacc] at hac1; cases hac1
      · rw [hso _ ho] at hv1; exact h.reg_own e he v1 ac1 hv1 hac1
    bound_reg := by
      intro o' v1 hv1 hch1
      rcases sv_upd_cases hsv hv1 with ⟨rfl, rfl⟩ | ⟨ho, hv1⟩
      · cases hch1
      · exact h.bound_reg o' v1 hv1 hch1
    dial_len := by
      show (s.dialLog ++ [_]).length = _; rw [hcl, List.length_append, hdlen]; rfl
    chan_ok := by
      intro d cv dd hc hd
      by_cases hdl : d = s.net.chans.length
      · subst hdl
        rw [hcv, if_pos rfl, hchv] at hc; cases hc
        cases hdnew.symm.trans hd
        refine ⟨rfl, rfl, rfl, rfl, hvba, htd, ?_, hfal, f0, hf, hfl, hf0, ?_⟩
        · simp only [natView]
          have : s.natLog.filter (fun x => x.1 == s.net.chans.length) = [] := by
            rw [List.filter_eq_nil_iff]
            intro x hx; simpa using Nat.ne_of_lt (h.nat_lt x hx)
          rw [this]; rfl
        · simp [route0, NetSt.incomingRoute, hf]
      · exact h.chan_ok d cv dd (hcvnew d cv hc hdl) (hdold d dd hdl hd)
    hops1_q := by
      intro d cv dd hc hd hq
      by_cases hdl : d = s.net.chans.length
      · subst hdl
        rw [hcv, if_pos rfl, hchv] at hc; cases hc
        cases hdnew.symm.trans hd
        simp [route1, NetSt.incomingRoute]
      · exact h.hops1_q d cv dd (hcvnew d cv hc hdl) (hdold d dd hdl hd) hq
    hops1_a := by
      intro d cv e hc he hec
      have hdl : d ≠ s.net.chans.length := by intro hdl; rw [hdl] at hec; exact hnocid e he hec
      exact h.hops1_a d cv e (hcvnew d cv hc hdl) he hec
    d_acc := by
      intro d hd a1 va1 hva1 hvf1
      have hva1' : ∃ v1, s.net.sv a1 = some v1 ∧ v1.fwd = va1.fwd ∧ v1.bound = va1.bound ∧ v1.acc = va1.acc := by
        by_cases ho : a1 = o
        · subst ho; rw [hso'] at hva1; cases hva1; exact ⟨v, hv, rfl, rfl, rfl⟩
        · rw [hso a1 ho] at hva1; exact ⟨va1, hva1, rfl, rfl, rfl⟩
      obtain ⟨v1, hv1, e1, e2, e3⟩ := hva1'
      rw [← e1] at hvf1; rw [← e2, ← e3]
      rcases List.mem_append.mp hd with hd1 | hd1
      · exact h.d_acc d hd1 a1 v1 hv1 hvf1
      · rw [List.mem_singleton] at hd1; subst hd1
        simp only at hvf1 ⊢
        have := (h.s_fwd a1 v1 f hv1 hvf1).2
        rw [hvt] at this
        have ha1 : a1 = a := (Option.some.inj this).symm
        subst ha1
        rw [hva] at hv1; cases hv1
        exact ⟨rfl, hvb, by rw [hac]; rfl⟩
    idle := by
      intro o' v1 hv1 hch1
      rcases sv_upd_cases hsv hv1 with ⟨rfl, rfl⟩ | ⟨ho, hv1⟩
      · cases hch1
      · exact h.idle o' v1 hv1 hch1
    conn := by
      intro o' v1 c hv1 hch1
      rcases sv_upd_cases hsv hv1 with ⟨rfl, rfl⟩ | ⟨ho, hv1⟩
      · simp only [Option.some.injEq] at hch1; subst hch1
        exact ⟨_, ⟨s.net.chans.length, o', target, v.bound, v.fwd, a, f⟩, by rw [hcv, if_pos rfl, hchv], hdnew,
          Or.inl ⟨rfl, rfl, rfl⟩⟩
      · obtain ⟨cv, d, q1, q2, q3⟩ := h.conn o' v1 c hv1 hch1
        exact ⟨cv, d, hcvold c cv q1, hdkeep c d q2, q3⟩
    s_fwd := by
      intro o' v1 f1 hv1 hf1
      rcases sv_upd_cases hsv hv1 with ⟨rfl, rfl⟩ | ⟨ho, hv1⟩
      · exact h.s_fwd o' v f1 hv hf1
      · exact h.s_fwd o' v1 f1 hv1 hf1
    f_own := by
      intro f1 o' hfo
      obtain ⟨v1, q1, q2⟩ := h.f_own f1 o' hfo
      by_cases ho : o' = o
      · subst ho; rw [hv] at q1; cases q1; exact ⟨_, hso', q2⟩
      · exact ⟨v1, by rw [hso o' ho]; exact q1, q2⟩
    d_live := by
      intro d hd o' v1 f1 hv1 hf1 hdf
      rcases List.mem_append.mp hd with hd1 | hd1
      · by_cases ho : o' = o
        · subst ho; rw [hso'] at hv1; cases hv1
          have := h.d_live d hd1 o' v f1 hv hf1 hdf
          rw [hch] at this; cases this
        · rw [hso o' ho] at hv1; exact h.d_live d hd1 o' v1 f1 hv1 hf1 hdf
      · rw [List.mem_singleton] at hd1; subst hd1
        simp only at hdf
        rw [hf] at hdf; cases hdf
        by_cases ho : o' = o
        · subst ho; rw [hso'] at hv1; cases hv1; rfl
        · rw [hso o' ho] at hv1
          have := (h.s_fwd o' v1 f0 hv1 hf1).2
          rw [hftg] at this; exact absurd (Option.some.inj this).symm ho
    o_fwd := by
      intro o' v1 hv1 hop1
      rcases sv_upd_cases hsv hv1 with ⟨rfl, rfl⟩ | ⟨ho, hv1⟩
      · exact h.o_fwd o' v hv hop1
      · exact h.o_fwd o' v1 hv1 hop1
    b_syn := by
      intro pk hpk hty
      rcases List.mem_append.mp hpk with hpk | hpk
      · obtain ⟨c, cv, q1, q2, q3, q4⟩ := h.b_syn pk hpk hty
        exact ⟨c, cv, q1, hcvold c cv q2, q3, q4⟩
      · rw [List.mem_singleton] at hpk; subst hpk
        refine ⟨_, _, hsyn.2.1, by rw [hcv, if_pos rfl], ?_, by rw [hchv]; exact hsyn.2.2⟩
        intro hin
        obtain ⟨x, hx, hx2⟩ := List.mem_map.mp hin
        have := (h.syn_lt x hx).1; rw [hx2] at this; exact Nat.lt_irrefl _ this
    b_syn1 := by
      show (s.bag ++ [syn]).Pairwise _
      rw [List.pairwise_append]
      refine ⟨h.b_syn1, List.pairwise_singleton _ _, ?_⟩
      intro p hp q hq hpt _
      rw [List.mem_singleton] at hq; subst hq
      obtain ⟨c, cv, q1, q2, _, _⟩ := h.b_syn p hp hpt
      rw [q1, hsyn.2.1]
      have := cv_lt q2
      intro hcc; cases hcc; exact Nat.lt_irrefl _ this
    b_ack := by
      intro pk hpk hty
      rcases List.mem_append.mp hpk with hpk | hpk
      · obtain ⟨c, cv, q1, q2, q3, q4⟩ := h.b_ack pk hpk hty
        exact ⟨c, cv, q1, hcvold c cv q2, q3, q4⟩
      · rw [List.mem_singleton] at hpk; subst hpk
        rw [hsyn.1] at hty; cases hty
    syn_lt := fun x hx => ⟨hcl ▸ Nat.lt_succ_of_lt (h.syn_lt x hx).1, (h.syn_lt x hx).2⟩
    syn_ep := fun x hx d hd => h.syn_ep x hx d (hdold x.2 d (Nat.ne_of_lt (h.syn_lt x hx).1) hd)
    fifo := by
      intro a1 va1 ac1 f1 hva1 hac1 hvf1
      rcases sv_upd_cases hsv hva1 with ⟨rfl, rfl⟩ | ⟨ho, hva1⟩
      · simp only at hac1; rw [hvacc] at hac1; cases hac1
      · exact h.fifo a1 va1 ac1 f1 hva1 hac1 hvf1
    a_log := by
      intro e he
      obtain ⟨op, c, g, d, k⟩ := h.acc he
      exact k.clause (Nat.le_refl _) (hdkeep c d k.dial) fun cv hc =>
        ⟨cv, hcvnew c cv hc fun hcc => hnocid e he (hcc ▸ k.cid_eq), rfl⟩
    pend := by
      intro a1 va1 ac1 op hva1 hac1 hop
      rcases sv_upd_cases hsv hva1 with ⟨rfl, rfl⟩ | ⟨ho, hva1⟩
      · simp only at hac1; rw [hvacc] at hac1; cases hac1
      · obtain ⟨⟨vp, hvp, hvpa⟩, r2, r3⟩ := h.pend a1 va1 ac1 op hva1 hac1 hop
        refine ⟨?_, r2, r3⟩
        by_cases hp : op.peer = o
        · exact ⟨{ v with chan := some s.net.chans.length, connectH := some hh }, by rw [hp]; exact hso', hvacc⟩
        · exact ⟨vp, by rw [hso _ hp]; exact hvp, hvpa⟩
    peer_b := by
      intro e he op c v1 heo hec hv1 hch1
      by_cases ho : op.peer = o
      · rw [ho, hso'] at hv1; cases hv1
        simp only [Option.some.injEq] at hch1; subst hch1
        exact absurd hec (hnocid e he)
      · rw [hso _ ho] at hv1; exact h.peer_b e he op c v1 heo hec hv1 hch1
    con_ok := by
      intro k hk
      obtain ⟨c, d, q1, q2, q3, q4⟩ := h.con_ok k hk
      exact ⟨c, d, q1, hdkeep c d q2, q3, q4⟩
    con_pend := by
      intro o' v1 c hv1 hch1 hpe k hk
      rcases sv_upd_cases hsv hv1 with ⟨rfl, rfl⟩ | ⟨ho, hv1⟩
      · simp only [Option.some.injEq] at hch1; subst hch1
        obtain ⟨c', d, q1, q2, _⟩ := h.con_ok k hk
        have : c' < s.dialLog.length := (List.getElem?_eq_some_iff.mp q2).1
        rw [q1]; intro hcc; cases hcc; exact Nat.lt_irrefl _ (hdlen ▸ this)
      · exact h.con_pend o' v1 c hv1 hch1 hpe k hk
    nat_lt := fun x hx => hcl ▸ Nat.lt_succ_of_lt (h.nat_lt x hx) }

/-- a NAT hop rewrote the source of a packet in flight -/
theorem HInv.bagSet {s : HS} (h : HInv s) (i : Nat) (pk pk' : Pkt)
    (hi : s.bag[i]? = some pk) (hty : pk'.ty = pk.ty) (hch : pk'.chan = pk.chan) (hh : pk'.hops = pk.hops) :
    HInv { s with bag := s.bag.set i pk' } := by
  have hmem : ∀ q ∈ s.bag.set i pk', q ∈ s.bag ∨ q = pk' := by
    intro q hq
    rcases List.mem_or_eq_of_mem_set hq with h1 | h1
    · exact Or.inl h1
    · exact Or.inr h1
  have hpk : pk ∈ s.bag := List.mem_of_getElem? hi
  have hkey : (s.bag.set i pk').map (fun p => (p.ty, p.chan)) = s.bag.map (fun p => (p.ty, p.chan)) := by
    rw [List.map_set]
    have hi' := List.getElem?_eq_some_iff.mp hi
    obtain ⟨hlt, hget⟩ := hi'
    apply List.ext_getElem?
    intro j
    rw [List.getElem?_set]
    split
    · rename_i hij; subst hij
      simp only [List.length_map, hlt, if_true, List.getElem?_map, hi, Option.map_some, hty, hch]
    · rfl
  exact { h with
    b_syn := by
      intro q hq hqt
      rcases hmem q hq with h1 | h1
      · exact h.b_syn q h1 hqt
      · subst h1; rw [hty] at hqt; rw [hch, hh]; exact h.b_syn pk hpk hqt
    b_syn1 := by
      have := h.b_syn1
      have e1 : ∀ l : List Pkt, l.Pairwise (fun p q => p.ty = .syn → q.ty = .syn → p.chan ≠ q.chan)
          ↔ (l.map (fun p => (p.ty, p.chan))).Pairwise (fun k1 k2 => k1.1 = PType.syn → k2.1 = PType.syn → k1.2 ≠ k2.2) := by
        intro l; rw [List.pairwise_map]
      show (s.bag.set i pk').Pairwise _
      rw [e1, hkey, ← e1]; exact this
    b_ack := by
      intro q hq hqt
      rcases hmem q hq with h1 | h1
      · exact h.b_ack q h1 hqt
      · subst h1; rw [hty] at hqt; rw [hch, hh]; exact h.b_ack pk hpk hqt }

theorem natView_append_same (log : List (Nat × String)) (c : Nat) (ext : String) (e : Ep) :
    natView (log ++ [(c, ext)]) c e = { e with addr := ext } := by
  simp [natView, List.filter_append]

theorem natView_append_other (log : List (Nat × String)) (c d : Nat) (ext : String) (e : Ep) (h : d ≠ c) :
    natView (log ++ [(c, ext)]) d e = natView log d e := by
  have : ((c == d) = false) := by simp [Ne.symm h]
  simp [natView, List.filter_append, this]

theorem natView_eq (log : List (Nat × String)) (c : Nat) (e : Ep) :
    natView log c e = { e with addr := (((log.filter (fun x => x.1 == c)).getLast?).map (·.2)).getD e.addr } := by
  unfold natView
  cases (log.filter (fun x => x.1 == c)).getLast? <;> rfl

theorem natView_port (log : List (Nat × String)) (c : Nat) (e : Ep) : (natView log c e).port = e.port := by
  unfold natView; split <;> rfl

/-- the SYN of channel `c`, still in flight, crosses a NAT hop: side 0's visible address is
    rewritten. `setChan` leaves sockets, registry and forwarders alone by computation: only the
    clauses that read channels or the NAT log are proved. -/
theorem HInv.visRw {s : HS} (h : HInv s) (c : Nat) (ext : String) (ch : Chan)
    (hch : s.net.chan? c = some ch) (hcs : c ∉ s.synLog.map (·.2)) :
    HInv { s with net := s.net.setChan c { ch with vis0 := { ch.vis0 with addr := ext } },
                  natLog := s.natLog ++ [(c, ext)] } := by
  have hc0 : s.net.cv c = some ch.hview := by rw [NetSt.cv, hch]; rfl
  have hcv : ∀ d, (s.net.setChan c { ch with vis0 := { ch.vis0 with addr := ext } }).cv d
      = if d = c then some { ch.hview with vis0 := { ch.vis0 with addr := ext } } else s.net.cv d := by
    intro d; rw [cv_setChan]; split
    · rename_i hd; rw [hd, hc0]; rfl
    · rfl
  have hcvx : ∀ d cv, (s.net.setChan c { ch with vis0 := { ch.vis0 with addr := ext } }).cv d = some cv →
      ∃ cv1, s.net.cv d = some cv1 ∧ cv.ep0 = cv1.ep0 ∧ cv.ep1 = cv1.ep1
      ∧ cv.vis1 = cv1.vis1 ∧ cv.hops0 = cv1.hops0 ∧ cv.hops1 = cv1.hops1 ∧ (d ≠ c → cv = cv1)
      ∧ (d = c → cv.vis0 = { cv1.vis0 with addr := ext }) := by
    intro d cv hd
    rw [hcv] at hd
    split at hd
    · rename_i hdc; subst hdc; cases hd
      exact ⟨_, hc0, rfl, rfl, rfl, rfl, rfl, fun hn => absurd rfl hn, fun _ => rfl⟩
    · rename_i hdc
      exact ⟨cv, hd, rfl, rfl, rfl, rfl, rfl, fun _ => rfl, fun hh => absurd hh hdc⟩
  have hcvold : ∀ d cv1, s.net.cv d = some cv1 →
      ∃ cv, (s.net.setChan c { ch with vis0 := { ch.vis0 with addr := ext } }).cv d = some cv
      ∧ cv.ep0 = cv1.ep0 ∧ cv.hops0 = cv1.hops0 ∧ cv.hops1 = cv1.hops1 ∧ (d ≠ c → cv = cv1) := by
    intro d cv1 hd
    rw [hcv]
    split
    · rename_i hdc; subst hdc; rw [hc0] at hd; cases hd
      exact ⟨_, rfl, rfl, rfl, rfl, fun hn => absurd rfl hn⟩
    · exact ⟨cv1, hd, rfl, rfl, rfl, fun _ => rfl⟩
  have hnotacc : ∀ e ∈ s.accLog, e.cid ≠ some c := h.not_acc_of_not_syn c hcs
  have hcl := setChan_length s.net c { ch with vis0 := { ch.vis0 with addr := ext } }
  exact { h with
    dial_len := h.dial_len.trans hcl.symm
    chan_ok := by
      intro d cv dd hc hd
      obtain ⟨cv1, hc1, e0, e1, e3, e4, _, e6, e7⟩ := hcvx d cv hc
      obtain ⟨f0, k⟩ := h.chan hc1 hd
      refine ⟨k.cid, e0 ▸ k.ep0, e1 ▸ k.ep1, e3 ▸ k.vis1, e0 ▸ k.ep_ne, k.nodef, ?_, k.epoch_lt, f0, k.fwd, k.fwd_lt,
        k.fwd_ne, ?_⟩
      · show cv.vis0 = natView (s.natLog ++ [(c, ext)]) d cv.ep0
        by_cases hdc : d = c
        · subst hdc
          rw [natView_append_same, e7 rfl, k.vis0, e0, natView_eq]
        · rw [natView_append_other _ _ _ _ _ hdc, e6 hdc]; exact k.vis0
      · show cv.hops0 = route0 s.net.cfg cv ++ [fwdHop f0]
        rw [e4, k.hops0]; simp [route0, e0, e1]
    hops1_q := by
      intro d cv dd hc hd hq
      obtain ⟨cv1, hc1, e0, e1, _, _, e5, _⟩ := hcvx d cv hc
      show cv.hops1 = route1 s.net.cfg cv ++ [fwdHop dd.epoch]
      rw [e5, h.hops1_q d cv1 dd hc1 hd hq]; simp [route1, e0, e1]
    hops1_a := by
      intro d cv e hc he hec
      obtain ⟨cv1, hc1, e0, e1, _, _, e5, _⟩ := hcvx d cv hc
      obtain ⟨g, q1, q2⟩ := h.hops1_a d cv1 e hc1 he hec
      refine ⟨g, q1, ?_⟩
      show cv.hops1 = route1 s.net.cfg cv ++ [fwdHop g]
      rw [e5, q2]; simp [route1, e0, e1]
    conn := by
      intro o v c' hv hch'
      obtain ⟨cv1, d, q1, q2, q3⟩ := h.conn o v c' hv hch'
      obtain ⟨cv, hcvn, e0, _⟩ := hcvold c' cv1 q1
      refine ⟨cv, d, hcvn, q2, ?_⟩
      rcases q3 with ⟨r1, r2, r3⟩ | r
      · left; exact ⟨by rw [e0]; exact r1, r2, r3⟩
      · right; exact r
    b_syn := by
      intro pk hpk hty
      obtain ⟨c', cv1, q1, q2, q3, q4⟩ := h.b_syn pk hpk hty
      obtain ⟨cv, hcvn, _, _, e5, _⟩ := hcvold c' cv1 q2
      exact ⟨c', cv, q1, hcvn, q3, by rw [e5]; exact q4⟩
    b_ack := by
      intro pk hpk hty
      obtain ⟨c', cv1, q1, q2, q3, q4⟩ := h.b_ack pk hpk hty
      obtain ⟨cv, hcvn, _, e4, _⟩ := hcvold c' cv1 q2
      exact ⟨c', cv, q1, hcvn, by rw [e4]; exact q3, q4⟩
    syn_lt := fun x hx => ⟨hcl ▸ (h.syn_lt x hx).1, (h.syn_lt x hx).2⟩
    a_log := by
      intro e he
      obtain ⟨op, c', g, d, k⟩ := h.acc he
      refine k.clause (Nat.le_refl _) k.dial fun cv hc => ?_
      obtain ⟨cv1, hc1, _, _, _, _, _, e6, _⟩ := hcvx c' cv hc
      exact ⟨cv1, hc1, by rw [e6 fun hcc => hnotacc e he (hcc ▸ k.cid_eq)]⟩
    nat_lt := by
      intro x hx
      show x.1 < (s.net.setChan c _).chans.length
      rw [hcl]
      rcases List.mem_append.mp hx with hx | hx
      · exact h.nat_lt x hx
      · rw [List.mem_singleton] at hx; subst hx; exact cv_lt hc0 }

end Hs
end SimVerif
