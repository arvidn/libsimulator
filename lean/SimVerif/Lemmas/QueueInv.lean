/-
  SimVerif.Lemmas.QueueInv — projection lemmas for the queue mechanism (SimVerif/Queue.lean),
  the open system `QS` (SimVerif/QueueSys.lean), and the invariant `QInv` that holds after
  every well-timed history (`QS.okRun`) when the re-entry guard is present.
-/
import SimVerif.QueueSys

namespace SimVerif

theorem omax_ge (a : Option Int) (b : Int) : b ≤ omax a b := by
  unfold omax; split
  · omega
  · split <;> omega

theorem omax_some (x b : Int) : omax (some x) b = max x b := by
  unfold omax; dsimp only; split <;> omega

theorem omax_of_le (a : Option Int) (b : Int) (h : ∀ d, a = some d → d ≤ b) : omax a b = b := by
  unfold omax; split
  · rfl
  · rename_i x; have := h x rfl; simp [this]

theorem length_filter_split {α : Type} (p : α → Bool) (l : List α) :
    l.length = (l.filter (fun a => !p a)).length + (l.filter p).length := by
  induction l with
  | nil => rfl
  | cons a l ih =>
    cases hp : p a <;> simp [hp] <;> omega

/-- `prev` fields are linked to the departure of the entry before. -/
def Linked : Option Int → List Fwd → Prop
  | _, [] => True
  | o, f :: l => f.prev = o ∧ Linked (some f.dep) l

theorem Linked_append (o : Option Int) (l : List Fwd) (f : Fwd) (hl : Linked o l)
    (hf : f.prev = (l.getLast?.map Fwd.dep).or o) : Linked o (l ++ [f]) := by
  induction l generalizing o with
  | nil => simpa [Linked] using hf
  | cons a l ih =>
    refine ⟨hl.1, ih _ hl.2 ?_⟩
    rw [hf]
    cases l with
    | nil => rfl
    | cons b l => rw [List.getLast?_cons_cons, List.getLast?_cons]; rfl

theorem Linked_take (o : Option Int) (l : List Fwd) (hl : Linked o l) :
    l.map Fwd.prev = (o :: l.map (fun f => some f.dep)).take l.length := by
  induction l generalizing o with
  | nil => rfl
  | cons a l ih =>
    simp only [List.map_cons, List.length_cons, List.take_succ_cons]
    rw [hl.1, ih _ hl.2]

theorem Linked_adjacent (o : Option Int) (A B : List Fwd) (f₁ f₂ : Fwd)
    (hl : Linked o (A ++ f₁ :: f₂ :: B)) : f₂.prev = some f₁.dep := by
  induction A generalizing o with
  | nil => exact hl.2.1
  | cons a A ih => exact ih _ hl.2

theorem applyEff_frame (s : QS) (l : List QEff) :
    (s.applyEff l).q = s.q ∧ (s.applyEff l).now = s.now ∧ (s.applyEff l).arrLog = s.arrLog
    ∧ (s.applyEff l).fwdLog = s.fwdLog
    ∧ ((∀ x, QEff.dropCb x ∉ l) → (s.applyEff l).dropLog = s.dropLog) := by
  induction l generalizing s with
  | nil => simp [QS.applyEff]
  | cons e l ih =>
    cases e with
    | arm e cb => unfold QS.applyEff; dsimp only; split <;> simpa using ih _
    | post cb => unfold QS.applyEff; simpa using ih _
    | dropCb p =>
      unfold QS.applyEff; simp only [ih, true_and]
      exact fun h => absurd List.mem_cons_self (h p)

@[simp] theorem applyEff_q (s : QS) (l : List QEff) : (s.applyEff l).q = s.q :=
  (applyEff_frame s l).1
@[simp] theorem applyEff_now (s : QS) (l : List QEff) : (s.applyEff l).now = s.now :=
  (applyEff_frame s l).2.1
@[simp] theorem applyEff_arrLog (s : QS) (l : List QEff) : (s.applyEff l).arrLog = s.arrLog :=
  (applyEff_frame s l).2.2.1
@[simp] theorem applyEff_fwdLog (s : QS) (l : List QEff) : (s.applyEff l).fwdLog = s.fwdLog :=
  (applyEff_frame s l).2.2.2.1

theorem applyEff_prevDep (s : QS) (l : List QEff) : (s.applyEff l).prevDep = s.prevDep := by
  simp [QS.prevDep]

theorem applyEff_dropLog_nodrop (s : QS) (l : List QEff) (h : ∀ x, QEff.dropCb x ∉ l) :
    (s.applyEff l).dropLog = s.dropLog :=
  (applyEff_frame s l).2.2.2.2 h

theorem applyEff_nil (s : QS) : s.applyEff [] = s := rfl

theorem applyEff_drop1 (s : QS) (p : Pkt) :
    s.applyEff [.dropCb p] = { s with dropLog := s.dropLog ++ [(s.now, p)] } := rfl

theorem applyEff_post1 (s : QS) (cb : Cb) :
    s.applyEff [.post cb] = { s with posted := s.posted ++ [cb] } := rfl

theorem applyEff_arm1 (s : QS) (e : Int) (cb : Cb) (h : s.timer = none) :
    s.applyEff [.arm e cb] = { s with timer := some (e, cb) } := by
  simp [QS.applyEff, h]

/-- what the unreachable arm would do -/
theorem beginSend_nil (c : QCfg) (now : Int) (q : Q) (h : q.items = []) :
    q.beginSend c now = (q, []) := by
  unfold Q.beginSend; rw [h]

theorem beginSend_cases (c : QCfg) (now : Int) (q : Q) (ts : Int) (p : Pkt) (rest : List (Int × Pkt))
    (h : q.items = (ts, p) :: rest) :
    (now < ts ∧ q.beginSend c now = (q, [.arm ts .begin]))
    ∨ (ts ≤ now ∧ c.bw = 0 ∧ q.beginSend c now = ({ q with lastForward := now }, [.post .sent]))
    ∨ (ts ≤ now ∧ c.bw ≠ 0 ∧ q.beginSend c now
          = ({ q with lastForward := now + c.ser p.size }, [.arm (now + c.ser p.size) .sent])) := by
  unfold Q.beginSend; rw [h]; dsimp only
  by_cases h1 : now < ts
  · left; simp [h1]
  · right
    by_cases h2 : c.bw = 0
    · left; simp [h1, h2]; omega
    · right; simp [h1, h2]; omega

theorem beginSend_shape (c : QCfg) (now : Int) (q : Q) :
    (∃ lf, (q.beginSend c now).1 = { q with lastForward := lf })
    ∧ ∀ x, QEff.dropCb x ∉ (q.beginSend c now).2 := by
  unfold Q.beginSend; split
  · exact ⟨⟨_, rfl⟩, by simp⟩
  · dsimp only; split
    · exact ⟨⟨_, rfl⟩, by simp⟩
    · split <;> exact ⟨⟨_, rfl⟩, by simp⟩

theorem beginSend_items (c : QCfg) (now : Int) (q : Q) : (q.beginSend c now).1.items = q.items := by
  obtain ⟨_, h⟩ := (beginSend_shape c now q).1; rw [h]

theorem beginSend_held (c : QCfg) (now : Int) (q : Q) : (q.beginSend c now).1.held = q.held := by
  obtain ⟨_, h⟩ := (beginSend_shape c now q).1; rw [h]

theorem beginSend_forwarding (c : QCfg) (now : Int) (q : Q) :
    (q.beginSend c now).1.forwarding = q.forwarding := by
  obtain ⟨_, h⟩ := (beginSend_shape c now q).1; rw [h]

theorem beginSend_nodrop (c : QCfg) (now : Int) (q : Q) (x : Pkt) :
    QEff.dropCb x ∉ (q.beginSend c now).2 := (beginSend_shape c now q).2 x

def TailDrop (c : QCfg) (held : Int) (p : Pkt) : Prop :=
  p.okToDrop = true ∧ 0 < c.cap ∧ (c.cap : Int) < held + p.size

instance (c : QCfg) (held : Int) (p : Pkt) : Decidable (TailDrop c held p) :=
  inferInstanceAs (Decidable (p.okToDrop = true ∧ 0 < c.cap ∧ (c.cap : Int) < held + p.size))

/-- the test as `incoming_packet` (and the ghost flag of `QS.doArrive`) spells it -/
theorem tailDrop_test (c : QCfg) (held : Int) (p : Pkt) :
    (p.okToDrop && decide (0 < c.cap) && decide ((c.cap : Int) < held + p.size))
      = decide (TailDrop c held p) := by
  rw [Bool.eq_iff_iff, decide_eq_true_iff]; simp [TailDrop, and_assoc]

theorem incoming_of_drops (c : QCfg) (now : Int) (q : Q) (p : Pkt) (h : TailDrop c q.held p) :
    q.incoming c now p = (q, if p.hasDrop then [.dropCb p] else []) := by
  unfold Q.incoming; rw [tailDrop_test, if_pos (decide_eq_true h)]

theorem incoming_of_not_drops (c : QCfg) (now : Int) (q : Q) (p : Pkt) (h : ¬ TailDrop c q.held p) :
    q.incoming c now p =
      if 1 < (q.items ++ [(now + c.lat, p)]).length || (c.reentryGuard && q.forwarding) then
        ({ q with items := q.items ++ [(now + c.lat, p)], held := q.held + p.size }, [])
      else
        ({ q with items := q.items ++ [(now + c.lat, p)], held := q.held + p.size } : Q).beginSend c now := by
  unfold Q.incoming; rw [tailDrop_test, if_neg (by simpa using h)]

theorem incoming_fst (c : QCfg) (now : Int) (q : Q) (p : Pkt) :
    ∃ lf, (q.incoming c now p).1 = if TailDrop c q.held p then q else
      { q with items := q.items ++ [(now + c.lat, p)], held := q.held + p.size, lastForward := lf } := by
  by_cases h : TailDrop c q.held p
  · exact ⟨0, by rw [if_pos h, incoming_of_drops _ _ _ _ h]⟩
  · simp only [if_neg h]; rw [incoming_of_not_drops _ _ _ _ h]; split
    · exact ⟨q.lastForward, rfl⟩
    · exact (beginSend_shape c now _).1

theorem incoming_items (c : QCfg) (now : Int) (q : Q) (p : Pkt) :
    (q.incoming c now p).1.items
      = if TailDrop c q.held p then q.items else q.items ++ [(now + c.lat, p)] := by
  obtain ⟨_, e⟩ := incoming_fst c now q p; rw [e]; split <;> rfl

theorem incoming_held (c : QCfg) (now : Int) (q : Q) (p : Pkt) :
    (q.incoming c now p).1.held = if TailDrop c q.held p then q.held else q.held + p.size := by
  obtain ⟨_, e⟩ := incoming_fst c now q p; rw [e]; split <;> rfl

theorem incoming_forwarding (c : QCfg) (now : Int) (q : Q) (p : Pkt) :
    (q.incoming c now p).1.forwarding = q.forwarding := by
  obtain ⟨_, e⟩ := incoming_fst c now q p; rw [e]; split <;> rfl

theorem incoming_nodrop (c : QCfg) (now : Int) (q : Q) (p : Pkt) (h : ¬ TailDrop c q.held p) (x : Pkt) :
    QEff.dropCb x ∉ (q.incoming c now p).2 := by
  rw [incoming_of_not_drops _ _ _ _ h]; split
  · simp
  · exact beginSend_nodrop _ _ _ _

@[simp] theorem doArrive_q (c : QCfg) (s : QS) (p : Pkt) :
    (s.doArrive c p).q = (s.q.incoming c s.now p).1 := by simp [QS.doArrive]
@[simp] theorem doArrive_now (c : QCfg) (s : QS) (p : Pkt) : (s.doArrive c p).now = s.now := by
  simp [QS.doArrive]
@[simp] theorem doArrive_fwdLog (c : QCfg) (s : QS) (p : Pkt) :
    (s.doArrive c p).fwdLog = s.fwdLog := by simp [QS.doArrive]
@[simp] theorem doArrive_prevDep (c : QCfg) (s : QS) (p : Pkt) :
    (s.doArrive c p).prevDep = s.prevDep := by simp [QS.prevDep]
theorem doArrive_arrLog (c : QCfg) (s : QS) (p : Pkt) :
    (s.doArrive c p).arrLog = s.arrLog ++ [(s.now, p, decide (TailDrop c s.q.held p))] := by
  simp [QS.doArrive, tailDrop_test]

theorem doArrive_items (c : QCfg) (s : QS) (p : Pkt) :
    (s.doArrive c p).q.items
      = if TailDrop c s.q.held p then s.q.items else s.q.items ++ [(s.now + c.lat, p)] := by
  rw [doArrive_q, incoming_items]

theorem doArrive_held (c : QCfg) (s : QS) (p : Pkt) :
    (s.doArrive c p).q.held = if TailDrop c s.q.held p then s.q.held else s.q.held + p.size := by
  rw [doArrive_q, incoming_held]

theorem doArrive_forwarding (c : QCfg) (s : QS) (p : Pkt) :
    (s.doArrive c p).q.forwarding = s.q.forwarding := by
  rw [doArrive_q, incoming_forwarding]

theorem doArrive_dropLog (c : QCfg) (s : QS) (p : Pkt) :
    (s.doArrive c p).dropLog
      = if TailDrop c s.q.held p ∧ p.hasDrop = true then s.dropLog ++ [(s.now, p)] else s.dropLog := by
  unfold QS.doArrive; dsimp only
  by_cases h : TailDrop c s.q.held p
  · rw [incoming_of_drops _ _ _ _ h]
    cases hd : p.hasDrop <;> simp [QS.applyEff, h]
  · rw [applyEff_dropLog_nodrop _ _ (incoming_nodrop _ _ _ _ h), if_neg (fun hh => h hh.1)]

/-- `begin_send_next_packet` called at the state's own clock, effects applied -/
def QS.kick (c : QCfg) (s : QS) : QS :=
  ({ s with q := (s.q.beginSend c s.now).1 }).applyEff (s.q.beginSend c s.now).2

theorem doArrive_quiet (c : QCfg) (s : QS) (p : Pkt)
    (h : TailDrop c s.q.held p ∨ s.q.items ≠ [] ∨ (c.reentryGuard = true ∧ s.q.forwarding = true)) :
    (s.doArrive c p).timer = s.timer ∧ (s.doArrive c p).posted = s.posted := by
  unfold QS.doArrive; dsimp only
  by_cases hd : TailDrop c s.q.held p
  · rw [incoming_of_drops _ _ _ _ hd]
    cases p.hasDrop <;> simp [QS.applyEff]
  · rw [incoming_of_not_drops _ _ _ _ hd]
    have : (1 < (s.q.items ++ [(s.now + c.lat, p)]).length || (c.reentryGuard && s.q.forwarding)) = true := by
      rcases h with h | h | h
      · exact absurd h hd
      · cases hi : s.q.items with
        | nil => exact absurd hi h
        | cons a l => simp
      · simp [h.1, h.2]
    rw [if_pos this]; simp [QS.applyEff]

theorem doArrive_kick (c : QCfg) (s : QS) (p : Pkt) (hd : ¬ TailDrop c s.q.held p)
    (hi : s.q.items = []) (hf : s.q.forwarding = false) :
    s.doArrive c p = QS.kick c { s with
      q := { s.q with items := [(s.now + c.lat, p)], held := s.q.held + p.size },
      arrLog := s.arrLog ++ [(s.now, p, false)] } := by
  unfold QS.doArrive QS.kick; dsimp only
  rw [incoming_of_not_drops _ _ _ _ hd]
  simp [hi, hf, tailDrop_test, hd]

@[simp] theorem kick_items (c : QCfg) (s : QS) : (QS.kick c s).q.items = s.q.items := by
  simp [QS.kick, beginSend_items]
@[simp] theorem kick_held (c : QCfg) (s : QS) : (QS.kick c s).q.held = s.q.held := by
  simp [QS.kick, beginSend_held]
@[simp] theorem kick_forwarding (c : QCfg) (s : QS) : (QS.kick c s).q.forwarding = s.q.forwarding := by
  simp [QS.kick, beginSend_forwarding]
@[simp] theorem kick_now (c : QCfg) (s : QS) : (QS.kick c s).now = s.now := by simp [QS.kick]
@[simp] theorem kick_arrLog (c : QCfg) (s : QS) : (QS.kick c s).arrLog = s.arrLog := by simp [QS.kick]
@[simp] theorem kick_fwdLog (c : QCfg) (s : QS) : (QS.kick c s).fwdLog = s.fwdLog := by simp [QS.kick]
@[simp] theorem kick_dropLog (c : QCfg) (s : QS) : (QS.kick c s).dropLog = s.dropLog := by
  unfold QS.kick; rw [applyEff_dropLog_nodrop _ _ (beginSend_nodrop _ _ _)]

theorem kick_cases (c : QCfg) (s : QS) (ts : Int) (p : Pkt) (rest : List (Int × Pkt))
    (hti : s.timer = none) (h : s.q.items = (ts, p) :: rest) :
    (s.now < ts ∧ QS.kick c s = { s with timer := some (ts, .begin) })
    ∨ (ts ≤ s.now ∧ c.bw = 0 ∧ QS.kick c s =
          { s with q := { s.q with lastForward := s.now }, posted := s.posted ++ [.sent] })
    ∨ (ts ≤ s.now ∧ c.bw ≠ 0 ∧ QS.kick c s =
          { s with q := { s.q with lastForward := s.now + c.ser p.size },
                   timer := some (s.now + c.ser p.size, .sent) }) := by
  rcases beginSend_cases c s.now s.q ts p rest h with ⟨h1, he⟩ | ⟨h1, h2, he⟩ | ⟨h1, h2, he⟩
  · left; refine ⟨h1, ?_⟩; unfold QS.kick; rw [he]; simp [QS.applyEff, hti]
  · right; left; refine ⟨h1, h2, ?_⟩; unfold QS.kick; rw [he]; simp [QS.applyEff]
  · right; right; refine ⟨h1, h2, ?_⟩; unfold QS.kick; rw [he]; simp [QS.applyEff, hti]

/-- log/accounting part: independent of the callback state -/
structure QData (c : QCfg) (s : QS) : Prop where
  stamps : ((s.arrLog.filter (fun a => !a.2.2)).map (fun a => (a.1 + c.lat, a.2.1)))
            = s.fwdLog.map (fun f => (f.ts, f.pkt)) ++ s.q.items
  held : s.q.held = (s.q.items.map (fun x => (x.2.size : Int))).sum
  drops : s.dropLog = (s.arrLog.filter (fun a => a.2.2 && a.2.1.hasDrop)).map (fun a => (a.1, a.2.1))
  dep_le : ∀ f ∈ s.fwdLog, f.dep ≤ s.now
  arr_le : ∀ a ∈ s.arrLog, a.1 ≤ s.now
  recur : ∀ f ∈ s.fwdLog, f.dep = omax f.prev f.ts + c.serEff f.pkt.size
  linked : Linked none s.fwdLog
  mono : (s.fwdLog.map Fwd.dep).Pairwise (· ≤ ·)

/-- callback part, between labels. `nf`: never inside a forward. `idle`, `excl`: a backlog has
    exactly one callback pending, in the timer or posted. Which, and for when — `tbegin`: the
    head's stamp is still ahead (and not before the previous departure); `tsent`: the head is being
    serialised, due at the instant the recurrence gives; `post`: bandwidth 0, `next_packet_sent` is
    posted and runs at this instant, which is the recurrence's. -/
structure QCtl (c : QCfg) (s : QS) : Prop where
  nf : s.q.forwarding = false
  idle : s.timer = none → s.posted = [] → s.q.items = []
  excl : s.timer ≠ none → s.posted = []
  tsent : ∀ e, s.timer = some (e, .sent) →
    c.bw ≠ 0 ∧ ∃ ts p rest, s.q.items = (ts, p) :: rest ∧ e = omax s.prevDep ts + c.ser p.size
  tbegin : ∀ e, s.timer = some (e, .begin) →
    (∃ p rest, s.q.items = (e, p) :: rest) ∧ ∀ d, s.prevDep = some d → d ≤ e
  post : s.posted ≠ [] →
    s.posted = [.sent] ∧ c.bw = 0 ∧ ∃ ts p rest, s.q.items = (ts, p) :: rest ∧ s.now = omax s.prevDep ts

structure QInv (c : QCfg) (s : QS) : Prop extends QData c s, QCtl c s

theorem QData.transfer {c : QCfg} {s s' : QS} (h : QData c s)
    (hi : s'.q.items = s.q.items) (hh : s'.q.held = s.q.held) (ha : s'.arrLog = s.arrLog)
    (hf : s'.fwdLog = s.fwdLog) (hd : s'.dropLog = s.dropLog) (hn : s.now ≤ s'.now) : QData c s' := by
  constructor
  · rw [ha, hf, hi]; exact h.stamps
  · rw [hh, hi]; exact h.held
  · rw [hd, ha]; exact h.drops
  · rw [hf]; intro f hf; have := h.dep_le f hf; omega
  · rw [ha]; intro a ha; have := h.arr_le a ha; omega
  · rw [hf]; exact h.recur
  · rw [hf]; exact h.linked
  · rw [hf]; exact h.mono

theorem QInv.init (c : QCfg) : QInv c {} :=
  ⟨by constructor <;> simp [Linked], by constructor <;> simp⟩

theorem QData.kick {c : QCfg} {s : QS} (h : QData c s) : QData c (QS.kick c s) :=
  h.transfer (by simp) (by simp) (by simp) (by simp) (by simp) (by simp)

theorem QData.doArrive {c : QCfg} {s : QS} (h : QData c s) (p : Pkt) : QData c (s.doArrive c p) := by
  constructor
  · rw [doArrive_arrLog, doArrive_fwdLog, doArrive_items]
    by_cases hd : TailDrop c s.q.held p <;> simp [hd, List.filter_append, h.stamps]
  · rw [doArrive_held, doArrive_items]
    by_cases hd : TailDrop c s.q.held p <;> simp only [hd, ↓reduceIte] <;> simp [h.held]
  · rw [doArrive_arrLog, doArrive_dropLog]
    by_cases hd : TailDrop c s.q.held p <;> cases hh : p.hasDrop <;>
      simp [hd, List.filter_append, h.drops, hh]
  · simpa using h.dep_le
  · rw [doArrive_arrLog, doArrive_now]; intro a ha
    rcases List.mem_append.mp ha with ha | ha
    · exact h.arr_le a ha
    · simp at ha; subst ha; simp
  · simpa using h.recur
  · simpa using h.linked
  · simpa using h.mono

theorem kick_ctl (c : QCfg) (s : QS) (ts : Int) (p : Pkt) (rest : List (Int × Pkt))
    (hti : s.timer = none) (hpo : s.posted = []) (hf : s.q.forwarding = false)
    (hi : s.q.items = (ts, p) :: rest)
    (hd : ∀ d, s.prevDep = some d → d ≤ s.now)
    (hts : ts ≤ s.now → s.now = omax s.prevDep ts) : QCtl c (QS.kick c s) := by
  rcases kick_cases c s ts p rest hti hi with ⟨h1, he⟩ | ⟨h1, h2, he⟩ | ⟨h1, h2, he⟩
  · rw [he]
    constructor
    · exact hf
    · intro h; simp at h
    · intro _; exact hpo
    · intro e h; simp at h
    · intro e h
      simp at h; subst h
      exact ⟨⟨p, rest, hi⟩, fun d hd' => by have := hd d hd'; omega⟩
    · intro h; exact absurd hpo h
  · rw [he]
    constructor
    · exact hf
    · intro _ h; simp at h
    · intro h; exact absurd hti h
    · intro e h; simp [hti] at h
    · intro e h; simp [hti] at h
    · intro _
      refine ⟨by simp [hpo], h2, ts, p, rest, hi, hts h1⟩
  · rw [he]
    constructor
    · exact hf
    · intro h; simp at h
    · intro _; exact hpo
    · intro e h
      simp at h; subst h
      refine ⟨h2, ts, p, rest, hi, ?_⟩
      show s.now + c.ser p.size = omax s.prevDep ts + c.ser p.size
      rw [← hts h1]
    · intro e h; simp at h
    · intro h; exact absurd hpo h

theorem QData.advance {c : QCfg} {s : QS} (h : QData c s) (t : Int) (ht : s.now ≤ t) :
    QData c { s with now := t } :=
  h.transfer rfl rfl rfl rfl rfl ht

theorem QCtl.advance {c : QCfg} {s : QS} (h : QCtl c s) (t : Int) (ht : s.posted ≠ [] → t = s.now) :
    QCtl c { s with now := t } :=
  ⟨h.nf, h.idle, h.excl, h.tsent, h.tbegin, fun hp => by
    have h1 := h.post hp
    have h2 : t = s.now := ht hp
    subst h2; exact h1⟩

theorem QCtl.empty_idle {c : QCfg} {s : QS} (h : QCtl c s) (hi : s.q.items = []) :
    s.timer = none ∧ s.posted = [] := by
  have hpo : s.posted = [] := by
    cases hp : s.posted with
    | nil => rfl
    | cons a l =>
      obtain ⟨_, _, ts, p, rest, h3, _⟩ := h.post (by simp [hp])
      simp [hi] at h3
  refine ⟨?_, hpo⟩
  cases hti : s.timer with
  | none => rfl
  | some x =>
    obtain ⟨e, cb⟩ := x
    cases cb with
    | begin => obtain ⟨⟨p, rest, h3⟩, _⟩ := h.tbegin e hti; simp [hi] at h3
    | sent => obtain ⟨_, ts, p, rest, h3, _⟩ := h.tsent e hti; simp [hi] at h3

theorem QInv.doArrive {c : QCfg} (hlat : 0 ≤ c.lat) {s : QS} (h : QInv c s) (p : Pkt) :
    QInv c (s.doArrive c p) := by
  refine ⟨h.toQData.doArrive p, ?_⟩
  have hC := h.toQCtl
  by_cases hq : TailDrop c s.q.held p ∨ s.q.items ≠ []
  · -- the callback state is untouched, the head (if any) too
    obtain ⟨h1, h2⟩ := doArrive_quiet c s p (hq.imp_right .inl)
    have hitems : ∀ ts q rest, s.q.items = (ts, q) :: rest →
        ∃ rest', (s.doArrive c p).q.items = (ts, q) :: rest' := by
      intro ts q rest hi
      rw [doArrive_items]; split
      · exact ⟨rest, hi⟩
      · exact ⟨rest ++ [(s.now + c.lat, p)], by simp [hi]⟩
    constructor
    · rw [doArrive_forwarding]; exact hC.nf
    · rw [h1, h2]; intro a b
      have hi := hC.idle a b
      rw [doArrive_items]
      rcases hq with hq | hq
      · simp [hq, hi]
      · exact absurd hi hq
    · rw [h1, h2]; exact hC.excl
    · rw [h1, doArrive_prevDep]; intro e he
      obtain ⟨a, ts, q, rest, hi, hb⟩ := hC.tsent e he
      obtain ⟨rest', hi'⟩ := hitems ts q rest hi
      exact ⟨a, ts, q, rest', hi', hb⟩
    · rw [h1, doArrive_prevDep]; intro e he
      obtain ⟨⟨q, rest, hi⟩, hb⟩ := hC.tbegin e he
      obtain ⟨rest', hi'⟩ := hitems e q rest hi
      exact ⟨⟨q, rest', hi'⟩, hb⟩
    · rw [h2, doArrive_prevDep, doArrive_now]; intro hp
      obtain ⟨a, b, ts, q, rest, hi, hb⟩ := hC.post hp
      obtain ⟨rest', hi'⟩ := hitems ts q rest hi
      exact ⟨a, b, ts, q, rest', hi', hb⟩
  · -- accepted into an empty, idle queue: the sender is started
    obtain ⟨hd, hi⟩ : ¬ TailDrop c s.q.held p ∧ s.q.items = [] := by simpa [not_or] using hq
    obtain ⟨hti, hpo⟩ := hC.empty_idle hi
    rw [doArrive_kick c s p hd hi hC.nf]
    have hprev : ∀ d, s.prevDep = some d → d ≤ s.now := fun d hd' => by
      obtain ⟨f, hl, rfl⟩ := Option.map_eq_some_iff.mp hd'
      exact h.dep_le f (List.mem_of_getLast? hl)
    refine kick_ctl c { s with
      q := { s.q with items := [(s.now + c.lat, p)], held := s.q.held + p.size },
      arrLog := s.arrLog ++ [(s.now, p, false)] } (s.now + c.lat) p [] hti hpo hC.nf rfl hprev ?_
    intro (hle : s.now + c.lat ≤ s.now)
    have : s.now + c.lat = s.now := by omega
    show s.now = omax s.prevDep (s.now + c.lat)
    rw [this, omax_of_le _ _ hprev]

theorem step_cbBegin_eq (c : QCfg) (s : QS) (t : Int) :
    s.step c (.cbBegin t) = QS.kick c { s with now := t, timer := none } := rfl

/-- callback state while a packet is being forwarded (re-entrant arrivals happen here): nothing is
    pending (`ti`, `po`) and the mark is up (`fw`), so a guarded arrival does not start the sender -/
structure QMid (s : QS) : Prop where
  fw : s.q.forwarding = true
  ti : s.timer = none
  po : s.posted = []

theorem QMid.doArrive {c : QCfg} (hg : c.reentryGuard = true) {s : QS} (h : QMid s) (p : Pkt) :
    QMid (s.doArrive c p) := by
  obtain ⟨h1, h2⟩ := doArrive_quiet c s p (.inr (.inr ⟨hg, h.fw⟩))
  exact ⟨by rw [doArrive_forwarding]; exact h.fw, by rw [h1]; exact h.ti, by rw [h2]; exact h.po⟩

/-- state right after `next_packet_sent` popped the head `(ts, p)` at instant `t` -/
def QS.afterPop (s : QS) (t ts : Int) (p : Pkt) (rest : List (Int × Pkt)) : QS :=
  { s with now := t, timer := none, posted := [],
           q := { s.q with items := rest, held := s.q.held - p.size, forwarding := true },
           fwdLog := s.fwdLog ++ [({ dep := t, ts := ts, pkt := p, prev := s.prevDep } : Fwd)] }

/-- tail of `next_packet_sent`: clear the mark, continue with the backlog -/
def QS.finish (c : QCfg) (t : Int) (s : QS) : QS :=
  ({ s with q := (s.q.sentFinish c t).1 }).applyEff (s.q.sentFinish c t).2

theorem step_cbSent_eq (c : QCfg) (s : QS) (t : Int) (re : List Pkt) (ts : Int) (p : Pkt)
    (rest : List (Int × Pkt)) (hi : s.q.items = (ts, p) :: rest)
    (hk : (s.timer = some (t, .sent) ∧ s.posted = []) ∨ (s.timer = none ∧ s.posted = [.sent])) :
    s.step c (.cbSent t re)
      = QS.finish c t (re.foldl (fun s p => s.doArrive c p) (s.afterPop t ts p rest)) := by
  have hpop : s.q.sentPop
      = ({ s.q with items := rest, held := s.q.held - p.size, forwarding := true }, some p) := by
    unfold Q.sentPop; rw [hi]
  rcases hk with ⟨hti, hpo⟩ | ⟨hti, hpo⟩ <;>
    simp [QS.step, hti, hpo, hpop, hi, QS.afterPop, QS.finish, QS.prevDep]

theorem afterPop_spec {c : QCfg} {s : QS} (h : QInv c s) (t ts : Int) (p : Pkt)
    (rest : List (Int × Pkt)) (hi : s.q.items = (ts, p) :: rest) (hle : s.now ≤ t)
    (ht : t = omax s.prevDep ts + c.serEff p.size) :
    QData c (s.afterPop t ts p rest) ∧ QMid (s.afterPop t ts p rest) := by
  refine ⟨?_, ⟨rfl, rfl, rfl⟩⟩
  constructor
  · simp [QS.afterPop, h.stamps, hi]
  · have := h.held; rw [hi] at this
    simp [QS.afterPop] at this ⊢; omega
  · exact h.drops
  · intro f hf
    rcases List.mem_append.mp hf with hf | hf
    · have := h.dep_le f hf; show f.dep ≤ t; omega
    · simp at hf; subst hf; show t ≤ t; omega
  · intro a ha; have := h.arr_le a ha; show a.1 ≤ t; omega
  · intro f hf
    rcases List.mem_append.mp hf with hf | hf
    · exact h.recur f hf
    · simp at hf; subst hf; exact ht
  · exact Linked_append _ _ _ h.linked (Option.or_none ..).symm
  · show ((s.fwdLog ++ _).map Fwd.dep).Pairwise (· ≤ ·)
    rw [List.map_append, List.pairwise_append]
    refine ⟨h.mono, by simp, ?_⟩
    intro a ha b hb
    simp at hb; subst hb
    obtain ⟨f, hf, rfl⟩ := List.mem_map.mp ha
    have := h.dep_le f hf; omega

theorem finish_inv {c : QCfg} {s : QS} (t : Int) (hd : QData c s) (hm : QMid s) (hn : s.now = t)
    (hp : s.prevDep = some t) : QInv c (QS.finish c t s) := by
  subst hn
  cases hi : s.q.items with
  | nil =>
    have e : QS.finish c s.now s = { s with q := { s.q with forwarding := false } } := by
      simp [QS.finish, Q.sentFinish, hi, QS.applyEff]
    rw [e]
    refine ⟨hd.transfer rfl rfl rfl rfl rfl (Int.le_refl _), ?_⟩
    constructor
    · rfl
    · intro _ _; exact hi
    · intro h; exact absurd hm.ti h
    · intro e h; simp [hm.ti] at h
    · intro e h; simp [hm.ti] at h
    · intro h; exact absurd hm.po h
  | cons x rest =>
    obtain ⟨ts, p⟩ := x
    have e : QS.finish c s.now s = QS.kick c { s with q := { s.q with forwarding := false } } := by
      simp [QS.finish, Q.sentFinish, hi, QS.kick]
    rw [e]
    refine ⟨(hd.transfer (s' := { s with q := { s.q with forwarding := false } })
              rfl rfl rfl rfl rfl (Int.le_refl _)).kick, ?_⟩
    refine kick_ctl c { s with q := { s.q with forwarding := false } } ts p rest hm.ti hm.po rfl hi ?_ ?_
    · intro d hd'
      have : s.prevDep = some d := hd'
      rw [hp] at this; simp at this; show d ≤ s.now; omega
    · intro (hle : ts ≤ s.now)
      show s.now = omax s.prevDep ts
      rw [hp, omax_some]; omega

theorem QInv.cbSent_shape {c : QCfg} {s : QS} (h : QInv c s) (t : Int) (re : List Pkt)
    (hok : s.ok (.cbSent t re)) :
    ∃ ts p rest, s.q.items = (ts, p) :: rest ∧ s.now ≤ t
      ∧ t = omax s.prevDep ts + c.serEff p.size
      ∧ ((s.timer = some (t, .sent) ∧ s.posted = []) ∨ (s.timer = none ∧ s.posted = [.sent])) := by
  rcases hok with ⟨hti, hpo, hle⟩ | ⟨hhd, ht⟩
  · obtain ⟨hbw, ts, p, rest, hi, he⟩ := h.tsent t hti
    refine ⟨ts, p, rest, hi, hle, ?_, .inl ⟨hti, hpo⟩⟩
    simp [QCfg.serEff, hbw, he]
  · have hne : s.posted ≠ [] := by intro h0; simp [h0] at hhd
    obtain ⟨hpo, hbw, ts, p, rest, hi, he⟩ := h.post hne
    have hti : s.timer = none := by
      cases hx : s.timer with
      | none => rfl
      | some x => exact absurd (h.excl (by simp [hx])) hne
    refine ⟨ts, p, rest, hi, by omega, ?_, .inr ⟨hti, hpo⟩⟩
    simp [QCfg.serEff, hbw, ht, he]

theorem QInv.step {c : QCfg} (hc : c.WF) {s : QS} (h : QInv c s) (l : QLbl) (hok : s.ok l) :
    QInv c (s.step c l) := by
  cases l with
  | arrive t p =>
    obtain ⟨h1, _, h3⟩ := hok
    exact QInv.doArrive hc.lat_nonneg ⟨h.toQData.advance t h1, h.toQCtl.advance t h3⟩ p
  | cbBegin t =>
    obtain ⟨hti, hpo, hle⟩ := hok
    obtain ⟨⟨p, rest, hi⟩, hb⟩ := h.tbegin t hti
    rw [step_cbBegin_eq]
    exact ⟨(h.toQData.transfer (s' := { s with now := t, timer := none }) rfl rfl rfl rfl rfl hle).kick,
      kick_ctl c { s with now := t, timer := none } t p rest rfl hpo h.nf hi hb
        (fun _ => (omax_of_le _ _ hb).symm)⟩
  | cbSent t re =>
    obtain ⟨ts, p, rest, hi, hle, ht, hk⟩ := h.cbSent_shape t re hok
    rw [step_cbSent_eq c s t re ts p rest hi hk]
    obtain ⟨hd, hm⟩ := afterPop_spec h t ts p rest hi hle ht
    -- the re-entrant arrivals keep the mid-forward state; they move neither clock nor forward log
    obtain ⟨a, b, hn, hp⟩ := List.foldlRecOn re (fun s p => s.doArrive c p)
      (motive := fun x => QData c x ∧ QMid x ∧ x.now = t ∧ x.prevDep = some t)
      ⟨hd, hm, rfl, by simp [QS.prevDep, QS.afterPop]⟩
      fun x ⟨a, b, hn, hp⟩ p _ =>
        ⟨a.doArrive p, b.doArrive hc.guard p, by rw [doArrive_now, hn], by rw [doArrive_prevDep, hp]⟩
    exact finish_inv t a b hn hp

theorem QInv.run {c : QCfg} (hc : c.WF) (ls : List QLbl) (s : QS) (h : QInv c s)
    (hok : QS.okRun c s ls) : QInv c (QS.run c s ls) := by
  induction ls generalizing s with
  | nil => exact h
  | cons l ls ih => exact ih _ (h.step hc l hok.1) hok.2

theorem QInv.run_init {c : QCfg} (hc : c.WF) (ls : List QLbl) (hok : QS.okRun c {} ls) :
    QInv c (QS.run c {} ls) := QInv.run hc ls {} (QInv.init c) hok

theorem QS.run_append (c : QCfg) (s : QS) (l₁ l₂ : List QLbl) :
    QS.run c s (l₁ ++ l₂) = QS.run c (QS.run c s l₁) l₂ := by
  simp [QS.run, List.foldl_append]

theorem QS.okRun_append (c : QCfg) (s : QS) (l₁ l₂ : List QLbl) :
    QS.okRun c s (l₁ ++ l₂) ↔ QS.okRun c s l₁ ∧ QS.okRun c (QS.run c s l₁) l₂ := by
  induction l₁ generalizing s with
  | nil => simp [QS.okRun, QS.run]
  | cons l l₁ ih =>
    simp only [List.cons_append, QS.okRun, ih, and_assoc]
    rfl

theorem step_arrLog_prefix {c : QCfg} {s : QS} (h : QInv c s) (l : QLbl) (hok : s.ok l) :
    s.arrLog <+: (s.step c l).arrLog := by
  cases l with
  | arrive t p => exact ⟨_, (doArrive_arrLog c { s with now := t } p).symm⟩
  | cbBegin t => rw [step_cbBegin_eq, kick_arrLog]; exact List.prefix_rfl
  | cbSent t re =>
    obtain ⟨ts, p, rest, hi, _, _, hk⟩ := h.cbSent_shape t re hok
    rw [step_cbSent_eq c s t re ts p rest hi hk, show ∀ x, (QS.finish c t x).arrLog = x.arrLog by simp [QS.finish]]
    exact List.foldlRecOn re _ (b := s.afterPop t ts p rest) (motive := fun x => s.arrLog <+: x.arrLog)
      (List.prefix_rfl) fun x hx p _ => hx.trans ⟨_, (doArrive_arrLog c x p).symm⟩

theorem run_arrLog_prefix {c : QCfg} (hc : c.WF) (ls : List QLbl) (s : QS) (h : QInv c s)
    (hok : QS.okRun c s ls) : s.arrLog <+: (QS.run c s ls).arrLog := by
  induction ls generalizing s with
  | nil => exact List.prefix_rfl
  | cons l ls ih => exact (step_arrLog_prefix h l hok.1).trans (ih _ (h.step hc l hok.1) hok.2)

/-! What the two call sites of `begin_send_next_packet` inside the mechanism rely on; that the timer
callbacks find a packet is `C09_callbacks_find_packet`. -/

/-- call site 1, `incoming_packet`: the packet was just appended -/
theorem incoming_beginSend_nonempty (q : Q) (x : Int × Pkt) : q.items ++ [x] ≠ [] := by simp

/-- call site 2, `next_packet_sent`: guarded by `m_queue.size()` -/
theorem sentFinish_nil (c : QCfg) (now : Int) (q : Q) (h : q.items = []) :
    q.sentFinish c now = ({ q with forwarding := false }, []) := by
  simp [Q.sentFinish, h]

instance QS.decOk (s : QS) : (l : QLbl) → Decidable (s.ok l)
  | .arrive t _ =>
    have : Decidable (∀ e cb, s.timer = some (e, cb) → t ≤ e) :=
      match h : s.timer with
      | none => isTrue (fun _ _ h' => nomatch h')
      | some (e, _) => decidable_of_iff (t ≤ e) (by simp)
    inferInstanceAs (Decidable (s.now ≤ t ∧ (∀ e cb, s.timer = some (e, cb) → t ≤ e)
      ∧ (s.posted ≠ [] → t = s.now)))
  | .cbBegin t => inferInstanceAs (Decidable (s.timer = some (t, .begin) ∧ s.posted = [] ∧ s.now ≤ t))
  | .cbSent t _ => inferInstanceAs (Decidable (
      (s.timer = some (t, .sent) ∧ s.posted = [] ∧ s.now ≤ t)
      ∨ (s.posted.head? = some .sent ∧ t = s.now)))

instance QS.decOkRun (c : QCfg) : (s : QS) → (ls : List QLbl) → Decidable (QS.okRun c s ls)
  | _, [] => isTrue trivial
  | s, l :: rest =>
    have := QS.decOkRun c (s.step c l) rest
    inferInstanceAs (Decidable (s.ok l ∧ QS.okRun c (s.step c l) rest))

end SimVerif
