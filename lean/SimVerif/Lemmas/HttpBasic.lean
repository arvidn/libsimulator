/-
  Checked reads and `find` of the HTTP parser model. A pointer `p` into `mem` is described by the
  bytes ahead of it (`mem.drop p = …`). `find` returns the first matching window (`find_spec`); on a
  buffer that holds `len` bytes it is `search` (Lemmas/HttpSearch.lean) in the first `len` bytes
  (`find_eq_search`).
-/
import SimVerif.Lemmas.HttpSearch

namespace SimVerif.Http

theorem drop_cons {mem : Bytes} {p : Nat} {a : UInt8} {l : Bytes} (h : mem.drop p = a :: l) :
    ∃ hp : p < mem.length, mem[p] = a ∧ mem.drop (p + 1) = l := by
  have hp : p < mem.length :=
    Nat.lt_of_not_le (fun hle => by rw [List.drop_eq_nil_iff.mpr hle] at h; cases h)
  rw [List.drop_eq_getElem_cons hp] at h
  exact ⟨hp, (List.cons.inj h).1, (List.cons.inj h).2⟩

theorem drop_skip {mem : Bytes} {p : Nat} {l r : Bytes} (h : mem.drop p = l ++ r) :
    mem.drop (p + l.length) = r := by
  rw [← List.drop_drop, h, List.drop_left]

theorem drop_skip_at {mem : Bytes} {p q : Nat} {l r : Bytes} (h : mem.drop p = l ++ r) (hq : q = p + l.length) :
    mem.drop q = r :=
  hq ▸ drop_skip h

def win (bs : Bytes) (p n : Nat) : Bytes := (bs.drop p).take n

theorem readN_ok (bs : Bytes) (off n : Nat) (h : off + n ≤ bs.length) :
    readN bs off n = .ok (win bs off n) := by
  simp [readN, h, win]

theorem readN_ne_parseFailed (bs : Bytes) (off n : Nat) : readN bs off n ≠ .error .parseFailed := by
  unfold readN; split <;> simp

theorem win_take_len (bs : Bytes) (len p n : Nat) (h : p + n ≤ len) :
    win (bs.take len) p n = win bs p n := by
  unfold win
  rw [List.drop_take, List.take_take, Nat.min_eq_left (by omega)]

theorem win_append_left (b rest : Bytes) (k n : Nat) (h : k + n ≤ b.length) :
    win (b ++ rest) k n = win b k n := by
  unfold win
  rw [List.drop_append_of_le_length (by omega), List.take_append_of_le_length (by simp; omega)]

theorem win_append_right (pre l : Bytes) (k n : Nat) :
    win (pre ++ l) (pre.length + k) n = win l k n := by
  unfold win
  simp

theorem win_drop_take (bs : Bytes) (k n a b : Nat) (h : a + b ≤ n) :
    ((win bs k n).drop a).take b = win bs (k + a) b := by
  unfold win
  rw [List.drop_take, List.take_take, List.drop_drop, Nat.min_eq_left (by omega)]

theorem prefix_iff_win {needle b : Bytes} {k : Nat} : needle <+: b.drop k ↔ win b k needle.length = needle :=
  List.prefix_iff_eq_take.trans eq_comm

theorem findLoop_spec (bs : Bytes) (off : Nat) (needle : Bytes) :
    ∀ (r i : Nat), (r = 0 ∨ off + i + r + needle.length ≤ bs.length + 1) →
      (findLoop bs off needle r i = .ok none ∧
        ∀ p, off + i ≤ p → p < off + i + r → win bs p needle.length ≠ needle) ∨
      (∃ p, off + i ≤ p ∧ p < off + i + r ∧ findLoop bs off needle r i = .ok (some p) ∧
        win bs p needle.length = needle ∧
        ∀ k, off + i ≤ k → k < p → win bs k needle.length ≠ needle) := by
  intro r
  induction r with
  | zero =>
    intro i _
    exact .inl ⟨rfl, fun p h1 h2 => absurd h2 (by omega)⟩
  | succ r ih =>
    intro i hb
    unfold findLoop
    rw [readN_ok bs (off + i) needle.length (by omega)]
    dsimp only
    by_cases hw : win bs (off + i) needle.length = needle
    · rw [if_pos hw]
      exact .inr ⟨off + i, Nat.le_refl _, by omega, rfl, hw, fun k h1 h2 => absurd h2 (by omega)⟩
    · rw [if_neg hw]
      have hi : ∀ p, off + i ≤ p → ¬ off + (i + 1) ≤ p → win bs p needle.length ≠ needle := by
        intro p h1 h2
        rwa [show p = off + i by omega]
      rcases ih (i + 1) (by omega) with ⟨h1, h2⟩ | ⟨p, h1, h2, h3, h4, h5⟩
      · refine .inl ⟨h1, fun p hp1 hp2 => ?_⟩
        by_cases hp : off + (i + 1) ≤ p
        · exact h2 p hp (by omega)
        · exact hi p hp1 hp
      · refine .inr ⟨p, by omega, by omega, h3, h4, fun k hk1 hk2 => ?_⟩
        by_cases hk : off + (i + 1) ≤ k
        · exact h5 k hk hk2
        · exact hi k hk1 hk

theorem find_spec (bs : Bytes) (off : Nat) (hsize : Int) (needle : Bytes)
    (hb : (off : Int) + hsize ≤ bs.length) :
    (find bs off hsize needle = .ok none ∧
      ∀ p : Nat, off ≤ p → (p : Int) + needle.length ≤ off + hsize →
        win bs p needle.length ≠ needle) ∨
    (∃ p : Nat, find bs off hsize needle = .ok (some p) ∧ off ≤ p ∧
      (p : Int) + needle.length ≤ off + hsize ∧ win bs p needle.length = needle ∧
      ∀ k : Nat, off ≤ k → k < p → win bs k needle.length ≠ needle) := by
  unfold find
  rcases findLoop_spec bs off needle (hsize - (needle.length : Int) + 1).toNat 0 (by omega) with
    ⟨h1, h2⟩ | ⟨p, h1, h2, h3, h4, h5⟩
  · exact .inl ⟨h1, fun p hp1 hp2 => h2 p hp1 (by omega)⟩
  · exact .inr ⟨p, h3, h1, by omega, h4, h5⟩

theorem memchr_eq_find (bs : Bytes) (off : Nat) (c : UInt8) (n : Int) (hn : 0 ≤ n) :
    memchr bs off c n = find bs off n [c] := by
  unfold memchr find
  rw [if_neg (by omega)]
  simp

theorem readRange_ok (bs : Bytes) (a b : Nat) (h1 : a ≤ b) (h2 : b ≤ bs.length) :
    readRange bs a b = .ok (win bs a (b - a)) := by
  unfold readRange
  rw [if_pos ⟨h1, h2⟩]
  rfl

theorem readRange_drop (bs seg post : Bytes) (p e : Nat) (hd : bs.drop p = seg ++ post)
    (hp : p ≤ bs.length) (he : e = p + seg.length) : readRange bs p e = .ok seg := by
  have hl := congrArg List.length hd
  rw [List.length_drop, List.length_append] at hl
  subst he
  rw [readRange_ok _ _ _ (Nat.le_add_right _ _) (by omega), win, hd, Nat.add_sub_cancel_left,
    List.take_left']
  rfl

theorem failParse_eq {α : Type} (bs : Bytes) (len : Nat) (h : len ≤ bs.length) :
    (failParse bs len : Except Err α) = .error .parseFailed := by
  unfold failParse
  rw [readN_ok bs 0 len (by omega)]

section
variable {bs : Bytes} {len : Nat} (hlen : len ≤ bs.length)
include hlen

/-- `find(start + off, hsize, needle)` when `end_of_request` = `start + off + hsize` lies in the
    allocation: a search in the bytes between the two pointers -/
theorem find_eq_search (off : Nat) (hsize : Int) (needle : Bytes) (hs : ((off : Int) + hsize).toNat = len)
    (h0 : needle ≠ [] ∨ 0 ≤ hsize) :
    find bs off hsize needle = .ok ((search needle ((bs.take len).drop off)).map (· + off)) := by
  -- a window inside `[off, off + hsize)` is a window of the first `len` bytes
  have hw : ∀ p : Nat, ((off + p : Nat) : Int) + needle.length ≤ off + hsize →
      (needle <+: ((bs.take len).drop off).drop p ↔ win bs (off + p) needle.length = needle) := fun p h => by
    rw [List.drop_drop, prefix_iff_win, win_take_len _ _ _ _ (by omega)]
  rcases find_spec bs off hsize needle (by omega) with ⟨hf, hn⟩ | ⟨p, hf, h1, h2, h3, h4⟩ <;> rw [hf]
  · cases hq : search needle ((bs.take len).drop off) with
    | none => rfl
    | some q =>
      have hqb : ((off + q : Nat) : Int) + needle.length ≤ off + hsize := by
        have := search_bound hq
        have := h0.imp_left List.length_pos_iff.2
        rw [List.length_drop, List.length_take, Nat.min_eq_left hlen] at *
        omega
      exact absurd ((hw q hqb).1 (search_some hq).1) (hn (off + q) (Nat.le_add_right ..) hqb)
  · obtain ⟨q, rfl⟩ : ∃ q, p = off + q := ⟨p - off, by omega⟩
    rw [search_eq_some ((hw q h2).2 h3) fun k hk hpre =>
      h4 (off + k) (Nat.le_add_right ..) (by omega) ((hw k (by omega)).1 hpre), Nat.add_comm]
    rfl

/-- the pointer `p` with `w` ahead of it up to `end_of_request`, as seen in the whole allocation -/
theorem ahead {p : Nat} {w : Bytes} (h : (bs.take len).drop p = w) (hp : p ≤ len) :
    bs.drop p = w ++ bs.drop len := by
  rw [← h, ← List.drop_append_of_le_length (by rw [List.length_take]; omega), List.take_append_drop]

theorem readRange_ahead {p e : Nat} {seg post : Bytes} (hd : (bs.take len).drop p = seg ++ post) (hp : p ≤ len)
    (he : e = p + seg.length) : readRange bs p e = .ok seg :=
  readRange_drop bs seg (post ++ bs.drop len) p e (by rw [ahead hlen hd hp, List.append_assoc]) (by omega) he

end

theorem find_ne_oob (bs : Bytes) (off : Nat) (hsize : Int) (needle : Bytes)
    (hb : (off : Int) + hsize ≤ bs.length) : find bs off hsize needle ≠ .error .oob := by
  rcases find_spec bs off hsize needle hb with ⟨h, _⟩ | ⟨p, h, _⟩ <;> rw [h] <;> nofun

theorem find_eq_none (bs : Bytes) (off : Nat) (hsize : Int) (needle : Bytes)
    (hb : (off : Int) + hsize ≤ bs.length)
    (h : ∀ p : Nat, off ≤ p → (p : Int) + needle.length ≤ off + hsize →
        win bs p needle.length ≠ needle) :
    find bs off hsize needle = .ok none := by
  rcases find_spec bs off hsize needle hb with ⟨hn, _⟩ | ⟨q, _, hq1, hq2, hq3, _⟩
  · exact hn
  · exact absurd hq3 (h q hq1 hq2)

end SimVerif.Http
