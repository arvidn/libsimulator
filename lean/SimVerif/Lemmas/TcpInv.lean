/-
  SimVerif.Lemmas.TcpInv — the parts of the safety invariant of the open system
  SimVerif/StreamSys.lean: what a packet may carry (`DataOk`), the reader side (`BQ`), and what
  every writer-side and reader-side function of SimVerif/Tcp.lean does to them (`NStep`, `BStep`).

  The invariant does not speak about the congestion window or the in-flight account at all:
  whatever they do, what reaches the reader is right.
-/
import SimVerif.Lemmas.TcpRead
import SimVerif.Lemmas.TcpMtu

namespace SimVerif

/-- a data-carrying packet is what the ghost says: a payload packet with sequence number k
    carries `segs[k]`; the only error packet is the end-of-stream marker, numbered after the
    last segment, created by close -/
def DataOk (segs : List (List UInt8)) (closed : Bool) (p : Pkt) : Prop :=
  (p.ty = .payload ∧ segs[p.id]? = some p.payload) ∨
  (p.ty = .err ∧ closed = true ∧ p.id = segs.length ∧ p.payload = [] ∧ p.hasDrop = false)

def s5_PktOk (segs : List (List UInt8)) (closed : Bool) (p : Pkt) : Prop :=
  DataOk segs closed p ∨ (p.ty = .ack ∧ p.hasDrop = false)

/-- packets in the incoming queue: the head may have been read partially, so only the number -/
def QOk (segs : List (List UInt8)) (closed : Bool) (p : Pkt) : Prop :=
  (p.ty = .payload ∧ p.id < segs.length) ∨
  (p.ty = .err ∧ closed = true ∧ p.id = segs.length ∧ p.payload = [])

/-- the reader side: reorder buffer, incoming queue, next expected number, bytes delivered.
    The reorder buffer may hold stale entries (numbers below `nx`: first insertion wins, never
    erased) — they only have to be genuine. -/
structure BQ (segs : List (List UInt8)) (closed : Bool) (dl : List UInt8) (nx : Nat)
    (ro : List (Nat × Pkt)) (q : List Pkt) : Prop where
  ro : ∀ e ∈ ro, e.1 = e.2.id ∧ DataOk segs closed e.2
  qok : ∀ p ∈ q, p.id < nx ∧ QOk segs closed p
  sorted : (q.map (·.id)).Pairwise (· < ·)
  bytes : dl ++ bytesOf q = (segs.take nx).flatten
  bound : nx ≤ segs.length + (if closed then 1 else 0)

section
variable {segs : List (List UInt8)} {closed : Bool} {p : Pkt} {dl : List UInt8} {nx : Nat}
  {ro ro' : List (Nat × Pkt)} {q q' : List Pkt}

theorem DataOk.qok (h : DataOk segs closed p) : QOk segs closed p := by
  rcases h with ⟨h1, h2⟩ | ⟨h1, h2, h3, h4, _⟩
  · left; refine ⟨h1, ?_⟩
    have := List.getElem?_eq_some_iff.mp h2
    exact this.1
  · right; exact ⟨h1, h2, h3, h4⟩

theorem DataOk.payload (h : DataOk segs closed p) (hty : p.ty = .payload) :
    segs[p.id]? = some p.payload := by
  rcases h with ⟨_, h⟩ | ⟨h, _⟩
  · exact h
  · rw [h] at hty; cases hty

theorem s5_PktOk.payload (h : s5_PktOk segs closed p) (hty : p.ty = .payload) :
    segs[p.id]? = some p.payload := by
  rcases h with h | ⟨h, _⟩
  · exact h.payload hty
  · rw [h] at hty; cases hty

theorem DataOk.mono_seg (x : List UInt8) (hc : closed = false) (h : DataOk segs closed p) :
    DataOk (segs ++ [x]) closed p := by
  rcases h with ⟨h1, h2⟩ | ⟨_, h2, _⟩
  · left; refine ⟨h1, ?_⟩
    have hlt := (List.getElem?_eq_some_iff.mp h2).1
    rw [List.getElem?_append_left hlt]; exact h2
  · simp [hc] at h2

theorem DataOk.close (h : DataOk segs closed p) : DataOk segs true p := by
  rcases h with h | ⟨h1, _, h3⟩
  · left; exact h
  · right; exact ⟨h1, rfl, h3⟩

theorem s5_PktOk.mono_seg (x : List UInt8) (hc : closed = false) (h : s5_PktOk segs closed p) :
    s5_PktOk (segs ++ [x]) closed p := h.imp (·.mono_seg x hc) id

theorem s5_PktOk.close (h : s5_PktOk segs closed p) : s5_PktOk segs true p := h.imp (·.close) id

theorem QOk.mono_seg (x : List UInt8) (hc : closed = false) (h : QOk segs closed p) :
    QOk (segs ++ [x]) closed p := by
  rcases h with ⟨h1, h2⟩ | ⟨_, h2, _⟩
  · left; exact ⟨h1, by simp; omega⟩
  · simp [hc] at h2

theorem QOk.close (h : QOk segs closed p) : QOk segs true p := by
  rcases h with h | ⟨h1, _, h3⟩
  · left; exact h
  · right; exact ⟨h1, rfl, h3⟩

theorem BQ.mono_seg (x : List UInt8) (hc : closed = false)
    (h : BQ segs closed dl nx ro q) : BQ (segs ++ [x]) closed dl nx ro q := by
  have hb := h.bound
  simp [hc] at hb
  refine ⟨fun e he => ⟨(h.ro e he).1, (h.ro e he).2.mono_seg x hc⟩,
    fun p hp => ⟨(h.qok p hp).1, (h.qok p hp).2.mono_seg x hc⟩, h.sorted, ?_, ?_⟩
  · rw [h.bytes, List.take_append_of_le_length hb]
  · simp [hc]; omega

theorem BQ.close (h : BQ segs closed dl nx ro q) : BQ segs true dl nx ro q := by
  refine ⟨fun e he => ⟨(h.ro e he).1, (h.ro e he).2.close⟩,
    fun p hp => ⟨(h.qok p hp).1, (h.qok p hp).2.close⟩, h.sorted, h.bytes, ?_⟩
  have := h.bound
  split at this <;> simp <;> omega

theorem flatten_take_prefix (segs : List (List UInt8)) (k : Nat) : (segs.take k).flatten <+: segs.flatten :=
  ⟨(segs.drop k).flatten, by rw [← List.flatten_append, List.take_append_drop]⟩

/-- **the prefix property**, from the reader-side invariant alone -/
theorem BQ.isPrefix (h : BQ segs closed dl nx ro q) : dl <+: segs.flatten :=
  List.IsPrefix.trans (h.bytes ▸ List.prefix_append dl (bytesOf q)) (flatten_take_prefix segs nx)

theorem BQ.push (p : Pkt) (h : BQ segs closed dl nx ro q)
    (hp : DataOk segs closed p) (hid : p.id = nx) : BQ segs closed dl (nx + 1) ro (q ++ [p]) := by
  refine ⟨h.ro, ?_, ?_, ?_, ?_⟩
  · intro x hx
    simp only [List.mem_append, List.mem_singleton] at hx
    rcases hx with hx | rfl
    · exact ⟨Nat.lt_succ_of_lt (h.qok x hx).1, (h.qok x hx).2⟩
    · exact ⟨by omega, hp.qok⟩
  · simp only [List.map_append, List.map_cons, List.map_nil]
    rw [List.pairwise_append]
    refine ⟨h.sorted, by simp, ?_⟩
    intro a ha b hb
    simp only [List.mem_map] at ha
    obtain ⟨x, hx, rfl⟩ := ha
    simp only [List.mem_singleton] at hb
    subst hb
    have := (h.qok x hx).1
    omega
  · rw [bytesOf_append, ← List.append_assoc, h.bytes]
    rcases hp with ⟨_, h2⟩ | ⟨_, _, h3, h4, _⟩
    · rw [hid] at h2
      rw [List.take_add_one, h2]; simp
    · rw [hid] at h3
      simp [h4, h3, List.take_of_length_le]
  · rcases hp with ⟨_, h2⟩ | ⟨_, hc, h3, _⟩
    · have := (List.getElem?_eq_some_iff.mp h2).1
      split <;> omega
    · simp [hc]; omega

theorem BQ.ro_sub (h : BQ segs closed dl nx ro q)
    (hs : ∀ e ∈ ro', e ∈ ro) : BQ segs closed dl nx ro' q :=
  ⟨fun e he => h.ro e (hs e he), h.qok, h.sorted, h.bytes, h.bound⟩

theorem BQ.ro_add (p : Pkt) (h : BQ segs closed dl nx ro q)
    (hp : DataOk segs closed p) : BQ segs closed dl nx (ro ++ [(p.id, p)]) q := by
  refine ⟨?_, h.qok, h.sorted, h.bytes, h.bound⟩
  intro e he
  simp only [List.mem_append, List.mem_singleton] at he
  rcases he with he | rfl
  · exact h.ro e he
  · exact ⟨rfl, hp⟩

theorem BQ.drain : ∀ (f nx : Nat) (ro : List (Nat × Pkt)) (q : List Pkt),
    BQ segs closed dl nx ro q →
      BQ segs closed dl (drainReorder f nx ro q).1 (drainReorder f nx ro q).2.1 (drainReorder f nx ro q).2.2 := by
  intro f
  induction f with
  | zero => intro nx ro q h; simpa [drainReorder] using h
  | succ f ih =>
    intro nx ro q h
    unfold drainReorder
    split
    · exact h
    · rename_i p hl
      have hm := mem_of_lookup hl
      have hr := h.ro _ hm
      apply ih
      apply BQ.ro_sub (h.push p hr.2 hr.1.symm)
      intro e he
      exact (List.mem_filter.mp he).1

end

def dlNote (dl : List UInt8) : Option RdEv → List UInt8
  | some (.data d) => dl ++ d
  | _ => dl

section
variable {segs : List (List UInt8)} {closed : Bool} {dl : List UInt8} {nx : Nat} {ro : List (Nat × Pkt)}
  {q q' : List Pkt} {ev : Option RdEv}

theorem BQ.qdrop (h : BQ segs closed dl nx ro q) (hq : QDrop q q') :
    BQ segs closed dl nx ro q' := by
  rcases hq with rfl | ⟨p, rest, rfl, hty, rfl⟩
  · exact h
  · have hp := h.qok p (by simp)
    have hpl : p.payload = [] := by
      rcases hp.2 with ⟨a, _⟩ | ⟨_, _, _, d⟩
      · rw [hty] at a; cases a
      · exact d
    refine ⟨h.ro, fun x hx => h.qok x (List.mem_cons_of_mem _ hx), ?_, ?_, h.bound⟩
    · have := h.sorted; simp only [List.map_cons, List.pairwise_cons] at this; exact this.2
    · have := h.bytes; simpa [hpl] using this

theorem BQ.rd (h : BQ segs closed dl nx ro q) (hr : RdOk q ev q') :
    BQ segs closed (dlNote dl ev) nx ro q' := by
  match ev, hr with
  | none, hr => exact h.qdrop hr
  | some (.data d), hr =>
    obtain ⟨hb, hs, hm⟩ := hr
    refine ⟨h.ro, ?_, h.sorted.sublist hs, ?_, h.bound⟩
    · intro p' hp'
      obtain ⟨p, hp, h1, h2, h3⟩ := hm p' hp'
      have := h.qok p hp
      refine ⟨by omega, ?_⟩
      rcases this.2 with ⟨a, b⟩ | ⟨a, b, c, d⟩
      · left; exact ⟨by rw [h2, a], by omega⟩
      · right; exact ⟨by rw [h2, a], b, by omega, by rw [h3 (by rw [h2, a]), d]⟩
    · simp only [dlNote]; rw [List.append_assoc, hb, h.bytes]
  | some (.err e), hr => exact h.qdrop hr.1

theorem BQ.eof (h : BQ segs closed dl nx ro q) (he : EofHead q) :
    dl = segs.flatten ∧ closed = true := by
  obtain ⟨pre, p, rest, rfl, hty, hpre⟩ := he
  have hp := h.qok p (by simp)
  rcases hp.2 with ⟨a, _⟩ | ⟨_, hc, hid, hpl⟩
  · rw [hty] at a; cases a
  · refine ⟨?_, hc⟩
    have hrest : rest = [] := by
      cases rest with
      | nil => rfl
      | cons x xs =>
        exfalso
        have hs := h.sorted
        simp only [List.map_append, List.map_cons, List.pairwise_append, List.pairwise_cons] at hs
        have hlt := hs.2.1.1 x.id (by simp)
        have hx := (h.qok x (by simp)).2
        rcases hx with ⟨_, b⟩ | ⟨_, _, b, _⟩ <;> omega
    have hb := h.bytes
    subst hrest
    simp only [bytesOf_append, bytesOf_cons, hpre, hpl, bytesOf_nil, List.append_nil] at hb
    rw [hb, List.take_of_length_le (by omega)]

end

/-- the fields of the socket the writer-side invariant reads are the same -/
structure WEq (s s' : TcpSock) : Prop where
  isOpen : s'.isOpen = s.isOpen
  mss : s'.mss = s.mss
  nextOut : s'.nextOut = s.nextOut
  resend : s'.resend = s.resend
  chan : s'.chan = s.chan

theorem WEq.refl (s : TcpSock) : WEq s s := ⟨rfl, rfl, rfl, rfl, rfl⟩

section writer
variable (n : NetSt) (now : Int) (name : String)

theorem tcpSendPacket_mem_s5_fwdsOf (p q : Pkt)
    (hq : q ∈ s5_fwdsOf (n.tcpSendPacket now name p).2) : ∃ bc, q = { p with bc := bc } :=
  tcpSendPacket_mem n now name p q (s5_fwdsOf_eq _ ▸ hq)

theorem tcpSendSeg_spec (hops : List String) (seg : List UInt8)
    (s : TcpSock) (hs : n.tcp? name = some s) :
    NStep n (n.tcpSendSeg now name hops seg).1 name (fun s s' => WEq { s with nextOut := s.nextOut + 1 } s') ∧
    ∀ q ∈ s5_fwdsOf (n.tcpSendSeg now name hops seg).2,
      q.id = s.nextOut ∧ q.ty = .payload ∧ q.payload = seg ∧ q.hasDrop = true := by
  refine ⟨(tcpSendSeg_step n now name hops seg).mono fun _ _ h => by rw [h]; exact ⟨rfl, rfl, rfl, rfl, rfl⟩,
    fun q hq => ?_⟩
  rw [tcpSendSeg_some n now name hops seg s hs] at hq
  obtain ⟨_, rfl⟩ := tcpSendPacket_mem_s5_fwdsOf _ _ _ _ q hq
  exact ⟨rfl, rfl, rfl, rfl⟩

theorem tcpResendOne_spec (r : NetSt × List NEff)
    (h : n.tcpResendOne now name = some r) :
    ∃ s p rest, n.tcp? name = some s ∧ s.resend = p :: rest ∧
      NStep n r.1 name (fun s s' => WEq { s with resend := rest } s') ∧
      ∀ q ∈ s5_fwdsOf r.2, q.id = p.id ∧ q.ty = p.ty ∧ q.payload = p.payload ∧ q.hasDrop = p.hasDrop := by
  obtain ⟨s, p, rest, hs, hr, _, _, rfl⟩ := tcpResendOne_some n now name r h
  refine ⟨s, p, rest, hs, hr, ?_, fun q hq => ?_⟩
  · exact (NStep.set (f := fun s s' => s' = { s with resend := rest }) hs rfl).trans (tcpSendPacket_step _ _ _ _)
      (by rintro a _ c rfl hc; rw [hc]; exact ⟨rfl, rfl, rfl, rfl, rfl⟩)
  · obtain ⟨_, rfl⟩ := tcpSendPacket_mem_s5_fwdsOf _ _ _ _ q hq
    exact ⟨rfl, rfl, rfl, rfl⟩

theorem tcpAckPost_spec (tp : TParams) (n : NetSt) (name : String) (wb : Bool) (acked : Nat) :
    NStep n (n.tcpAckPost tp name wb acked).1 name WEq := by
  cases hs : n.tcp? name with
  | none => rw [tcpAckPost_none tp n name wb acked hs]; exact NStep.refl WEq.refl
  | some s => rw [tcpAckPost_eq hs]; exact NStep.set hs ⟨rfl, rfl, rfl, rfl, rfl⟩

theorem tcpIncoming_ack_spec (tp : TParams) (n : NetSt) (now : Int) (name : String) (p : Pkt) (hp : p.ty = .ack) :
    NStep n (n.tcpIncoming tp now name p).1 name WEq ∧ s5_fwdsOf (n.tcpIncoming tp now name p).2 = []
      ∧ postsOf (n.tcpIncoming tp now name p).2 = [] := by
  cases hs : n.tcp? name with
  | none => rw [tcpIncoming_none tp n now name p hs]; exact ⟨NStep.refl WEq.refl, rfl, rfl⟩
  | some s => rw [tcpIncoming_ack hs tp now p hp]; exact ⟨NStep.set hs ⟨rfl, rfl, rfl, rfl, rfl⟩, rfl, rfl⟩

theorem tcpWriteFinish_spec (op : WriteOp) (r : Except Ec Nat) :
    NStep n (n.tcpWriteFinish name op r).1 name WEq ∧ s5_fwdsOf (n.tcpWriteFinish name op r).2 = [] := by
  cases hs : n.tcp? name with
  | none => rw [tcpWriteFinish_none n name op r hs]; exact ⟨NStep.refl WEq.refl, rfl⟩
  | some s =>
    rcases tcpWriteFinish_eq n name op r s hs with ⟨-, e⟩ | ⟨c, e, -⟩ <;> rw [e] <;>
      exact ⟨NStep.set hs ⟨rfl, rfl, rfl, rfl, rfl⟩, rfl⟩

theorem tcpAsyncWrite_spec (op : WriteOp) :
    NStep n (n.tcpAsyncWrite name op).1 name WEq ∧ s5_fwdsOf (n.tcpAsyncWrite name op).2 = [] := by
  cases hs : n.tcp? name with
  | none => rw [tcpAsyncWrite_none n name op hs]; exact ⟨NStep.refl WEq.refl, rfl⟩
  | some s =>
    rw [tcpAsyncWrite_exact hs op, s5_fwdsOf_append, (aborts_tcpAbortSendEffs s).posts.s5_fwdsOf]
    exact ⟨NStep.set hs ⟨rfl, rfl, rfl, rfl, rfl⟩, rfl⟩

theorem tcpClose_spec (s0 : TcpSock) (hs : n.tcp? name = some s0) :
    (∃ s', (n.tcpClose now name).1.tcp? name = some s' ∧ s'.isOpen = false ∧ s'.resend = [] ∧ s'.chan = none)
    ∧ (∀ k, k ≠ name → (n.tcpClose now name).1.tcp? k = n.tcp? k)
    ∧ (∀ q ∈ s5_fwdsOf (n.tcpClose now name).2,
        q.ty = .err ∧ q.id = s0.nextOut ∧ q.payload = [] ∧ q.hasDrop = false)
    ∧ (s0.chan = none → s5_fwdsOf (n.tcpClose now name).2 = []) := by
  obtain ⟨cs, -, e⟩ := tcpClose_exact n now name s0 hs
  rw [e]
  refine ⟨⟨_, tcp?_setTcp_same _ _ _, rfl, rfl, rfl⟩, fun k hk => tcp?_setTcp_other _ _ _ _ hk, ?_⟩
  dsimp only
  rw [s5_fwdsOf_append, (aborts_tcpCancelEffs s0).posts.s5_fwdsOf, List.append_nil]
  rcases tcpCloseEof_cases n now name s0 with e | ⟨cid, ch, hc, -, e⟩ <;> rw [e]
  · exact ⟨fun _ h => (nomatch h), fun _ => rfl⟩
  · rw [s5_fwdsOf_sendEffs]
    exact ⟨fun q hq => by cases List.mem_singleton.mp hq; exact ⟨rfl, rfl, rfl, rfl⟩,
      fun h => by rw [h] at hc; cases hc⟩

end writer

/-- outcome of a reader-side action on socket `name` that tells the reader `ev` -/
def BStep (segs : List (List UInt8)) (closed : Bool) (dl : List UInt8) (n n' : NetSt) (name : String)
    (ev : Option RdEv) : Prop :=
  (∃ s', n'.tcp? name = some s' ∧ BQ segs closed (dlNote dl ev) s'.nextIn s'.reorder s'.inq)
  ∧ (ev = some (.err .eof) → dl = segs.flatten ∧ closed = true)
  ∧ (∀ k, k ≠ name → n'.tcp? k = n.tcp? k)

theorem BStep.of_rd {segs closed dl} {n : NetSt} {name : String} {s s' : TcpSock} {ev : Option RdEv}
    (hq : BQ segs closed dl s.nextIn s.reorder s.inq)
    (h1 : s'.nextIn = s.nextIn) (h2 : s'.reorder = s.reorder) (h3 : RdOk s.inq ev s'.inq) :
    BStep segs closed dl n (n.setTcp name s') name ev := by
  refine ⟨⟨s', tcp?_setTcp_same _ _ _, ?_⟩, ?_, fun k hk => tcp?_setTcp_other _ _ _ _ hk⟩
  · rw [h1, h2]; exact hq.rd h3
  · intro he; subst he
    exact hq.eof (h3.2 rfl)

theorem tcpReadNb_spec {segs closed dl} (n : NetSt) (name : String) (caps : List Nat) (s : TcpSock)
    (hs : n.tcp? name = some s) (hq : BQ segs closed dl s.nextIn s.reorder s.inq) :
    BStep segs closed dl n (n.tcpReadNb name caps).1 name (rdEvOf (n.tcpReadNb name caps).2) := by
  rw [tcpReadNb_eq hs]
  obtain ⟨hnx, hro, hrd⟩ := s5_readSome_spec s s.chan.isSome caps
  exact BStep.of_rd hq hnx hro hrd

theorem tcpAsyncRead_spec {segs closed dl} (n : NetSt) (name : String) (op : ReadOp) (s : TcpSock)
    (hs : n.tcp? name = some s) (hq : BQ segs closed dl s.nextIn s.reorder s.inq) :
    BStep segs closed dl n (n.tcpAsyncRead name op).1 name (rdEvOf (s.readSome s.chan.isSome op.caps).2)
    ∧ s5_fwdsOf (n.tcpAsyncRead name op).2 = [] := by
  rw [tcpAsyncRead_eq hs]
  -- `abort_recv_handlers()` clears the handler slots only: every field below is the one of `s`
  obtain ⟨hnx, hro, hrd, hfw⟩ := s5_asyncReadImpl_spec s.abortRecv.1 op
  have hc := readSome_congr s s.abortRecv.1 s.chan.isSome op.caps rfl rfl rfl
  exact ⟨BStep.of_rd hq hnx hro (hc ▸ hrd), by rw [s5_fwdsOf_append, abortRecv_s5_fwdsOf, hfw]; rfl⟩

theorem tcpWaitRead_spec {segs closed dl} (n : NetSt) (name : String) (h : Nat) (s : TcpSock)
    (hs : n.tcp? name = some s) (hq : BQ segs closed dl s.nextIn s.reorder s.inq) :
    BStep segs closed dl n (n.tcpWaitRead name h).1 name (waitEvOf (s.available s.chan.isSome))
    ∧ s5_fwdsOf (n.tcpWaitRead name h).2 = [] := by
  rw [tcpWaitRead_eq hs]
  obtain ⟨hnx, hro, hinq, hfw⟩ := s5_asyncWaitReadImpl_spec s.abortRecv.1 h
  exact ⟨BStep.of_rd hq hnx hro (hinq ▸ RdOk.avail s _), by rw [s5_fwdsOf_append, abortRecv_s5_fwdsOf, hfw]; rfl⟩

theorem BStep.same {segs closed dl} {n : NetSt} {name : String} {s : TcpSock}
    (hs : n.tcp? name = some s) (hq : BQ segs closed dl s.nextIn s.reorder s.inq) :
    BStep segs closed dl n n name none :=
  ⟨⟨s, hs, hq⟩, (by intro h; cases h), fun _ _ => rfl⟩

/-- out of order the first insertion wins; in order the model's `tcpPreWake` is `preWake` -/
theorem tcpIncoming_data_cases (tp : TParams) (n : NetSt) (now : Int) (name : String) (p : Pkt) (s : TcpSock)
    (hs : n.tcp? name = some s) (hty : p.ty = .payload ∨ p.ty = .err) :
    (n.tcpIncoming tp now name p = (n, []) ∧ n.tcpPreWake name p = none)
    ∨ ∃ ack : Pkt, ack.ty = .ack ∧ ack.hasDrop = false ∧
      ((n.tcpPreWake name p = none ∧ n.tcpIncoming tp now name p =
          (n.setTcp name { s with reorder := if (s.reorder.lookup p.id).isSome then s.reorder
                                             else s.reorder ++ [(p.id, p)] }, [.forward ack]))
       ∨ (p.id = s.nextIn ∧ n.tcpPreWake name p = some (s.preWake p)
          ∧ n.tcpIncoming tp now name p =
              (n.setTcp name ((s.preWake p).maybeWakeupReader tp).1,
               [.forward ack] ++ ((s.preWake p).maybeWakeupReader tp).2))) := by
  rw [tcpIncoming_data hs tp now p hty]
  unfold NetSt.tcpPreWake TcpSock.rxData
  cases hc : s.chan.bind n.chan? with
  | none => exact .inl (by simp only [hs, hc, and_self])
  | some ch =>
    refine .inr ⟨ackPkt p.id (ch.hops (ch.remoteIdx s.bound)), rfl, rfl, ?_⟩
    by_cases hid : p.id = s.nextIn
    · have hb : (p.id != s.nextIn) = false := by simpa using hid
      refine .inr ⟨hid, ?_, ?_⟩
      · simp only [hs, hc, hb]; rfl
      · simp only [hb]; rfl
    · have hb : (p.id != s.nextIn) = true := by simpa using hid
      exact .inl (by simp only [hs, hc, hb]; exact ⟨rfl, rfl⟩)

theorem tcpIncoming_data_spec {segs closed dl} (tp : TParams) (n : NetSt) (now : Int) (name : String)
    (p : Pkt) (s : TcpSock) (hs : n.tcp? name = some s) (hty : p.ty = .payload ∨ p.ty = .err)
    (hp : DataOk segs closed p) (hq : BQ segs closed dl s.nextIn s.reorder s.inq) :
    BStep segs closed dl n (n.tcpIncoming tp now name p).1 name ((n.tcpPreWake name p).bind (·.wakeRead tp))
    ∧ ∀ q ∈ s5_fwdsOf (n.tcpIncoming tp now name p).2, q.ty = .ack ∧ q.hasDrop = false := by
  rcases tcpIncoming_data_cases tp n now name p s hs hty with ⟨e, hw⟩ |
    ⟨ack, ha1, ha2, ⟨hw, e⟩ | ⟨hid, hw, e⟩⟩ <;> rw [e, hw]
  · exact ⟨BStep.same hs hq, fun _ h => (nomatch h)⟩
  · refine ⟨⟨⟨_, tcp?_setTcp_same _ _ _, ?_⟩, fun h => (nomatch h), fun k hk => tcp?_setTcp_other _ _ _ _ hk⟩,
      fun q h => by cases List.mem_singleton.mp h; exact ⟨ha1, ha2⟩⟩
    dsimp only [Option.bind_none, dlNote]
    split
    · exact hq
    · exact hq.ro_add p hp
  · have hd : BQ segs closed dl (s.preWake p).nextIn (s.preWake p).reorder (s.preWake p).inq :=
      (hq.push p hp hid).drain (s.reorder.length + 1) (s.nextIn + 1) s.reorder (s.inq ++ [p])
    obtain ⟨hnx, hro, hrd, hfw⟩ := s5_maybeWakeupReader_spec tp (s.preWake p)
    refine ⟨BStep.of_rd hd hnx hro hrd, fun q h => ?_⟩
    rw [s5_fwdsOf_append, hfw] at h
    cases List.mem_singleton.mp h; exact ⟨ha1, ha2⟩

structure TcpSock.StreamEmpty (s : TcpSock) : Prop where
  inq : s.inq = []
  reorder : s.reorder = []
  resend : s.resend = []
  nextIn : s.nextIn = 0
  nextOut : s.nextOut = 0
  inFlight : s.inFlight = 0
  outstanding : s.outstanding = []
  lastDrop : s.lastDrop = 0

end SimVerif
