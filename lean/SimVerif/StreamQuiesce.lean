/-
  SimVerif.StreamQuiesce — quiescence of the open stream system (SimVerif/StreamSys.lean) and
  the side condition on drops under which property C06's quiescence clauses hold.

  * `TS.Quiescent s` : nothing can happen any more without a new API call — no packet of the
    connection is in the network (`bag = []`; the bag only ever holds packets of this
    connection: the writer's payload / end-of-stream packets and the reader's ACKs) and no
    synchronous section of the writer is in progress (`ctl = idle`). (`posts` is a ghost log of
    the completions posted; the handlers' bodies are the environment's API calls, i.e. labels.)

  * `TS.dropOk s l` : the side condition on the label `drop i`. A drop that takes effect (the
    packet carries a drop callback) must not leave the connection with NOTHING that will run
    the writer again: after removing the packet
      - the bag still holds another packet (a segment of the writer on its way — its arrival
        produces an ACK — or an ACK on its way to the writer — its arrival runs the
        retransmission loop; either may itself be dropped later only under the same
        condition), or
      - the writer is inside a synchronous section that will still send: the retransmission
        loop with an iteration to go, or the segmentation loop with a segment to go
        (`TCtl.willSend`; with nothing in flight the window has room, see `C06_window_floor`).
    WHY THIS ABSTRACTS THE PROPERTY'S SIDE CONDITION. The property restricts hand-backs to
    tail-drops by queues "each able to hold at least one full segment" with "payload flowing
    in one direction at a time" (and no foreign traffic on the route). A queue of capacity ≥ one
    segment tail-drops a segment only when it is NOT empty (`C06_tail_drop_queue_nonempty`);
    what it holds travels the same route in the same direction, hence — one direction at a time,
    no foreign traffic — is another payload segment of the same writer, still in the network:
    the bag is non-empty after the drop. (Without "one direction at a time" the queue could be
    full of the writer's own ACKs for the reverse stream: their arrival runs the PEER's
    retransmission loop, not the writer's — that is the stall the side condition excludes.)
    The condition here is weaker: it does not ask which packet remains, nor where, and it asks
    nothing of drops inside a loop that still sends.
    With unbounded queues nothing is ever dropped: histories without `drop` labels satisfy the
    condition trivially (`TS.okRun_of_noDrop`).
-/
import SimVerif.StreamSys

namespace SimVerif

def TCtl.isIdle : TCtl → Bool
  | .idle => true
  | _ => false

theorem TCtl.isIdle_iff (c : TCtl) : c.isIdle = true ↔ c = .idle := by
  cases c <;> simp [TCtl.isIdle]

instance (c : TCtl) : Decidable (c = .idle) := decidable_of_iff _ (TCtl.isIdle_iff c)

/-- the synchronous section in progress will still send a packet if the window has room -/
def TCtl.willSend : TCtl → Bool
  | .resend (_ + 1) _ _ => true
  | .segs _ _ (_ :: _) _ => true
  | _ => false

/-- the ACK path (retransmission loop, window growth, writer wake-up) is in progress -/
def TCtl.inAck : TCtl → Bool
  | .resend _ _ _ => true
  | _ => false

/-- nothing can happen without a new API call -/
def TS.Quiescent (s : TS) : Prop := s.bag = [] ∧ s.ctl = .idle

instance (s : TS) : Decidable s.Quiescent := by unfold TS.Quiescent; infer_instance

/-- the side condition on one label (see the header) -/
def TS.dropOk (s : TS) : TLbl → Prop
  | .drop i _ =>
    match s.bag[i]? with
    | some p => p.hasDrop = true → (s.bag.eraseIdx i ≠ [] ∨ s.ctl.willSend = true)
    | none => True
  | _ => True

instance (s : TS) (l : TLbl) : Decidable (s.dropOk l) := by
  cases l <;> simp only [TS.dropOk] <;> (try split) <;> infer_instance

/-- … lifted to histories -/
def TS.okRun (c : TcpCfg) (s : TS) : List TLbl → Prop
  | [] => True
  | l :: rest => s.dropOk l ∧ TS.okRun c (s.step c l) rest

instance instDecTSOkRun (c : TcpCfg) : (ls : List TLbl) → (s : TS) → Decidable (TS.okRun c s ls)
  | [], _ => isTrue trivial
  | l :: rest, s =>
    have := instDecTSOkRun c rest (s.step c l)
    by simp only [TS.okRun]; infer_instance

/-- the stronger, ctl-free form: something else of the connection is still in the network -/
def TS.dropOkStrong (s : TS) : TLbl → Prop
  | .drop i _ => i < s.bag.length → 2 ≤ s.bag.length
  | _ => True

theorem TS.dropOk_of_strong (s : TS) (l : TLbl) (h : s.dropOkStrong l) : s.dropOk l := by
  cases l with
  | drop i tr =>
    simp only [TS.dropOk]
    split
    · rename_i p hp
      intro _
      left
      have hi : i < s.bag.length := (List.getElem?_eq_some_iff.mp hp).1
      rw [List.eraseIdx_ne_nil_iff]
      exact Or.inl (h hi)
    · trivial
  | _ => trivial

/-- … lifted to histories -/
def TS.okRunStrong (c : TcpCfg) (s : TS) : List TLbl → Prop
  | [] => True
  | l :: rest => s.dropOkStrong l ∧ TS.okRunStrong c (s.step c l) rest

theorem TS.okRun_of_okRunStrong (c : TcpCfg) (ls : List TLbl) : ∀ s : TS, TS.okRunStrong c s ls → TS.okRun c s ls := by
  induction ls with
  | nil => intro s _; trivial
  | cons l rest ih => intro s h; exact ⟨TS.dropOk_of_strong s l h.1, ih _ h.2⟩

def TLbl.isDrop : TLbl → Bool
  | .drop _ _ => true
  | _ => false

theorem TS.dropOk_of_noDrop (s : TS) (l : TLbl) (h : l.isDrop = false) : s.dropOk l := by
  cases l <;> first | trivial | cases h

/-- **unbounded queues**: a history without drops satisfies the side condition -/
theorem TS.okRun_of_noDrop (c : TcpCfg) (ls : List TLbl) (h : ∀ l ∈ ls, l.isDrop = false) :
    ∀ s : TS, TS.okRun c s ls := by
  induction ls with
  | nil => intro s; trivial
  | cons l rest ih =>
    exact fun s => ⟨s.dropOk_of_noDrop l (h l List.mem_cons_self), ih (fun x hx => h x (List.mem_cons_of_mem _ hx)) _⟩

theorem TS.okRun_append (c : TcpCfg) (l1 l2 : List TLbl) : ∀ s : TS,
    TS.okRun c s (l1 ++ l2) ↔ TS.okRun c s l1 ∧ TS.okRun c (TS.run c s l1) l2 := by
  induction l1 with
  | nil => intro s; simp [TS.okRun, TS.run]
  | cons l rest ih =>
    intro s
    simp only [List.cons_append, TS.okRun, TS.run, List.foldl_cons]
    rw [ih (s.step c l)]
    simp only [TS.run, and_assoc]

/-- What the quiescence theorems need of the initial network state on top of `TcpStart`: the
    connection is established on both sides (handshake complete, both sockets attached to an
    existing channel), the writer's window account starts at zero with room for one segment
    (`0 < mss ≤ cwnd`; the handshake sets `cwnd = 2·mss`), no operation is pending. -/
structure TcpStartQ (c : TcpCfg) (n : NetSt) : Prop extends TcpStart c n where
  qa : ∃ s, n.tcp? c.a = some s ∧ s.connectH = none ∧ s.sendH = none ∧ s.inFlight = 0 ∧ s.outstanding = []
        ∧ 0 < s.mss ∧ s.mss ≤ s.cwnd ∧ ∃ cid, s.chan = some cid ∧ (n.chan? cid).isSome = true
  qb : ∃ s, n.tcp? c.b = some s ∧ s.connectH = none ∧ s.recvH = none ∧ s.waitRecvH = none
        ∧ ∃ cid, s.chan = some cid ∧ (n.chan? cid).isSome = true

end SimVerif
