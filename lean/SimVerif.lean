import SimVerif.Basic
import SimVerif.Kernel
import SimVerif.Queue
import SimVerif.QueueSys
import SimVerif.Resolver
import SimVerif.ResolverSys
import SimVerif.Net
import SimVerif.Tcp
import SimVerif.TcpAsIs
import SimVerif.Nat
import SimVerif.NetSys
import SimVerif.AcceptSys
import SimVerif.HandlerSys
import SimVerif.StreamSys
import SimVerif.TcpSys
import SimVerif.StreamQuiesce
import SimVerif.StreamNet
import SimVerif.TcpEx
import SimVerif.Pcap
import SimVerif.PcapDecode
import SimVerif.Http
import SimVerif.HttpSpec
import SimVerif.HttpFast
import SimVerif.HttpServer
import SimVerif.HttpServerSys
import SimVerif.HttpProxy
import SimVerif.HttpProxySys
import SimVerif.Socks
import SimVerif.SocksSys
import SimVerif.SocksSpec
import SimVerif.SocksStream

import SimVerif.Drv.Http
import SimVerif.Drv.Pcap
import SimVerif.Drv.Ext
import SimVerif.Drv.Kernel
import SimVerif.Drv.HttpSrv
import SimVerif.Drv.ProxySrv
import SimVerif.Drv.SocksSrv
import SimVerif.Drv.AllHooks

import SimVerif.Lemmas.Lists
import SimVerif.Lemmas.Decide
import SimVerif.Lemmas.Assoc
import SimVerif.Lemmas.UdpSend
import SimVerif.Lemmas.UdpSock
import SimVerif.Lemmas.TcpEq
import SimVerif.Lemmas.TcpMtu
import SimVerif.Lemmas.TcpRead

import SimVerif.Lemmas.KernelBasic
import SimVerif.Lemmas.KernelInv
import SimVerif.Lemmas.KernelOnce
import SimVerif.Lemmas.KernelOrder

import SimVerif.Lemmas.QueueInv

import SimVerif.Lemmas.ResolverInv

import SimVerif.Lemmas.NetBasic
import SimVerif.Lemmas.NetInv
import SimVerif.Lemmas.NetView
import SimVerif.Lemmas.NetUdp
import SimVerif.Lemmas.NetTcp
import SimVerif.Lemmas.NetRun
import SimVerif.Lemmas.UdpData

import SimVerif.Lemmas.NetTables
import SimVerif.Lemmas.AccClose
import SimVerif.Lemmas.TcpView
import SimVerif.Lemmas.AcceptInv
import SimVerif.Lemmas.AcceptStep

import SimVerif.Lemmas.TcpBasic
import SimVerif.Lemmas.StreamMoves
import SimVerif.Lemmas.TcpInv
import SimVerif.Lemmas.TcpProgress
import SimVerif.Lemmas.TcpSysInv
import SimVerif.Lemmas.TcpGhost
import SimVerif.Lemmas.StreamQuiesce
import SimVerif.Lemmas.StreamNet

import SimVerif.Lemmas.LifetimeKernel
import SimVerif.Lemmas.HandlersBasic
import SimVerif.Lemmas.Frames
import SimVerif.Lemmas.LifetimeNet
import SimVerif.Lemmas.HandlersUdp
import SimVerif.Lemmas.CapShape
import SimVerif.Lemmas.HandlersUdpSys
import SimVerif.Lemmas.HandlersTcp
import SimVerif.Lemmas.HandlersTcpNet
import SimVerif.Lemmas.LifetimeDrv
import SimVerif.Lemmas.HandlersConns
import SimVerif.Lemmas.Act
import SimVerif.Lemmas.ActFns
import SimVerif.Lemmas.HandlersTcpFns
import SimVerif.Lemmas.PcapSites
import SimVerif.Lemmas.HandlersTcpSys
import SimVerif.Lemmas.HandlersWire

import SimVerif.Lemmas.HttpMap
import SimVerif.Lemmas.HttpSearch
import SimVerif.Lemmas.HttpBasic
import SimVerif.Lemmas.HttpTrim
import SimVerif.Lemmas.HttpNormalize
import SimVerif.Lemmas.HttpRefine
import SimVerif.Lemmas.HttpParse
import SimVerif.Lemmas.HttpServerReq
import SimVerif.Lemmas.HttpServerCb
import SimVerif.Lemmas.HttpServerRun

import SimVerif.Lemmas.ProxyRewrite
import SimVerif.Lemmas.ProxyScan
import SimVerif.Lemmas.ProxyInv

import SimVerif.Lemmas.SocksBuf
import SimVerif.Lemmas.SocksTable
import SimVerif.Lemmas.SocksNeg
import SimVerif.Lemmas.SocksUdp
import SimVerif.Lemmas.SocksEff
import SimVerif.Lemmas.SocksCount
import SimVerif.Lemmas.SocksStreamSeg

import SimVerif.Props.C01
import SimVerif.Props.C02
import SimVerif.Props.C03
import SimVerif.Props.C04
import SimVerif.Props.C05
import SimVerif.Props.C06
import SimVerif.Props.C07
import SimVerif.Props.C08
import SimVerif.Props.C09
import SimVerif.Props.C10
import SimVerif.Props.C11
import SimVerif.Props.C12
import SimVerif.Props.C13
import SimVerif.Props.C14
import SimVerif.Props.C15
import SimVerif.Props.C16
import SimVerif.Props.C17
import SimVerif.Props.C18
import SimVerif.Props.C19
import SimVerif.Props.C20
